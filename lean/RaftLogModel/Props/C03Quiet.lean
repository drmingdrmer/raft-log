/-
C03 — Crash safety, complete: `c03_crash_prefix_partial` and `c03_acked_writes_survive_partial`
(`Props/C03.lean`) without their two hypotheses.

* `hBA : B ≤ A` follows from "no chunk removal outstanding" (`c03_quiet_spec`, `c03_quiet_linked`: what that says):
  the marker `B` is that of the newest dropped chunk whose file is still linked, or of the last one unlinked, and
  in every reachable state `B ≤ A`, or `s.removed ≠ []`, or the worker cannot unlink what it has left to unlink
  before a batch containing a write with `upto ≥ B` is synced (`c03_marker_invariant`,
  `c03_marker_acked_when_quiet`). `c03_crash_prefix_quiet`, `c03_acked_writes_survive_quiet`.
* No hypothesis on outstanding removals. The ghost store of a reachable state is its store with the dropped chunks
  whose files are still linked put back in front of the chunk table (`Store.liftC3b`); the invariants of
  `Props/C03.lean` hold for it (`GInvC3b`), with a marker that is always acknowledged: a file is unlinked only
  after the purge record that made it obsolete is. `c03_linked_files`: its chunks are the linked files;
  `c03_recovered_is_linked_journal_prefix`; `c03_crash_prefix`, `c03_acked_writes_survive` (the callback form
  also asks that no other flush before the acknowledging step uses the same callback id, `hfresh`).
-/
import RaftLogModel.Props.C03
import RaftLogModel.Proofs.GhostHist
import RaftLogModel.Proofs.OpDecide
import RaftLogModel.Proofs.Eval
namespace RaftLog

/-- What `worker.toRemove = []` says: nothing postponed, no `unlink` in progress,
and every `removeChunks` request taken from the channel but not handled yet (the
request at the gate, or the request that ended the batch in hand) or still queued
carries no id. -/
theorem c03_quiet_spec (w : Worker) :
    w.toRemove = [] ↔
      w.postponed = [] ∧ (∀ ids, w.pc = .unlinking ids → ids = []) ∧
      (∀ ids, WReq.removeChunks ids ∈ w.pc.inHand ++ w.queue → ids = []) := by
  have hrm : ∀ l : List WReq, rmIds l = [] ↔ ∀ ids, WReq.removeChunks ids ∈ l → ids = [] := by
    intro l
    induction l with
    | nil => simp [rmIds]
    | cons r q ih =>
      cases r with
      | write u d cb => simp [rmIds, ih]
      | appendFile n p => simp [rmIds, ih]
      | removeChunks ids =>
        simp only [rmIds, List.append_eq_nil_iff, ih, List.mem_cons, WReq.removeChunks.injEq]
        constructor
        · rintro ⟨h1, h2⟩ ids' (e | e)
          · rw [e]; exact h1
          · exact h2 ids' e
        · intro h
          exact ⟨h ids (Or.inl rfl), fun ids' e => h ids' (Or.inr e)⟩
  have hunl : w.pc.unl = [] ↔ ∀ ids, w.pc = .unlinking ids → ids = [] := by
    cases hpc : w.pc <;> simp [WPc.unl]
  simp only [Worker.toRemove, List.append_eq_nil_iff, hrm, hunl, and_assoc]

/-- With no removal outstanding, the linked files are exactly the live chunks:
every file of a dropped chunk has been unlinked. -/
theorem c03_quiet_linked (cfg : Cfg) (steps : List Step) (r : RefLog) (s : Store)
    (hsteps : ∀ st ∈ steps, st.journal = true)
    (hlegal : RefLog.run {} (stepOps steps) = some r)
    (hwf : ∀ op ∈ stepOps steps, op.WF ∧ op.small)
    (halive : ((Sys.fresh cfg).run steps).worker.pc ≠ .dead)
    (hs : ((Sys.fresh cfg).run steps).store = some s)
    (hrem : s.removed = []) (htr : ((Sys.fresh cfg).run steps).worker.toRemove = []) :
    ((Sys.fresh cfg).run steps).fs.linkedIds = s.closed.map Closed.id ++ [s.openId] := by
  obtain ⟨hi, hli⟩ := (reach_HSys cfg steps r hsteps hlegal hwf halive).of_store hs
  rw [← Store.chunkIds_eq]
  exact hli.linkedIds_eq hi.inv.j hrem htr

/-- **The marker invariant**, for every state reached by a legal history from a
freshly opened store (worker alive): with `B` the marker (`Sys.markRun`: the
journal end right after the last purge that dropped chunks; 0 if none) and `A`
the acknowledged position (`Sys.ackRun`),

* `B ≤ A`, or
* the store still holds a removal list (`s.removed ≠ []`: the purge was not
  followed by a flush yet), or
* the worker is guarded for `B`: its unhandled requests are `pre ++ suf` where
  `suf` starts with a write, all writes of `suf` have `upto ≥ B` and `suf` contains
  a removal request with ids; or all unhandled writes have `upto ≥ B`, the worker is
  safe (the batch in hand contains a write with `upto ≥ B`, or no batch is in hand
  and the last sync failed, so removals are postponed) and something is left to
  remove (postponed ids, or a queued removal request with ids).

In the last two cases something is still scheduled for removal. -/
theorem c03_marker_invariant (cfg : Cfg) (steps : List Step) (r : RefLog)
    (hsteps : ∀ st ∈ steps, st.journal = true)
    (hlegal : RefLog.run {} (stepOps steps) = some r)
    (hwf : ∀ op ∈ stepOps steps, op.WF ∧ op.small)
    (halive : ((Sys.fresh cfg).run steps).worker.pc ≠ .dead) :
    let y := (Sys.fresh cfg).run steps
    let B := (Sys.fresh cfg).markRun steps 0
    let A := (Sys.fresh cfg).ackRun steps 0
    ∃ s, y.store = some s ∧
      (B ≤ A ∨ s.removed ≠ [] ∨
        ((∃ pre suf, y.worker.pc.inHand ++ y.worker.queue = pre ++ suf ∧
            (∀ q ∈ suf, q.isWrite = true → B ≤ q.upto) ∧ (∃ q0 rest, suf = q0 :: rest ∧ q0.isWrite = true) ∧
            rmIds suf ≠ []) ∨
         ((∀ q ∈ y.worker.pc.inHand ++ y.worker.queue, q.isWrite = true → B ≤ q.upto) ∧
            PcSafeC3b B y.worker ∧
            (y.worker.postponed ≠ [] ∨ rmIds (y.worker.pc.inHand ++ y.worker.queue) ≠ [])))) ∧
      ((s.removed ≠ [] ∨ WGuardC3b B y.worker) → s.removed ≠ [] ∨ y.worker.toRemove ≠ []) := by
  intro y B A
  obtain ⟨s, Bh, gs, q⟩ := reach_ghost_C3b cfg steps r hsteps hlegal hwf halive
  have hm := q.ginv.marker
  rw [q.marker] at hm
  refine ⟨s, q.store, hm, ?_⟩
  rintro (h | h)
  · exact Or.inl h
  · exact Or.inr h.toRemove_ne

/-- What "safe for `B`" means, by control state of the worker. -/
theorem c03_pcSafe_spec (B : Nat) (w : Worker) :
    PcSafeC3b B w ↔
      match w.pc with
      | .writing _ b _ => ∃ q ∈ b, B ≤ q.upto
      | .syncOld b _ => ∃ q ∈ b, B ≤ q.upto
      | .syncNew b _ => ∃ q ∈ b, B ≤ q.upto
      | _ => w.lastSyncFailed = true := Iff.rfl

/-- **No removal outstanding ⇒ the marker is acknowledged.** Along every
legal history from a freshly opened store (calls legal and accepted by the
reference log, well-formed, small; flushes; worker steps of any outcome;
`workerIdle`; `drain`; worker alive at the end): if the store's removal list is
empty and the worker has nothing left to unlink (`c03_quiet_spec`), then the
journal end right after the last purge that dropped chunks is at or below the
acknowledged position. -/
theorem c03_marker_acked_when_quiet (cfg : Cfg) (steps : List Step) (r : RefLog) (s : Store)
    (hsteps : ∀ st ∈ steps, st.journal = true)
    (hlegal : RefLog.run {} (stepOps steps) = some r)
    (hwf : ∀ op ∈ stepOps steps, op.WF ∧ op.small)
    (halive : ((Sys.fresh cfg).run steps).worker.pc ≠ .dead)
    (hs : ((Sys.fresh cfg).run steps).store = some s)
    (hrem : s.removed = []) (htr : ((Sys.fresh cfg).run steps).worker.toRemove = []) :
    (Sys.fresh cfg).markRun steps 0 ≤ (Sys.fresh cfg).ackRun steps 0 := by
  obtain ⟨s0, Bh, gs, q⟩ := reach_ghost_C3b cfg steps r hsteps hlegal hwf halive
  cases hs.symm.trans q.store
  have hm := q.ginv.marker
  rw [q.marker] at hm
  rcases hm with k | k | k
  · exact k
  · exact absurd hrem k
  · exact absurd htr k.toRemove_ne

/-- **C03, combined, whenever no chunk removal is outstanding.** The history is
split as `pre ++ post` (any split). The final state is reached from a freshly
opened store by a legal history (calls legal and accepted by the reference log,
well-formed, small; flushes; worker steps of any outcome; `workerIdle`; `drain`),
the worker is alive, and no chunk removal is outstanding (`s.removed = []`, the
worker has nothing to unlink: `c03_quiet_spec`). `img` is any crash image of the
directory, `cfg'` any configuration. If `openStore cfg' img` returns `ok` with
store `s'`, then there are `n` and a reference log `r'` such that

* the first `n` entry-level writes of the history are accepted and reach `r'`;
* `s'.st = r'.state` and the index keys of `s'.log` are those of `r'.entries`;
* (lower bound, in writes) if the journal end at the end of `pre` is at or below
  the acknowledged position `A`, then `n` is at least the number of entry-level
  writes issued during `pre`;
* (lower bound, in journal positions) `n ≥ N0 + cntW Q` for every prefix `Q` of
  the retained journal that ends at or below `A`.

No hypothesis on the marker: `B ≤ A` is proved (`c03_marker_acked_when_quiet`). -/
theorem c03_crash_prefix_quiet (cfg cfg' : Cfg) (pre post : List Step) (r : RefLog) (s : Store)
    (hsteps : ∀ st ∈ pre ++ post, st.journal = true)
    (hlegal : RefLog.run {} (stepOps (pre ++ post)) = some r)
    (hwf : ∀ op ∈ stepOps (pre ++ post), op.WF ∧ op.small)
    (halive : ((Sys.fresh cfg).run (pre ++ post)).worker.pc ≠ .dead)
    (hs : ((Sys.fresh cfg).run (pre ++ post)).store = some s)
    (hrem : s.removed = []) (htr : ((Sys.fresh cfg).run (pre ++ post)).worker.toRemove = [])
    (img : Fs) (hc : CrashImage ((Sys.fresh cfg).run (pre ++ post)).fs img)
    (s' : Store) (w' : Worker) (fs' : Fs) (evs : List Ev)
    (hopen : openStore cfg' img = (.ok (s', w'), fs', evs)) :
    let y := (Sys.fresh cfg).run (pre ++ post)
    let W := expandOps {} (stepOps (pre ++ post))
    let A := (Sys.fresh cfg).ackRun (pre ++ post) 0
    ∃ n r', RefLog.run {} (W.take n) = some r' ∧ s'.st = r'.state ∧
      logKeys s'.log = entKeys r'.entries ∧
      (∀ s1, ((Sys.fresh cfg).run pre).store = some s1 → s1.openEnd ≤ A →
        (expandOps {} (stepOps pre)).length ≤ n) ∧
      ∃ jc jo N0, RepG s y.fs y.worker jc jo ∧ W.length = N0 + cntW (allOps s jc jo) ∧
        ∀ Q, Q <+: allOps s jc jo → s.jstart + sizeSum Q ≤ A → N0 + cntW Q ≤ n :=
  c03_crash_prefix_partial cfg cfg' pre post r s hsteps hlegal hwf halive hs hrem htr
    (c03_marker_acked_when_quiet cfg (pre ++ post) r s hsteps hlegal hwf halive hs hrem htr)
    img hc s' w' fs' evs hopen

/-- **C03 with the callback, whenever no chunk removal is outstanding.** History
`pre ++ [flush (some i)] ++ mid ++ [st] ++ post` of legal journal steps from a
freshly opened store, worker alive at the end; callback `i` is used by no other
flush before `st`, and the worker thread emits `Ev.cb i true` during step `st`;
at the end no chunk removal is outstanding. Then for every crash image `img` of
the final directory and every configuration `cfg'`: if `openStore cfg' img`
succeeds with store `s'`, then `s'.st` and the index keys of `s'.log` are those of
the reference log after the first `n` entry-level writes of the history, for some
`n` that is at least the number of writes issued before that flush. -/
theorem c03_acked_writes_survive_quiet (cfg cfg' : Cfg) (pre mid post : List Step) (i : Nat)
    (st : Step) (r : RefLog) (s : Store)
    (hsteps : ∀ x ∈ pre ++ ([.flush (some i)] ++ mid ++ [st] ++ post), x.journal = true)
    (hlegal : RefLog.run {} (stepOps (pre ++ ([.flush (some i)] ++ mid ++ [st] ++ post))) = some r)
    (hwf : ∀ op ∈ stepOps (pre ++ ([.flush (some i)] ++ mid ++ [st] ++ post)), op.WF ∧ op.small)
    (halive : ((Sys.fresh cfg).run (pre ++ ([.flush (some i)] ++ mid ++ [st] ++ post))).worker.pc ≠ .dead)
    (hfresh : ∀ x ∈ pre ++ mid, x ≠ .flush (some i))
    (hcb : Ev.cb i true ∈ ((Sys.fresh cfg).run (pre ++ [.flush (some i)] ++ mid)).stepEvs st)
    (hs : ((Sys.fresh cfg).run (pre ++ ([.flush (some i)] ++ mid ++ [st] ++ post))).store = some s)
    (hrem : s.removed = [])
    (htr : ((Sys.fresh cfg).run (pre ++ ([.flush (some i)] ++ mid ++ [st] ++ post))).worker.toRemove = [])
    (img : Fs)
    (hc : CrashImage ((Sys.fresh cfg).run (pre ++ ([.flush (some i)] ++ mid ++ [st] ++ post))).fs img)
    (s' : Store) (w' : Worker) (fs' : Fs) (evs : List Ev)
    (hopen : openStore cfg' img = (.ok (s', w'), fs', evs)) :
    let W := expandOps {} (stepOps (pre ++ ([.flush (some i)] ++ mid ++ [st] ++ post)))
    ∃ n r', RefLog.run {} (W.take n) = some r' ∧ s'.st = r'.state ∧
      logKeys s'.log = entKeys r'.entries ∧ (expandOps {} (stepOps pre)).length ≤ n :=
  c03_acked_writes_survive_partial cfg cfg' pre mid post i st r s hsteps hlegal hwf halive hfresh hcb
    hs hrem htr
    (c03_marker_acked_when_quiet cfg _ r s hsteps hlegal hwf halive hs hrem htr)
    img hc s' w' fs' evs hopen

/-- Chunks hold five records. Four appends fill chunk 0 (`State`, four `Append`s)
and rotate to chunk 151; a flush; `purge (1,3)` journals its record into chunk 151
and drops chunk 0 from the chunk table (marker `B` = 213 = the journal end after
the call); the flush with callback 9 sends `write upto=213` and
`removeChunks [0]`; the worker writes, syncs (acknowledged position `A` = 213,
callback 9 positive) and unlinks chunk 0. Then a `commit` whose record is only
partly written (a short write of 5 of its 28 bytes, not synced) and a `saveVote`
that is still in the pending buffer. -/
def c03QuietExample : List Step :=
  [ .call (.append [(⟨1, 0⟩, [1]), (⟨1, 1⟩, [2]), (⟨1, 2⟩, [3]), (⟨1, 3⟩, [4, 4])]),
    .flush none,
    .workerIdle,
    .call (.purge ⟨1, 3⟩),
    .flush (some 9),
    .workerIdle,
    .call (.commit ⟨1, 3⟩),
    .flush none,
    .worker .ok,
    .worker (.short 5),
    .call (.saveVote ⟨2, 1⟩) ]

/-- The hypotheses of `c03_crash_prefix_quiet` (any split) and of
`c03_acked_writes_survive_quiet` hold for it: steps of the kinds covered, ops legal,
well-formed and small, worker alive, nothing scheduled for removal — and a chunk
HAS been dropped: the oldest live chunk is chunk 151, the file of chunk 0 is
unlinked. Chunk 151: 67 bytes written, 62 durable; 28 bytes pending. Marker and
acknowledged position are both 213. -/
example :
    (∀ st ∈ c03QuietExample, st.journal = true) ∧
    (RefLog.run {} (stepOps c03QuietExample)).isSome = true ∧
    (∀ op ∈ stepOps c03QuietExample, op.WF ∧ op.small) ∧
    ((Sys.fresh { maxRecords := 5 }).run c03QuietExample).worker.pc ≠ .dead ∧
    ((Sys.fresh { maxRecords := 5 }).run c03QuietExample).store.map
      (fun s => (s.removed, s.jstart, s.closed, s.openId, s.openEnd, s.pending.length))
        = some ([], 151, [], 151, 269, 28) ∧
    ((Sys.fresh { maxRecords := 5 }).run c03QuietExample).worker.toRemove = [] ∧
    ((Sys.fresh { maxRecords := 5 }).run c03QuietExample).fs.map
      (fun f => (f.id, f.data.length, f.durable, f.linked)) = [(0, 151, 151, false), (151, 67, 62, true)] ∧
    (Sys.fresh { maxRecords := 5 }).markRun c03QuietExample 0 = 213 ∧
    (Sys.fresh { maxRecords := 5 }).ackRun c03QuietExample 0 = 213 := by
  -- the instance of the whole conjunction is too large to be found in one piece
  exact and_of_decide (and_of_decide (and_of_decide (and_of_decide (and_of_decide (and_of_decide
    (and_of_decide (and_of_decide of_decide_eq_true))))))) (by decide +kernel)

/-- Right after the purge (before the flush) the marker is NOT acknowledged
(`B` = 213 > `A` = 185) — and the removal list is not empty; after the flush
(before the worker runs) still `B > A`, and the removal request is queued. -/
example :
    (Sys.fresh { maxRecords := 5 }).markRun (c03QuietExample.take 4) 0 = 213 ∧
    (Sys.fresh { maxRecords := 5 }).ackRun (c03QuietExample.take 4) 0 = 185 ∧
    ((Sys.fresh { maxRecords := 5 }).run (c03QuietExample.take 4)).store.map (·.removed) = some [0] ∧
    (Sys.fresh { maxRecords := 5 }).ackRun (c03QuietExample.take 5) 0 = 185 ∧
    ((Sys.fresh { maxRecords := 5 }).run (c03QuietExample.take 5)).store.map (·.removed) = some [] ∧
    ((Sys.fresh { maxRecords := 5 }).run (c03QuietExample.take 5)).worker.toRemove = [0] := by
  decide +kernel

/-- The three crash images of the final directory used below, and what `open` returns on each. -/
theorem c03QuietExample_crashes :
    (cutOK ((Sys.fresh { maxRecords := 5 }).run c03QuietExample).fs [(67, 0)] = true ∧
      cutOK ((Sys.fresh { maxRecords := 5 }).run c03QuietExample).fs [(62, 0)] = true ∧
      cutOK ((Sys.fresh { maxRecords := 5 }).run c03QuietExample).fs [(62, 3)] = true) ∧
    c03View (openStore {} (cutCrash ((Sys.fresh { maxRecords := 5 }).run c03QuietExample).fs
        [(67, 0)])).1 = some (⟨none, some ⟨1, 3⟩, none, some ⟨1, 3⟩, none⟩, []) ∧
    c03View (openStore {} (cutCrash ((Sys.fresh { maxRecords := 5 }).run c03QuietExample).fs
        [(62, 0)])).1 = some (⟨none, some ⟨1, 3⟩, none, some ⟨1, 3⟩, none⟩, []) ∧
    c03View (openStore {} (cutCrash ((Sys.fresh { maxRecords := 5 }).run c03QuietExample).fs
        [(62, 3)])).1 = some (⟨none, some ⟨1, 3⟩, none, some ⟨1, 3⟩, none⟩, []) ∧
    c03IsEof (openStore { truncate := false }
      (cutCrash ((Sys.fresh { maxRecords := 5 }).run c03QuietExample).fs [(67, 0)])).1 = true := by
  decide +kernel

/-- Three crash images of the final directory (only chunk 151 is linked): a process
crash (the torn `commit` record survives as 5 bytes), the worst power failure
(chunk 151 cut to its 62 durable bytes), and a power failure that leaves 3 zero
bytes after the record boundary 62. -/
example :
    CrashImage ((Sys.fresh { maxRecords := 5 }).run c03QuietExample).fs
      (cutCrash ((Sys.fresh { maxRecords := 5 }).run c03QuietExample).fs [(67, 0)]) ∧
    CrashImage ((Sys.fresh { maxRecords := 5 }).run c03QuietExample).fs
      (cutCrash ((Sys.fresh { maxRecords := 5 }).run c03QuietExample).fs [(62, 0)]) ∧
    CrashImage ((Sys.fresh { maxRecords := 5 }).run c03QuietExample).fs
      (cutCrash ((Sys.fresh { maxRecords := 5 }).run c03QuietExample).fs [(62, 3)]) :=
  ⟨cutCrash_image _ _ c03QuietExample_crashes.1.1, cutCrash_image _ _ c03QuietExample_crashes.1.2.1,
    cutCrash_image _ _ c03QuietExample_crashes.1.2.2⟩

/-- `open` (default configuration) succeeds on each of them and returns the state
and index keys of the reference log after the first five entry-level writes — the
four appends and `purge (1,3)`, the writes before the acknowledged flush; the
`commit` and the `saveVote` are lost. With `truncate = false` the process-crash
image is refused (`eof`). -/
example :
    (expandOps {} (stepOps c03QuietExample)).length = 7 ∧
    (expandOps {} (stepOps (c03QuietExample.take 4))).length = 5 ∧
    (RefLog.run {} ((expandOps {} (stepOps c03QuietExample)).take 5)).map
        (fun r' => (r'.state, entKeys r'.entries)) =
      some (⟨none, some ⟨1, 3⟩, none, some ⟨1, 3⟩, none⟩, []) := by
  decide +kernel

example :
    c03View (openStore {} (cutCrash ((Sys.fresh { maxRecords := 5 }).run c03QuietExample).fs
        [(67, 0)])).1 = some (⟨none, some ⟨1, 3⟩, none, some ⟨1, 3⟩, none⟩, []) :=
  c03QuietExample_crashes.2.1

example :
    c03View (openStore {} (cutCrash ((Sys.fresh { maxRecords := 5 }).run c03QuietExample).fs
        [(62, 0)])).1 = some (⟨none, some ⟨1, 3⟩, none, some ⟨1, 3⟩, none⟩, []) :=
  c03QuietExample_crashes.2.2.1

example :
    c03View (openStore {} (cutCrash ((Sys.fresh { maxRecords := 5 }).run c03QuietExample).fs
        [(62, 3)])).1 = some (⟨none, some ⟨1, 3⟩, none, some ⟨1, 3⟩, none⟩, []) :=
  c03QuietExample_crashes.2.2.2.1

example :
    c03IsEof (openStore { truncate := false }
      (cutCrash ((Sys.fresh { maxRecords := 5 }).run c03QuietExample).fs [(67, 0)])).1 = true :=
  c03QuietExample_crashes.2.2.2.2

/-- The callback hypotheses of `c03_acked_writes_survive_quiet` hold for the same
history: callback 9 is used by one flush only, the `workerIdle` step after it
emits `Ev.cb 9 true`; the journal end at that flush is 213 = the marker. -/
example :
    c03QuietExample =
      [.call (.append [(⟨1, 0⟩, [1]), (⟨1, 1⟩, [2]), (⟨1, 2⟩, [3]), (⟨1, 3⟩, [4, 4])]), .flush none,
        .workerIdle, .call (.purge ⟨1, 3⟩)]
      ++ ([.flush (some 9)] ++ [] ++ [.workerIdle] ++
      [.call (.commit ⟨1, 3⟩), .flush none, .worker .ok, .worker (.short 5), .call (.saveVote ⟨2, 1⟩)]) ∧
    (((Sys.fresh { maxRecords := 5 }).run
      [.call (.append [(⟨1, 0⟩, [1]), (⟨1, 1⟩, [2]), (⟨1, 2⟩, [3]), (⟨1, 3⟩, [4, 4])]), .flush none,
        .workerIdle, .call (.purge ⟨1, 3⟩)]).store.map Store.openEnd) = some 213 ∧
    Ev.cb 9 true ∈ ((Sys.fresh { maxRecords := 5 }).run
      ([.call (.append [(⟨1, 0⟩, [1]), (⟨1, 1⟩, [2]), (⟨1, 2⟩, [3]), (⟨1, 3⟩, [4, 4])]), .flush none,
        .workerIdle, .call (.purge ⟨1, 3⟩)] ++ [.flush (some 9)] ++ [])).stepEvs .workerIdle := by
  refine ⟨rfl, by decide +kernel⟩

/-- **Which files are linked.** Along every legal history there is a list `dropped` of
closed chunks (dropped from the chunk table by purges, oldest first) such that

* the linked files are exactly `dropped` followed by the live chunks (closed chunks,
  then the open chunk), in ascending order of ids;
* the ids the worker still has to unlink (postponed, being unlinked, named by removal
  requests in hand or queued — in the order they will be unlinked) followed by the
  store's removal list are exactly the ids of `dropped`: files are unlinked oldest
  first, the linked files are a consecutive run of chunks ending in the live ones;
* the replay invariant holds for the store with `dropped` put back (witnesses `jc`,
  `jo`: the records of every linked chunk; each file is a byte prefix of its chunk's
  encoding), and every linked chunk file is durable up to the acknowledged position `A`
  or to its end. -/
theorem c03_linked_files (cfg : Cfg) (steps : List Step) (r : RefLog)
    (hsteps : ∀ st ∈ steps, st.journal = true)
    (hlegal : RefLog.run {} (stepOps steps) = some r)
    (hwf : ∀ op ∈ stepOps steps, op.WF ∧ op.small)
    (halive : ((Sys.fresh cfg).run steps).worker.pc ≠ .dead) :
    let y := (Sys.fresh cfg).run steps
    let A := (Sys.fresh cfg).ackRun steps 0
    ∃ s dropped, y.store = some s ∧
      y.fs.linkedIds = dropped.map Closed.id ++ (s.closed.map Closed.id ++ [s.openId]) ∧
      y.worker.toRemove ++ s.removed = dropped.map Closed.id ∧
      ∃ jc jo, RepG (s.liftC3b dropped) y.fs y.worker jc jo ∧
        ∀ p ∈ liveChunksC3 (s.liftC3b dropped) jc jo, ∀ f, y.fs.find p.1.id = some f →
          min (encAll p.2).length (A - p.1.id) ≤ f.durable := by
  intro y A
  obtain ⟨s, Bh, gs, q⟩ := reach_ghost_C3b cfg steps r hsteps hlegal hwf halive
  obtain ⟨jc, jo, g, _⟩ := q.ginv.base.hist
  refine ⟨s, ghostClosedC3b gs, q.store, ?_, q.ginv.order, jc, jo, g, q.ginv.base.dur.live_durable_C3 g⟩
  rw [← Store.chunkIds_eq]
  exact q.ginv.linkedIds q.linv

/-- What the ghost store is. -/
theorem c03_ghost_store_spec (s : Store) (dropped : List Closed) :
    s.liftC3b dropped = { s with closed := dropped ++ s.closed } := rfl

/-- **S2 without "no removal outstanding".** For every state reached by a legal history,
every crash image `img` of its directory and every configuration `cfg'`: if
`openStore cfg' img` succeeds with store `s'`, then `s'.st` and `s'.log` are the replay
of a prefix `P` of the journal of the ghost store — the records of the dropped chunks
whose files are still linked, followed by the retained journal — and `P` contains every
prefix of that journal that ends at or below the acknowledged position. -/
theorem c03_recovered_is_linked_journal_prefix (cfg cfg' : Cfg) (steps : List Step) (r : RefLog)
    (hsteps : ∀ st ∈ steps, st.journal = true)
    (hlegal : RefLog.run {} (stepOps steps) = some r)
    (hwf : ∀ op ∈ stepOps steps, op.WF ∧ op.small)
    (halive : ((Sys.fresh cfg).run steps).worker.pc ≠ .dead)
    (img : Fs) (hc : CrashImage ((Sys.fresh cfg).run steps).fs img)
    (s' : Store) (w' : Worker) (fs' : Fs) (evs : List Ev)
    (hopen : openStore cfg' img = (.ok (s', w'), fs', evs)) :
    let y := (Sys.fresh cfg).run steps
    let A := (Sys.fresh cfg).ackRun steps 0
    ∃ s dropped jc jo, y.store = some s ∧ RepG (s.liftC3b dropped) y.fs y.worker jc jo ∧
      ∃ P, P <+: allOps (s.liftC3b dropped) jc jo ∧ stRun (P.map (·.r)) {} = some s'.st ∧
        idxRun P [] = some s'.log ∧
        ∀ Q, Q <+: allOps (s.liftC3b dropped) jc jo →
          (s.liftC3b dropped).jstart + sizeSum Q ≤ A → Q <+: P := by
  intro y A
  obtain ⟨s, Bh, gs, ⟨hs, h, hli, _, _⟩⟩ := reach_ghost_C3b cfg steps r hsteps hlegal hwf halive
  obtain ⟨jc, jo, g, _⟩ := h.base.hist
  have hlinked : y.fs.linkedIds = (s.liftC3b (ghostClosedC3b gs)).chunkIds := by
    rw [liftC3b_chunkIds]; exact h.linkedIds hli
  obtain ⟨P, hP, q1, q2, q3⟩ := crash_open_prefix_of_live_C3 g h.base.inv.j (h.live hli) hlinked hc cfg' A
    (h.base.dur.live_durable_C3 g) hopen
  exact ⟨s, ghostClosedC3b gs, jc, jo, hs, g, P, hP, q1, q2, q3⟩

/-- **C03, combined — complete.** The history is split as `pre ++ post` (any split;
think of `pre` as the history up to a flush). The final state is reached from a freshly
opened store by a legal history (calls legal and accepted by the reference log,
well-formed, small; flushes; worker steps of any outcome; `workerIdle`; `drain`) and the
worker is alive. NO hypothesis on outstanding chunk removals and none on the marker.
`img` is any crash image of the directory, `cfg'` any configuration. If
`openStore cfg' img` returns `ok` with store `s'`, then there are `n` and a reference
log `r'` such that

* the first `n` entry-level writes of the history are accepted and reach `r'`;
* `s'.st = r'.state` and the index keys of `s'.log` are those of `r'.entries`;
* if the journal end at the end of `pre` is at or below the acknowledged position `A`
  (`Sys.ackRun`), then `n` is at least the number of entry-level writes issued during
  `pre`: the recovered prefix contains all of them. -/
theorem c03_crash_prefix (cfg cfg' : Cfg) (pre post : List Step) (r : RefLog)
    (hsteps : ∀ st ∈ pre ++ post, st.journal = true)
    (hlegal : RefLog.run {} (stepOps (pre ++ post)) = some r)
    (hwf : ∀ op ∈ stepOps (pre ++ post), op.WF ∧ op.small)
    (halive : ((Sys.fresh cfg).run (pre ++ post)).worker.pc ≠ .dead)
    (img : Fs) (hc : CrashImage ((Sys.fresh cfg).run (pre ++ post)).fs img)
    (s' : Store) (w' : Worker) (fs' : Fs) (evs : List Ev)
    (hopen : openStore cfg' img = (.ok (s', w'), fs', evs)) :
    let W := expandOps {} (stepOps (pre ++ post))
    let A := (Sys.fresh cfg).ackRun (pre ++ post) 0
    ∃ n r', RefLog.run {} (W.take n) = some r' ∧ s'.st = r'.state ∧
      logKeys s'.log = entKeys r'.entries ∧
      (∀ s1, ((Sys.fresh cfg).run pre).store = some s1 → s1.openEnd ≤ A →
        (expandOps {} (stepOps pre)).length ≤ n) := by
  intro W A
  obtain ⟨s1, hs1, hh, hg⟩ := reach_ghost_at_C3b cfg pre post r hsteps hlegal hwf halive
  obtain ⟨n, r', k1, k2, k3, k4⟩ := crash_prefix_ghost_C3b hh hg hc cfg' hopen
  refine ⟨n, r', k1, k2, k3, ?_⟩
  intro s1' hs1' hle
  rw [hs1] at hs1'; cases hs1'
  exact k4 hle

/-- **C03 with the callback — complete.** History
`pre ++ [flush (some i)] ++ mid ++ [st] ++ post` of legal journal steps from a freshly
opened store, worker alive at the end; callback `i` is used by no other flush before
`st`, and the worker thread emits `Ev.cb i true` during step `st`. Then for every crash
image `img` of the final directory and every configuration `cfg'`: if
`openStore cfg' img` succeeds with store `s'`, then `s'.st` and the index keys of
`s'.log` are those of the reference log after the first `n` entry-level writes of the
history, for some `n` that is at least the number of writes issued before that flush.
No hypothesis on outstanding chunk removals. -/
theorem c03_acked_writes_survive (cfg cfg' : Cfg) (pre mid post : List Step) (i : Nat)
    (st : Step) (r : RefLog)
    (hsteps : ∀ x ∈ pre ++ ([.flush (some i)] ++ mid ++ [st] ++ post), x.journal = true)
    (hlegal : RefLog.run {} (stepOps (pre ++ ([.flush (some i)] ++ mid ++ [st] ++ post))) = some r)
    (hwf : ∀ op ∈ stepOps (pre ++ ([.flush (some i)] ++ mid ++ [st] ++ post)), op.WF ∧ op.small)
    (halive : ((Sys.fresh cfg).run (pre ++ ([.flush (some i)] ++ mid ++ [st] ++ post))).worker.pc ≠ .dead)
    (hfresh : ∀ x ∈ pre ++ mid, x ≠ .flush (some i))
    (hcb : Ev.cb i true ∈ ((Sys.fresh cfg).run (pre ++ [.flush (some i)] ++ mid)).stepEvs st)
    (img : Fs)
    (hc : CrashImage ((Sys.fresh cfg).run (pre ++ ([.flush (some i)] ++ mid ++ [st] ++ post))).fs img)
    (s' : Store) (w' : Worker) (fs' : Fs) (evs : List Ev)
    (hopen : openStore cfg' img = (.ok (s', w'), fs', evs)) :
    let W := expandOps {} (stepOps (pre ++ ([.flush (some i)] ++ mid ++ [st] ++ post)))
    ∃ n r', RefLog.run {} (W.take n) = some r' ∧ s'.st = r'.state ∧
      logKeys s'.log = entKeys r'.entries ∧ (expandOps {} (stepOps pre)).length ≤ n := by
  intro W
  obtain ⟨n, r', k1, k2, k3, k4⟩ :=
    c03_crash_prefix cfg cfg' pre _ r hsteps hlegal hwf halive img hc s' w' fs' evs hopen
  obtain ⟨s1, hs1, hle⟩ := acked_flush_end_C3 cfg pre mid post i st hsteps halive hfresh hcb
  exact ⟨n, r', k1, k2, k3, k4 s1 hs1 hle⟩

/-- Chunks hold three records. Two appends fill chunk 0 and rotate to chunk 84; flush,
worker idle; `purge (1,1)` journals its record into chunk 84 and drops chunk 0; the
flush sends `write upto=146` and `removeChunks [0]`; the worker writes the purge record
(not synced yet) and is parked at the `fdatasync`, the removal request in hand: chunk 0
is dropped from the chunk table but its file is still linked. -/
def c03OutstandingExample : List Step :=
  [ .call (.append [(⟨1, 0⟩, [1]), (⟨1, 1⟩, [2])]), .flush none, .workerIdle,
    .call (.purge ⟨1, 1⟩), .flush none, .worker .ok, .worker .ok ]

/-- The hypotheses of `c03_crash_prefix` hold; a removal IS outstanding (the hypotheses
of the `_quiet` theorems fail): both files are linked, chunk 0 is not in the chunk
table, the worker still has `[0]` to unlink. -/
example :
    (∀ st ∈ c03OutstandingExample, st.journal = true) ∧
    (RefLog.run {} (stepOps c03OutstandingExample)).isSome = true ∧
    (∀ op ∈ stepOps c03OutstandingExample, op.WF ∧ op.small) ∧
    ((Sys.fresh { maxRecords := 3 }).run c03OutstandingExample).worker.pc ≠ .dead ∧
    ((Sys.fresh { maxRecords := 3 }).run c03OutstandingExample).store.map
      (fun s => (s.removed, s.closed, s.openId, s.openEnd)) = some ([], [], 84, 146) ∧
    ((Sys.fresh { maxRecords := 3 }).run c03OutstandingExample).worker.toRemove = [0] ∧
    ((Sys.fresh { maxRecords := 3 }).run c03OutstandingExample).fs.map
      (fun f => (f.id, f.data.length, f.durable, f.linked)) = [(0, 84, 84, true), (84, 62, 34, true)] := by
  decide +kernel

/-- A process crash and the worst power failure are crash images of its directory;
`open` loads chunk 0 and chunk 84 in both. After the process crash it returns the state
and index keys of the reference log after all three entry-level writes (`append (1,0)`,
`append (1,1)`, `purge (1,1)`); after the power failure (the purge record is lost) those
after the first two — a prefix of the writes in both cases. -/
example :
    CrashImage ((Sys.fresh { maxRecords := 3 }).run c03OutstandingExample).fs
      (cutCrash ((Sys.fresh { maxRecords := 3 }).run c03OutstandingExample).fs [(84, 0), (62, 0)]) ∧
    CrashImage ((Sys.fresh { maxRecords := 3 }).run c03OutstandingExample).fs
      (cutCrash ((Sys.fresh { maxRecords := 3 }).run c03OutstandingExample).fs [(84, 0), (34, 0)]) :=
  ⟨cutCrash_image _ _ (by decide +kernel), cutCrash_image _ _ (by decide +kernel)⟩

example :
    (expandOps {} (stepOps c03OutstandingExample)).length = 3 ∧
    c03View (openStore {} (cutCrash ((Sys.fresh { maxRecords := 3 }).run c03OutstandingExample).fs
        [(84, 0), (62, 0)])).1 = some (⟨none, some ⟨1, 1⟩, none, some ⟨1, 1⟩, none⟩, []) ∧
    (RefLog.run {} ((expandOps {} (stepOps c03OutstandingExample)).take 3)).map
        (fun r' => (r'.state, entKeys r'.entries)) = some (⟨none, some ⟨1, 1⟩, none, some ⟨1, 1⟩, none⟩, []) ∧
    c03View (openStore {} (cutCrash ((Sys.fresh { maxRecords := 3 }).run c03OutstandingExample).fs
        [(84, 0), (34, 0)])).1
      = some (⟨none, some ⟨1, 1⟩, none, none, none⟩, [(0, ⟨1, 0⟩), (1, ⟨1, 1⟩)]) ∧
    (RefLog.run {} ((expandOps {} (stepOps c03OutstandingExample)).take 2)).map
        (fun r' => (r'.state, entKeys r'.entries))
      = some (⟨none, some ⟨1, 1⟩, none, none, none⟩, [(0, ⟨1, 0⟩), (1, ⟨1, 1⟩)]) := by
  decide +kernel

end RaftLog
