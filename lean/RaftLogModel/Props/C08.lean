/-
C08 — Chunk files are unlinked only after a successful sync, oldest first.

Worker side: an `unlink` is performed only at the park point `unlinking`, which
is entered only when `lastSyncFailed = false`; that flag is cleared only by a
successful `fdatasync` of the newest file, which (by `Worker.WF`) is reached
only after every older file of the list was synced and removed from it.
Removal requests that arrive while the flag is set are postponed, in request
order, and unlinked in that order — in front of the trailing request's ids, if
any — right after the next batch whose sync succeeds (the postponed removal is
retried after every batch, also when no removal request follows it).
Store side: `popObsolete` pops exactly a prefix of the closed chunks.

(e) unlink only after a good sync, (f) order; the lettering continues that of Props/C04.

Quantification: every worker context with `c.w.WF`, every outcome.
-/
import RaftLogModel.Proofs.WorkerCaller
namespace RaftLog

/-- (e) A step unlinks a file only when the worker is parked at
`unlinking (i :: _)`, and then `lastSyncFailed = false`: the last sync of the
whole file list succeeded. Being parked there at all implies the same. -/
theorem c08_unlink_only_after_good_sync (c : WCtx) (out : Outcome) (hw : c.w.WF) :
    (∀ th i ok, Ev.unlink th i ok ∈ (c.step out).evs → Ev.unlink th i ok ∉ c.evs →
      ∃ rest, c.w.pc = .unlinking (i :: rest) ∧ th = "w" ∧ ok = (out != .eio) ∧
        c.w.lastSyncFailed = false) ∧
    (∀ ids, c.w.pc = .unlinking ids → c.w.lastSyncFailed = false) := by
  have h2 : ∀ ids, c.w.pc = .unlinking ids → c.w.lastSyncFailed = false := fun _ hpc => hw.unlinking_lsf hpc
  refine ⟨?_, h2⟩
  intro th i ok h hnew
  rcases mem_step_evs_unlink h with h | h
  · exact absurd h hnew
  · obtain ⟨rest, hpc, h3, h4⟩ := mem_stepSys_unlink h
    exact ⟨rest, hpc, h3, h4, h2 _ hpc⟩

/-- (e) The park point `unlinking ids` is entered only (1) from `unlinking
(i :: ids)` after a successful unlink of `i`, (2) from `got (removeChunks ids0)`
with `lastSyncFailed = false`, or (3) from the successful sync of the newest
file, whatever the trailing request `t` of the batch is (a removal postponed by
a failed sync is retried after every batch): `ids = postponed ++ tailIds t`,
where `tailIds t` are the ids of a trailing `removeChunks` request and `[]`
otherwise; in (2) `ids = postponed ++ ids0`. In every case
`lastSyncFailed = false` afterwards. -/
theorem c08_removal_starts_only_after_good_sync (c : WCtx) (out : Outcome) (hw : c.w.WF)
    (ids : List Nat) (h : (c.step out).w.pc = .unlinking ids) :
    (c.step out).w.lastSyncFailed = false ∧
    ((∃ i, c.w.pc = .unlinking (i :: ids) ∧ out ≠ .eio) ∨
     (∃ ids0, c.w.pc = .got (.removeChunks ids0) ∧ c.w.lastSyncFailed = false ∧
        ids = c.w.postponed ++ ids0) ∨
     (∃ b t, c.w.pc = .syncNew b t ∧ out ≠ .eio ∧ ids = c.w.postponed ++ tailIds t)) := by
  refine ⟨?_, (c.step_removal out hw).enter ids h⟩
  exact (c.step_wf out hw).unlinking_lsf h

/-- (e) `lastSyncFailed` changes only at a sync step: `eio` sets it; only a
non-`eio` sync of the newest file (park point `syncNew`, where by `Worker.WF`
it is the only file left, every older one having been synced by a `syncOld`
step and only then removed from the list) clears it. -/
theorem c08_lastSyncFailed (c : WCtx) (out : Outcome) (hw : c.w.WF) :
    (c.step out).w.lastSyncFailed =
      (match c.w.pc with
       | .syncNew _ _ => out == .eio
       | .syncOld _ _ => if out = .eio then true else c.w.lastSyncFailed
       | _ => c.w.lastSyncFailed) ∧
    (∀ b t, c.w.pc = .syncNew b t → ∃ f, c.w.files = [f]) ∧
    (∀ b t, c.w.pc = .syncOld b t → ∃ f g rest, c.w.files = f :: g :: rest ∧
      (out ≠ .eio → (c.step out).w.files = g :: rest ∧ (c.step out).fs = c.fs.sync f.id) ∧
      (out = .eio → f ∈ (c.step out).w.files)) := by
  refine ⟨c.step_lsf out hw, ?_, ?_⟩
  · exact fun b t hpc => hw.syncNew_files hpc
  · intro b t hpc
    obtain ⟨f, g, rest, hf⟩ := hw.syncOld_files hpc
    · refine ⟨f, g, rest, hf, ?_, ?_⟩
      · intro ho
        rw [WCtx.step_soOk hpc hf ho]
        obtain ⟨pc, h1, _⟩ := WCtx.startSync_frame ((c.setFiles (g :: rest)).synced f.id) b t (by simp)
        rw [h1]; simp
      · intro ho
        subst ho
        rw [WCtx.step_sync_eio (.inl hpc) hf]; simp [hf]

/-- (f) Once a removal has started, the ids are unlinked in list order. -/
theorem c08_unlink_in_list_order (c : WCtx) (ids : List Nat) (outs : List Outcome)
    (hpc : c.w.pc = .unlinking ids) (hlen : outs.length = ids.length) (hok : ∀ o ∈ outs, o ≠ .eio) :
    unlinksOf (c.runOuts outs).evs = unlinksOf c.evs ++ ids.map fun i => (i, true) :=
  c.runOuts_unlinking ids outs hpc hlen hok

/-- (f) Postponed ids accumulate in request order: a step leaves `postponed`
alone, or appends the ids of the removal it executes (sync failed before), or
starts the removal of `postponed ++ ids` and clears it. The step executes a
removal of `ids` (`WPc.removes`) when it handles a `removeChunks ids` request
(`got`) or ends a batch (`syncOld` / `syncNew`; then `ids` are those of the
trailing request, `[]` when that is not a removal). -/
theorem c08_postponed_in_request_order (c : WCtx) (out : Outcome) (hw : c.w.WF) :
    (c.step out).w.postponed = c.w.postponed ∨
    (∃ ids, c.w.pc.removes ids ∧ (c.step out).w.lastSyncFailed = true ∧
      (c.step out).w.postponed = c.w.postponed ++ ids) ∨
    (∃ ids, c.w.pc.removes ids ∧
      (c.step out).w.pc = .unlinking (c.w.postponed ++ ids) ∧ (c.step out).w.postponed = []) :=
  (c.step_removal out hw).postponed

/-- (f) Store side: `popObsolete upto` pops exactly a prefix of the closed
chunks: those whose closing `last` is at or below `upto`, up to the first one
above it. -/
theorem c08_popObsolete_prefix (upto : LogId) (l : List Closed) :
    ∃ k, (popObsolete upto l).1 = (l.take k).map Closed.id ∧ (popObsolete upto l).2 = l.drop k ∧
      (∀ c ∈ l.take k, optLt (some upto) c.state.last = false) ∧
      (∀ c, (l.drop k).head? = some c → optLt (some upto) c.state.last = true) :=
  popObsolete_spec upto l

/-- A removal request behind a failed sync, a second one behind a good sync. -/
def c08Demo : WCtx :=
  { w := { files := [⟨8, none⟩],
           pc := .syncNew [.write 9 [1] none] (some (.removeChunks [0, 2])),
           queue := [.write 9 [] none, .removeChunks [4]] },
    fs := [{ id := 0 }, { id := 2 }, { id := 4 }, { id := 8, data := [1] }],
    cache := { maxItems := 4, capacity := 100 } }

example : c08Demo.w.WF := by decide

/-- Sync fails: the removal is postponed, nothing is unlinked. -/
example : (c08Demo.step .eio).w.postponed = [0, 2] ∧ (c08Demo.step .eio).w.lastSyncFailed = true ∧
    unlinksOf (c08Demo.step .eio).evs = [] := by decide +kernel

/-- The next batch syncs fine: the removal starts with the postponed ids first
and runs oldest first. -/
example : ((c08Demo.step .eio).runOuts [.ok, .ok]).w.pc = .unlinking [0, 2, 4] ∧
    unlinksOf ((c08Demo.step .eio).runOuts [.ok, .ok, .ok, .ok, .ok]).evs = [(0, true), (2, true), (4, true)] ∧
    (((c08Demo.step .eio).runOuts [.ok, .ok, .ok, .ok, .ok]).fs.map fun f => (f.id, f.linked)) =
      [(0, false), (2, false), (4, false), (8, true)] := by decide +kernel

/-- The retried removal: the same failed sync, but the next batch is followed by no removal
request at all. Its good sync still starts the removal of the postponed ids. -/
def c08DemoRetry : WCtx := { c08Demo with w := { c08Demo.w with queue := [.write 9 [] none] } }

example : c08DemoRetry.w.WF := by decide

example : (c08DemoRetry.step .eio).w.postponed = [0, 2] ∧
    ((c08DemoRetry.step .eio).runOuts [.ok, .ok]).w.pc = .unlinking [0, 2] ∧
    ((c08DemoRetry.step .eio).runOuts [.ok, .ok]).w.postponed = [] ∧
    unlinksOf ((c08DemoRetry.step .eio).runOuts [.ok, .ok, .ok, .ok]).evs = [(0, true), (2, true)] ∧
    ((c08DemoRetry.step .eio).runOuts [.ok, .ok, .ok, .ok]).w.pc = .idle := by decide +kernel

end RaftLog
