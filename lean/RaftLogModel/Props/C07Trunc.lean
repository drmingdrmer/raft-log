/-
C07 for histories WITH `truncate` — every live entry can be read back, whatever
the payload cache evicted, provided re-appended log ids are fresh.

`c07_reads_partial` (Props/C07.lean) excludes every history containing a
`truncate` op, because of the known finding: the eviction boundary is a LOG ID
(the closing `last` of a chunk, published once the worker has synced it); after
a `truncate`, an entry can be appended whose id is at or below a boundary that
is or will be published, and it is then evicted while its record is only in the
open chunk / in flight (`c07Counter`).

This file proves the read theorem for histories that DO contain `truncate`
under the hypothesis that excludes exactly that class:

  `AppendsFresh steps`: every log id appended in the history is strictly
  greater (LogId order: term, then index) than every log id appended earlier in
  the history.

Since legal appends have consecutive indexes and a truncation takes the index
back, this means: a re-append at or below an index that was used before carries
a higher term (what Raft does: a leader of a newer term overwrites a conflicting
suffix). `AppendsFresh` is a decidable predicate on the op list (a fold carrying
the largest id appended so far, `freshOpsC7b`); `c07t_appendsFresh_iff` states
it as "the list of appended ids is strictly increasing".

The invariant. `RdInv`, the invariant
of truncate-free histories, bounds every boundary-like value `p` (the eviction boundary, the
`prevLast` of every file entry the worker holds or has queued) by `last`, and
uses "a new entry's id is above `last`" to keep new entries out of the reach of
every such `p`. With `truncate`, `last` goes back. `RdInvC7b B` bounds the same
values by a ghost bound `B` instead, with `last ≤ B`; `B` never decreases, and
every id appended later is above it. At system level `B = max m purged`, `m` the
largest id appended so far: `last` is always an appended id, the purge id of a
purge beyond `last`, or `none`; a fresh id is above `m` by `AppendsFresh` and
above `purged` (≤ `last`) by legality. A `prevLast` is a `last` of the time the
chunk was closed, hence ≤ `B`; the boundary is one of the `prevLast`s. When the
open chunk closes, every live entry in it is at or below the closing `last`
(`clast`).

Quantification: as in `c07_reads_partial`, with `truncate` allowed and
`AppendsFresh` added: every `cfg` (cache limits 0 included); every history of
`.call/.flush/.worker out/.workerIdle/.drain` steps from `Sys.fresh cfg` whose
calls, in order, are legal and accepted by the reference log from the empty log;
`Op.small`, `Op.WF`; the worker alive at the end.
-/
import RaftLogModel.Props.C07
import RaftLogModel.Proofs.ReadTrunc
import RaftLogModel.Proofs.Eval
namespace RaftLog

/-- The log ids appended by a list of ops, in order. -/
def appendedIdsC7b : List Op → List LogId
  | [] => []
  | .append es :: rest => es.map (·.1) ++ appendedIdsC7b rest
  | _ :: rest => appendedIdsC7b rest

/-- The fold of `freshIdsC7b` on bare ids. -/
def freshListC7b (m : Option LogId) : List LogId → Option (Option LogId)
  | [] => some m
  | id :: rest => if optLt m (some id) then freshListC7b (some id) rest else none

theorem freshIds_eq_C7b (m : Option LogId) (es : List (LogId × Bytes)) :
    freshIdsC7b m es = freshListC7b m (es.map (·.1)) := by
  induction es generalizing m with
  | nil => rfl
  | cons e rest ih =>
    obtain ⟨id, p⟩ := e
    simp only [freshIdsC7b, List.map_cons, freshListC7b, ih]

theorem freshList_append_C7b (m : Option LogId) (a b : List LogId) :
    freshListC7b m (a ++ b) = (freshListC7b m a).bind (fun m' => freshListC7b m' b) := by
  induction a generalizing m with
  | nil => rfl
  | cons id rest ih =>
    simp only [List.cons_append, freshListC7b]
    split
    · exact ih _
    · rfl

theorem freshOps_eq_C7b (m : Option LogId) (ops : List Op) :
    freshOpsC7b m ops = freshListC7b m (appendedIdsC7b ops) := by
  induction ops generalizing m with
  | nil => rfl
  | cons op rest ih =>
    cases op with
    | append es =>
      simp only [freshOpsC7b, freshOpC7b, appendedIdsC7b, freshList_append_C7b, freshIds_eq_C7b]
      cases freshListC7b m (es.map (·.1)) with
      | none => rfl
      | some m' => exact ih m'
    | saveVote v => exact ih m
    | truncate idx => exact ih m
    | purge id => exact ih m
    | commit id => exact ih m
    | saveUserData d => exact ih m

theorem freshList_isSome_C7b (m : Option LogId) (l : List LogId) :
    (freshListC7b m l).isSome = true ↔
      (∀ id ∈ l, optLt m (some id) = true) ∧ l.Pairwise (fun a b => a.lt b = true) := by
  induction l generalizing m with
  | nil => simp [freshListC7b]
  | cons id rest ih =>
    simp only [freshListC7b]
    by_cases h : optLt m (some id) = true
    · rw [if_pos h, ih]
      simp only [optLt_some_some, List.mem_cons, forall_eq_or_imp, List.pairwise_cons]
      constructor
      · rintro ⟨h1, h2⟩
        exact ⟨⟨h, fun x hx => optLt_trans h (h1 x hx)⟩, h1, h2⟩
      · rintro ⟨⟨_, _⟩, h1, h2⟩
        exact ⟨h1, h2⟩
    · rw [if_neg h]
      simp only [Option.isSome_none, Bool.false_eq_true, List.mem_cons, forall_eq_or_imp, false_iff]
      rintro ⟨⟨h1, _⟩, _⟩
      exact h h1

/-- **`AppendsFresh` in words**: the log ids appended by the calls of the
history, in order (batches flattened), are strictly increasing — every appended
id is above every id appended earlier. -/
theorem c07t_appendsFresh_iff (steps : List Step) :
    AppendsFresh steps = true ↔
      (appendedIdsC7b (stepOps steps)).Pairwise (fun a b => a.lt b = true) := by
  unfold AppendsFresh
  rw [freshOps_eq_C7b, freshList_isSome_C7b]
  simp

/-- What `ReadInvC7b y r m` says, item by item (compare `c07_readInv_spec`):
with `B = max m r.purged` (`m` = the largest id appended so far), the boundary
and every `prevLast` the worker holds or will be told about are at or below `B`
(instead of: at or below `last`), and `last ≤ B`. -/
theorem c07t_readInv_spec {y : Sys} {r : RefLog} {m : Option LogId} (h : ReadInvC7b y r m) :
    ∃ s, y.store = some s ∧ y.worker.pc ≠ .dead ∧ J y ∧ RefinesNoCache s r ∧ r.EntriesWF ∧
      (∀ x ∈ s.log, ∃ p, (x.2.id, p) ∈ r.entries ∧
        Located s y.fs y.worker x.2 (encRecord (.append x.2.id p))) ∧
      (∀ x ∈ s.log, (∃ p, (x.2.id, p) ∈ s.cache.items) ∨ x.2.chunk < y.worker.cur) ∧
      (∀ x ∈ s.log, ∀ c ∈ s.closed, c.id = x.2.chunk → optLe (some x.2.id) c.state.last = true) ∧
      EntOKC7b (optMaxC7b m r.purged) s y.worker.cur s.cache.lastEvictable ∧
      (∀ f ∈ y.worker.fents, EntOKC7b (optMaxC7b m r.purged) s f.id f.prevLast) ∧
      optLe s.st.last (optMaxC7b m r.purged) = true ∧
      (∀ e ∈ s.cache.items, ∀ a ∈ r.entries, a.1 = e.1 → a.2 = e.2) := by
  have hJ := h.toJ
  obtain ⟨s, hs, hd, _, hr, hew⟩ := h
  exact ⟨s, hs, hd, hJ, hr.ref, hew, hr.loc, hr.res, hr.clast, hr.bnd, hr.ents, hr.lastB, hr.cval⟩

/-- The freshly opened store satisfies the invariant. -/
theorem c07t_inv_fresh (cfg : Cfg) : ReadInvC7b (Sys.fresh cfg) {} none := fresh_readInv_C7b cfg

/-- Kept by a legal, accepted, small, well-formed call — ANY op, `truncate`
included — whose appended ids are above the largest id `m` appended so far
(chunk rotations, purge of closed chunks and cache eviction included): the
invariant is kept against the new reference log and the new largest id, and the
call returns `ok`. -/
theorem c07t_inv_call (y : Sys) (r r' : RefLog) (m m' : Option LogId) (op : Op) (h : ReadInvC7b y r m)
    (hl : r.legal op = true) (hc : r.call op = .ok r') (hsm : op.small) (hwf : op.WF)
    (hfr : freshOpC7b m op = some m') :
    ReadInvC7b (y.step (.call op)) r' m' ∧ ∃ seg, (y.call op).1 = .ok seg :=
  h.call hl hc hsm hwf hfr

/-- The `truncate` case on its own: no freshness condition is needed for
the truncation itself, and the largest appended id does not change. -/
theorem c07t_inv_truncate (y : Sys) (r r' : RefLog) (m : Option LogId) (idx : Nat) (h : ReadInvC7b y r m)
    (hl : r.legal (.truncate idx) = true) (hc : r.call (.truncate idx) = .ok r') :
    ReadInvC7b (y.step (.call (.truncate idx))) r' m ∧ ∃ seg, (y.call (.truncate idx)).1 = .ok seg :=
  h.call hl hc trivial trivial rfl

/-- Kept by `flush`. -/
theorem c07t_inv_flush (y : Sys) (r : RefLog) (m : Option LogId) (cb : Option Nat) (h : ReadInvC7b y r m) :
    ReadInvC7b (y.step (.flush cb)) r m := h.flush cb

/-- Kept by a worker step of any outcome (`ok`, `eio` at a sync, `short k`), provided the worker is
not dead afterwards. -/
theorem c07t_inv_worker (y : Sys) (r : RefLog) (m : Option LogId) (out : Outcome) (h : ReadInvC7b y r m)
    (halive : (y.step (.worker out)).worker.pc ≠ .dead) : ReadInvC7b (y.step (.worker out)) r m :=
  h.worker out halive

/-- Kept by `workerIdle`, provided the worker is not dead afterwards. -/
theorem c07t_inv_workerIdle (y : Sys) (r : RefLog) (m : Option LogId) (h : ReadInvC7b y r m)
    (halive : (y.step .workerIdle).worker.pc ≠ .dead) : ReadInvC7b (y.step .workerIdle) r m :=
  h.workerIdle halive

/-- Kept by `drain`. -/
theorem c07t_inv_drain (y : Sys) (r : RefLog) (m : Option LogId) (h : ReadInvC7b y r m) :
    ReadInvC7b (y.step .drain) r m := h.drain

/-- **ReadInvC7b ⇒ read = spec read.** -/
theorem c07t_read_of_inv {y : Sys} {r : RefLog} {m : Option LogId} (h : ReadInvC7b y r m) :
    ∃ s, y.store = some s ∧ s.st = r.state ∧
      (∀ a b, (s.read y.fs a b).1 = (r.read a b).map (fun e => ReadItem.ok e.1 e.2)) ∧
      s.iter y.fs = r.entries.map (fun e => ReadItem.ok e.1 e.2) :=
  h.read

/-- **(i) / (ii)** as in `c07_resident_or_on_disk`: every live entry is resident
with its payload, or its chunk is closed and its record is completely written
to the chunk file. -/
theorem c07t_resident_or_on_disk {y : Sys} {r : RefLog} {m : Option LogId} (h : ReadInvC7b y r m) :
    ∃ s, y.store = some s ∧ ∀ x ∈ s.log, ∃ p, (x.2.id, p) ∈ r.entries ∧
      (s.cache.get x.2.id = some p ∨
        ((∃ c ∈ s.closed, c.id = x.2.chunk) ∧ y.worker.inflight x.2.chunk = [] ∧
          ∃ f, y.fs.find x.2.chunk = some f ∧ x.2.off - x.2.chunk + x.2.size ≤ f.data.length ∧
            (f.data.drop (x.2.off - x.2.chunk)).take x.2.size = encRecord (.append x.2.id p))) :=
  h.resident_or_on_disk

/-- The invariant after every `AppendsFresh` history with a live worker; `m` is
the largest id appended in the history. -/
theorem c07t_inv_reachable (cfg : Cfg) (steps : List Step) (r : RefLog)
    (hsteps : ∀ st ∈ steps, st.journal = true)
    (hlegal : RefLog.run {} (stepOps steps) = some r)
    (hops : ∀ op ∈ stepOps steps, op.small ∧ op.WF)
    (hfresh : AppendsFresh steps = true)
    (halive : ((Sys.fresh cfg).run steps).worker.pc ≠ .dead) :
    ∃ m, freshOpsC7b none (stepOps steps) = some m ∧ ReadInvC7b ((Sys.fresh cfg).run steps) r m := by
  obtain ⟨m, hm⟩ := Option.isSome_iff_exists.mp hfresh
  exact ⟨m, hm, (run_readInv_C7b steps _ {} r none m (fresh_readInv_C7b cfg) hsteps hlegal hops hm
    halive).1⟩

/-- **C07 for histories with `truncate` (re-appended ids fresh).** For every
configuration — any chunk limits, any payload-cache limits including 0 — and
every history of calls (ANY op, `truncate` included), flushes, worker steps (any
outcome), `workerIdle` and `drain` steps on a store opened on an empty
directory: if the calls, in order, are legal and accepted by the reference log
starting from the empty log, reaching `r`, every op is `small` and well-formed,
every appended log id is strictly greater than every log id appended earlier in
the history (`AppendsFresh`: a re-append after a truncation uses a higher term),
and the worker is alive at the end, then the final store reports `r`'s state,
every `read(a, b)` returns exactly `r`'s entries in `[a, b)` as `ok id payload`
— original payload, no error — and so does the dump iterator; moreover every
call along the way returned `ok`. -/
theorem c07_reads_with_truncate (cfg : Cfg) (steps : List Step) (r : RefLog)
    (hsteps : ∀ st ∈ steps, st.journal = true)
    (hlegal : RefLog.run {} (stepOps steps) = some r)
    (hops : ∀ op ∈ stepOps steps, op.small ∧ op.WF)
    (hfresh : AppendsFresh steps = true)
    (halive : ((Sys.fresh cfg).run steps).worker.pc ≠ .dead) :
    (∃ s, ((Sys.fresh cfg).run steps).store = some s ∧ s.st = r.state ∧
      (∀ a b, (s.read ((Sys.fresh cfg).run steps).fs a b).1
          = (r.read a b).map (fun e => ReadItem.ok e.1 e.2)) ∧
      s.iter ((Sys.fresh cfg).run steps).fs = r.entries.map (fun e => ReadItem.ok e.1 e.2)) ∧
    (∀ pre op post, steps = pre ++ Step.call op :: post →
      ∃ seg, (((Sys.fresh cfg).run pre).call op).1 = .ok seg) := by
  obtain ⟨m, hm⟩ := Option.isSome_iff_exists.mp hfresh
  obtain ⟨h, hcalls⟩ :=
    run_readInv_C7b steps _ {} r none m (fresh_readInv_C7b cfg) hsteps hlegal hops hm halive
  exact ⟨h.read, hcalls⟩

/-- A truncate-free history whose calls are legal and accepted is `AppendsFresh`. -/
theorem c07t_appendsFresh_of_noTruncate (steps : List Step) (r : RefLog)
    (hlegal : RefLog.run {} (stepOps steps) = some r)
    (hnt : ∀ op ∈ stepOps steps, ∀ idx, op ≠ .truncate idx) : AppendsFresh steps = true := by
  obtain ⟨m, hm, _⟩ := run_fresh_of_noTruncate_C7b (stepOps steps) {} r none rfl hlegal hnt
  unfold AppendsFresh
  rw [hm]; rfl

/-- **`c07_reads_partial` is a corollary of `c07_reads_with_truncate`**: the
same statement (hypotheses and conclusion of `c07_reads_partial`), derived from
`c07_reads_with_truncate` alone. -/
theorem c07_reads_partial_of_with_truncate (cfg : Cfg) (steps : List Step) (r : RefLog)
    (hsteps : ∀ st ∈ steps, st.journal = true)
    (hlegal : RefLog.run {} (stepOps steps) = some r)
    (hops : ∀ op ∈ stepOps steps, op.c07)
    (halive : ((Sys.fresh cfg).run steps).worker.pc ≠ .dead) :
    (∃ s, ((Sys.fresh cfg).run steps).store = some s ∧ s.st = r.state ∧
      (∀ a b, (s.read ((Sys.fresh cfg).run steps).fs a b).1
          = (r.read a b).map (fun e => ReadItem.ok e.1 e.2)) ∧
      s.iter ((Sys.fresh cfg).run steps).fs = r.entries.map (fun e => ReadItem.ok e.1 e.2)) ∧
    (∀ pre op post, steps = pre ++ Step.call op :: post →
      ∃ seg, (((Sys.fresh cfg).run pre).call op).1 = .ok seg) :=
  c07_reads_with_truncate cfg steps r hsteps hlegal (fun op hop => ⟨(hops op hop).1, (hops op hop).2.1⟩)
    (c07t_appendsFresh_of_noTruncate steps r hlegal (fun op hop => (hops op hop).2.2)) halive

/-- `c07_worker_steps_invisible` for histories with `truncate`: inserting or
removing worker steps (any outcome), `workerIdle` and `drain` steps anywhere in
an `AppendsFresh` history does not change what readers see. -/
theorem c07t_worker_steps_invisible (cfg : Cfg) (steps1 steps2 : List Step) (r : RefLog)
    (hsame : steps1.filter (fun st => !st.background) = steps2.filter (fun st => !st.background))
    (hsteps : ∀ st ∈ steps1, st.journal = true)
    (hlegal : RefLog.run {} (stepOps steps1) = some r)
    (hops : ∀ op ∈ stepOps steps1, op.small ∧ op.WF)
    (hfresh : AppendsFresh steps1 = true)
    (halive1 : ((Sys.fresh cfg).run steps1).worker.pc ≠ .dead)
    (halive2 : ((Sys.fresh cfg).run steps2).worker.pc ≠ .dead) :
    let y1 := (Sys.fresh cfg).run steps1
    let y2 := (Sys.fresh cfg).run steps2
    ∃ s1 s2, y1.store = some s1 ∧ y2.store = some s2 ∧ s1.st = s2.st ∧
      (∀ a b, (s1.read y1.fs a b).1 = (s2.read y2.fs a b).1) ∧ s1.iter y1.fs = s2.iter y2.fs := by
  intro y1 y2
  have hopsEq : stepOps steps2 = stepOps steps1 := by
    rw [← stepOps_filter_background steps2, ← hsame, stepOps_filter_background]
  exact reads_agree (c07_reads_with_truncate cfg steps1 r hsteps hlegal hops hfresh halive1).1
    (c07_reads_with_truncate cfg steps2 r (journal_of_filter_background hsame hsteps)
      (by rw [hopsEq]; exact hlegal) (by rw [hopsEq]; exact hops)
      (by unfold AppendsFresh at hfresh ⊢; rw [hopsEq]; exact hfresh) halive2).1

/-- `c07_cache_limits_invisible` for histories with `truncate`. -/
theorem c07t_cache_limits_invisible (cfg : Cfg) (cacheItems cacheCap : Nat) (steps : List Step) (r : RefLog)
    (hsteps : ∀ st ∈ steps, st.journal = true)
    (hlegal : RefLog.run {} (stepOps steps) = some r)
    (hops : ∀ op ∈ stepOps steps, op.small ∧ op.WF)
    (hfresh : AppendsFresh steps = true)
    (halive1 : ((Sys.fresh cfg).run steps).worker.pc ≠ .dead)
    (halive2 : ((Sys.fresh { cfg with cacheItems := cacheItems, cacheCap := cacheCap }).run steps).worker.pc
      ≠ .dead) :
    let y1 := (Sys.fresh cfg).run steps
    let y2 := (Sys.fresh { cfg with cacheItems := cacheItems, cacheCap := cacheCap }).run steps
    ∃ s1 s2, y1.store = some s1 ∧ y2.store = some s2 ∧ s1.st = s2.st ∧
      (∀ a b, (s1.read y1.fs a b).1 = (s2.read y2.fs a b).1) ∧ s1.iter y1.fs = s2.iter y2.fs := by
  intro y1 y2
  exact reads_agree (c07_reads_with_truncate cfg steps r hsteps hlegal hops hfresh halive1).1
    (c07_reads_with_truncate { cfg with cacheItems := cacheItems, cacheCap := cacheCap } steps r hsteps
      hlegal hops hfresh halive2).1

/-- A history with two truncations, each followed by a re-append at the
truncated index with a HIGHER term, on `c07Cfg` (a cache that may hold nothing,
chunk rotation after every second record): appends in three terms, a purge, a
flush with a callback, a short write, a failed sync (`eio`), drains and worker
steps. -/
def c07tExample : List Step :=
  [ .call (.saveVote ⟨1, 7⟩),
    .call (.append [(⟨1, 0⟩, [1, 2, 3]), (⟨1, 1⟩, [4]), (⟨1, 2⟩, [5, 6])]),
    .flush none,
    .workerIdle,
    .call (.truncate 1),
    .call (.append [(⟨2, 1⟩, [9])]),
    .drain,
    .worker .ok,
    .call (.append [(⟨2, 2⟩, [8, 8])]),
    .flush (some 0),
    .worker .ok, .worker (.short 3), .worker .ok,
    .call (.purge ⟨1, 0⟩),
    .call (.truncate 2),
    .call (.append [(⟨3, 2⟩, [7]), (⟨3, 3⟩, [6, 6])]),
    .worker .ok,
    .worker .eio,
    .drain,
    .workerIdle,
    .drain ]

/-- The hypotheses of `c07_reads_with_truncate` hold for it (it contains
`truncate` ops, so `c07_reads_partial` does not apply), and the reference log
ends with three live entries, two of them re-appended after a truncation. -/
example :
    (∀ st ∈ c07tExample, st.journal = true) ∧
    RefLog.run {} (stepOps c07tExample) = some
      { vote := some ⟨1, 7⟩, last := some ⟨3, 3⟩, committed := none, purged := some ⟨1, 0⟩,
        entries := [(⟨2, 1⟩, [9]), (⟨3, 2⟩, [7]), (⟨3, 3⟩, [6, 6])] } ∧
    (∀ op ∈ stepOps c07tExample, op.small ∧ op.WF) ∧
    AppendsFresh c07tExample = true ∧
    ((Sys.fresh c07Cfg).run c07tExample).worker.pc ≠ .dead ∧
    (∃ idx, Op.truncate idx ∈ stepOps c07tExample) := by
  exact and_of_decide (and_of_decide (and_of_decide (and_of_decide (and_of_decide
    (d := decide (Op.truncate 1 ∈ stepOps c07tExample)) fun h => ⟨1, of_decide_eq_true h⟩))))
    (by decide +kernel)

/- The implementation side of the same history, computed by the model: the
read returns the three live entries with their payloads; only the newest one is
still resident (the boundary has reached `(3, 2)`), the two re-appended entries
`(2, 1)` and `(3, 2)` are cache misses served from the chunk files. -/
set_option maxRecDepth 100000 in
example :
    ∃ s, ((Sys.fresh c07Cfg).run c07tExample).store = some s ∧
      (s.read ((Sys.fresh c07Cfg).run c07tExample).fs 0 10).1 =
        [ReadItem.ok ⟨2, 1⟩ [9], ReadItem.ok ⟨3, 2⟩ [7], ReadItem.ok ⟨3, 3⟩ [6, 6]] ∧
      s.cache.items = [(⟨3, 3⟩, [6, 6])] ∧
      s.cache.lastEvictable = some ⟨3, 2⟩ ∧
      (s.read ((Sys.fresh c07Cfg).run c07tExample).fs 0 10).2.miss = 2 := by
  decide +kernel

/-- `c07Counter` (the history of the known finding: re-append of `(1, 1)` after
`(1, 2)` had been appended) does NOT satisfy `AppendsFresh`. -/
example : AppendsFresh c07Counter = false := by decide

/-- Its appended ids, in order: `(1, 1)` comes again after `(1, 2)`. -/
example : appendedIdsC7b (stepOps c07Counter) = [⟨1, 0⟩, ⟨1, 1⟩, ⟨1, 2⟩, ⟨1, 1⟩] := by decide

/-- The same history with the re-append in a higher term IS `AppendsFresh`, and
the read succeeds (`c07_reads_with_truncate` applies; here computed). -/
def c07CounterFixed : List Step :=
  [ .call (.append [(⟨1, 0⟩, [1]), (⟨1, 1⟩, [2]), (⟨1, 2⟩, [3])]),
    .flush none,
    .workerIdle,
    .call (.truncate 1),
    .call (.append [(⟨2, 1⟩, [9])]) ]

set_option maxRecDepth 100000 in
example :
    AppendsFresh c07CounterFixed = true ∧
    ∃ s, ((Sys.fresh c07Cfg).run c07CounterFixed).store = some s ∧
      (s.read ((Sys.fresh c07Cfg).run c07CounterFixed).fs 0 10).1 =
        [ReadItem.ok ⟨1, 0⟩ [1], ReadItem.ok ⟨2, 1⟩ [9]] := by
  decide +kernel

end RaftLog
