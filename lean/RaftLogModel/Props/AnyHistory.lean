/-
Per-history theorems for ALL histories of well-formed calls.

Corollaries of the normalisation theorem `c06_normalize_partial`
(Props/C06Normal.lean): the hypotheses
`RefLog.run {} (stepOps steps) = some r` (every call accepted, every purge legal)
and `∀ op ∈ stepOps steps, op.WF ∧ op.small` of the per-history theorems are
replaced by `∀ op ∈ stepOps steps, op.WF` and `purgesLegalC6N {} steps = true`;
the reference log is `(normalizeC6N {} steps).2`, and where the conclusion names the
history's writes, they are those of the normalised history `(normalizeC6N {} steps).1`.

`_partial`: the purge hypothesis remains (see Props/C06Normal.lean for why it cannot
be dropped).
-/
import RaftLogModel.Proofs.AnyHistory
import RaftLogModel.Props.C06Normal
import RaftLogModel.Proofs.LiftRestart
import RaftLogModel.Props.C05Crash
import RaftLogModel.Props.C08Sys
import RaftLogModel.Props.C14Busy
import RaftLogModel.Props.C04Sys
namespace RaftLog

/-- **C05, recovery never panics** — on any crash image of the final directory of any
history of well-formed calls. -/
theorem c05_recovery_never_panics_any_history_partial (cfg cfg' : Cfg) (steps : List Step)
    (hsteps : ∀ st ∈ steps, st.journal = true) (hwf : ∀ op ∈ stepOps steps, op.WF)
    (hpurge : purgesLegalC6N {} steps = true)
    (halive : ((Sys.fresh cfg).run steps).worker.pc ≠ .dead)
    (img : Fs) (hc : CrashImage ((Sys.fresh cfg).run steps).fs img) :
    (∀ m, (openStore cfg' img).1 ≠ .panic m) ∧ (openStore cfg' img).1.isPanic = false ∧
    (({ fs := img, cfg := cfg' } : Sys).open).1.isPanic = false := by
  obtain ⟨k1, k2, k3, k4, k5, _⟩ := c06_normalize_partial cfg steps hsteps hwf hpurge halive
  exact c05_recovery_never_panics cfg cfg' _ _ k1 k2 k3 k5 img (k4 ▸ hc)

/-- **C05 (1), `open` succeeds** on every crash image without torn predecessor, with
`truncate = true`. -/
theorem c05_open_succeeds_any_history_partial (cfg cfg' : Cfg) (steps : List Step)
    (hsteps : ∀ st ∈ steps, st.journal = true) (hwf : ∀ op ∈ stepOps steps, op.WF)
    (hpurge : purgesLegalC6N {} steps = true)
    (halive : ((Sys.fresh cfg).run steps).worker.pc ≠ .dead)
    (img : Fs) (hc : CrashImage ((Sys.fresh cfg).run steps).fs img)
    (htr : cfg'.truncate = true) (hnt : NoTornPredecessor img) :
    ∃ s' w' fs' evs, openStore cfg' img = (.ok (s', w'), fs', evs) := by
  obtain ⟨k1, k2, k3, k4, k5, _⟩ := c06_normalize_partial cfg steps hsteps hwf hpurge halive
  exact c05_open_succeeds_partial cfg cfg' _ _ k1 k2 k3 k5 img (k4 ▸ hc) htr hnt

/-- The same for `Sys.open`. -/
theorem c05_sys_open_succeeds_any_history_partial (cfg cfg' : Cfg) (steps : List Step)
    (hsteps : ∀ st ∈ steps, st.journal = true) (hwf : ∀ op ∈ stepOps steps, op.WF)
    (hpurge : purgesLegalC6N {} steps = true)
    (halive : ((Sys.fresh cfg).run steps).worker.pc ≠ .dead)
    (img : Fs) (hc : CrashImage ((Sys.fresh cfg).run steps).fs img)
    (htr : cfg'.truncate = true) (hnt : NoTornPredecessor img) :
    (({ fs := img, cfg := cfg' } : Sys).open).1 = .ok () := by
  obtain ⟨k1, k2, k3, k4, k5, _⟩ := c06_normalize_partial cfg steps hsteps hwf hpurge halive
  exact c05_sys_open_succeeds_partial cfg cfg' _ _ k1 k2 k3 k5 img (k4 ▸ hc) htr hnt

/-- **C05 (2), the recovered store is consistent.** `steps = pre ++ post` (any split).
`W`: the entry-level writes of the NORMALISED history; the write count of the prefix is
that of the normalised `pre`. -/
theorem c05_recovered_store_is_consistent_any_history_partial (cfg cfg' : Cfg) (pre post : List Step)
    (hsteps : ∀ st ∈ pre ++ post, st.journal = true) (hwf : ∀ op ∈ stepOps (pre ++ post), op.WF)
    (hpurge : purgesLegalC6N {} (pre ++ post) = true)
    (halive : ((Sys.fresh cfg).run (pre ++ post)).worker.pc ≠ .dead)
    (img : Fs) (hc : CrashImage ((Sys.fresh cfg).run (pre ++ post)).fs img)
    (htr : cfg'.truncate = true) (hnt : NoTornPredecessor img) :
    let W := expandOps {} (stepOps (normalizeC6N {} (pre ++ post)).1)
    let A := (Sys.fresh cfg).ackRun (pre ++ post) 0
    let y2 := (({ fs := img, cfg := cfg' } : Sys).open).2.1
    (({ fs := img, cfg := cfg' } : Sys).open).1 = .ok () ∧
    ∃ s' n r', y2.store = some s' ∧ y2.cfg = cfg' ∧ y2.locked = true ∧
      RefLog.run {} (W.take n) = some r' ∧ s'.st = r'.state ∧
      logKeys s'.log = entKeys r'.entries ∧
      (∀ s1, ((Sys.fresh cfg).run pre).store = some s1 → s1.openEnd ≤ A →
        (expandOps {} (stepOps (normalizeC6N {} pre).1)).length ≤ n) ∧
      CSys y2 r' ∧ J y2 ∧ SysWF y2 ∧ SysCovered y2 ∧ SmallSys y2 ∧ y2.Clean ∧
      s'.cfg = cfg' ∧ s'.cache.maxItems = cfg'.cacheItems ∧ s'.cache.capacity = cfg'.cacheCap := by
  intro W A y2
  obtain ⟨k1, k2, k3, k4, _, k6, _⟩ := c06_normalize_partial cfg (pre ++ post) hsteps hwf hpurge halive
  obtain ⟨_, ka, hsplit⟩ := normalize_prefix_C6N (fresh_CSys cfg) (Sys.fresh_settled cfg) pre post
    hsteps hwf hpurge halive
  rw [hsplit] at k1 k2 k3 k4 k6
  have := c05_recovered_store_is_consistent cfg cfg' (normalizeC6N {} pre).1
    (normalizeC6N (normalizeC6N {} pre).2 post).1
    (normalizeC6N {} (pre ++ post)).2 k1 k2 k3 (by rw [k4]; exact halive) img (by rw [k4]; exact hc)
    htr hnt
  rw [k6, ka, ← hsplit] at this
  exact this

/-- **C08 (a), the files that remain form a gap-free suffix of the journal that starts
with a state snapshot** — for every history of well-formed calls. -/
theorem c08_remaining_files_gap_free_suffix_any_history_partial (cfg : Cfg) (steps : List Step)
    (hsteps : ∀ st ∈ steps, st.journal = true) (hwf : ∀ op ∈ stepOps steps, op.WF)
    (hpurge : purgesLegalC6N {} steps = true)
    (halive : ((Sys.fresh cfg).run steps).worker.pc ≠ .dead) :
    let y := (Sys.fresh cfg).run steps
    ∃ s dropped jc jo, y.store = some s ∧
      y.fs.linkedIds = dropped.map Closed.id ++ (s.closed.map Closed.id ++ [s.openId]) ∧
      y.worker.toRemove ++ s.removed = dropped.map Closed.id ∧
      RepG (s.liftC3b dropped) y.fs y.worker jc jo ∧
      (liveChunksC3 (s.liftC3b dropped) jc jo).map (·.1.id) = y.fs.linkedIds ∧
      (liveChunksC3 (s.liftC3b dropped) jc jo).map (·.1)
        = dropped ++ s.closed ++ [⟨s.openOffsets, s.st⟩] ∧
      AbutC3 (liveChunksC3 (s.liftC3b dropped) jc jo) ∧
      ∀ p ∈ liveChunksC3 (s.liftC3b dropped) jc jo, AllWF p.2 ∧ (∃ st rest, p.2 = .state st :: rest) ∧
        offsetsFrom p.1.id (recSizes p.2) = p.1.offsets ∧ ∃ t, fdata y.fs p.1.id ++ t = encAll p.2 := by
  obtain ⟨k1, k2, k3, k4, k5, _⟩ := c06_normalize_partial cfg steps hsteps hwf hpurge halive
  exact k4 ▸ c08_remaining_files_gap_free_suffix cfg _ _ k1 k2 k3 k5

/-- **C08 (c), once a purge has been flushed and the worker is idle, the dropped chunks
are gone** — after every history of well-formed calls. -/
theorem c08_flushed_idle_gone_always_any_history_partial (cfg : Cfg) (steps : List Step) (cb : Option Nat)
    (hsteps : ∀ st ∈ steps, st.journal = true) (hwf : ∀ op ∈ stepOps steps, op.WF)
    (hpurge : purgesLegalC6N {} steps = true)
    (halive : ((Sys.fresh cfg).run (steps ++ [.flush cb, .workerIdle])).worker.pc ≠ .dead) :
    let y := (Sys.fresh cfg).run (steps ++ [.flush cb, .workerIdle])
    ∃ s, y.store = some s ∧ s.removed = [] ∧ y.worker.toRemove = [] ∧
      y.worker.lastSyncFailed = false ∧ y.worker.postponed = [] ∧
      y.fs.linkedIds = s.closed.map Closed.id ++ [s.openId] := by
  obtain ⟨k1, k2, k3, k4, _⟩ := c06_normalize_partial cfg steps hsteps hwf hpurge
    (Sys.alive_prefix (by simp [Step.journal]) halive)
  have := c08_flushed_idle_gone_always cfg _ cb _ k1 k2 k3
  rw [Sys.run_append, k4, ← Sys.run_append] at this
  exact this halive

/-- **C14, drop with a busy worker, then open** — after every history of well-formed
calls; the recovered state is that of the reference log `(normalizeC6N {} steps).2`. -/
theorem c14_busy_drop_then_open_any_history_partial (cfg cfg' : Cfg) (steps : List Step) (s : Store)
    (hsteps : ∀ st ∈ steps, st.journal = true) (hwf : ∀ op ∈ stepOps steps, op.WF)
    (hpurge : purgesLegalC6N {} steps = true)
    (halive : ((Sys.fresh cfg).run steps).worker.pc ≠ .dead)
    (hs : ((Sys.fresh cfg).run steps).store = some s)
    (hp : s.pending = []) (hrem : s.removed = [])
    (hsync : ((Sys.fresh cfg).run steps).worker.willSyncD14 ∨
      ((Sys.fresh cfg).run steps).worker.lastSyncFailed = false) :
    let r := (normalizeC6N {} steps).2
    let y := (Sys.fresh cfg).run steps
    let y1 := y.step .drop
    let y2 := y1.step (.openWith cfg')
    y1 = (y.step .workerIdle).step .drop ∧ y1.fs = (y.step .workerIdle).fs ∧
    y1.store = none ∧ y1.locked = false ∧ y1.worker.pc = .dead ∧ y1.worker.queue = [] ∧
    ∃ s', y2.store = some s' ∧
      ({ y1 with cfg := cfg' } : Sys).open.1 = .ok () ∧
      ({ y1 with cfg := cfg' } : Sys).open.2.2 = syncEvs y1.fs.linkedIds ∧
      y2.fs = y1.fs.syncAll y1.fs.linkedIds ∧
      s'.st = s.st ∧ s'.st = r.state ∧ s'.log = s.log ∧
      s'.closed.map (·.offsets) ++ [s'.openOffsets] = s.closed.map (·.offsets) ++ [s.openOffsets] ∧
      s'.closed = s.closed ∧ s'.openOffsets = s.openOffsets ∧
      s'.pending = [] ∧ s'.removed = [] ∧ s'.cfg = cfg' ∧
      J y2 ∧ CSys y2 r := by
  obtain ⟨k1, k2, k3, k4, k5, _⟩ := c06_normalize_partial cfg steps hsteps hwf hpurge halive
  exact k4 ▸ c14_busy_drop_then_open cfg cfg' _ _ s k1 k2 k3 k5 (k4 ▸ hs) hp hrem (k4 ▸ hsync)

/-- **C07 for every history of well-formed calls** whose NORMAL FORM appends fresh ids
(`AppendsFresh (normalizeC6N {} steps).1`: only the ACCEPTED appends count): the final
store reports the state of `r := (normalizeC6N {} steps).2`, every `read` and the dump
iterator return exactly `r`'s entries with their payloads; and every call of the
normalised history returned `ok` (calls of `steps` that are not in it returned an error:
they were rejected, C06). -/
theorem c07_reads_with_truncate_any_history_partial (cfg : Cfg) (steps : List Step)
    (hsteps : ∀ st ∈ steps, st.journal = true) (hwf : ∀ op ∈ stepOps steps, op.WF)
    (hpurge : purgesLegalC6N {} steps = true)
    (hfresh : AppendsFresh (normalizeC6N {} steps).1 = true)
    (halive : ((Sys.fresh cfg).run steps).worker.pc ≠ .dead) :
    let r := (normalizeC6N {} steps).2
    (∃ s, ((Sys.fresh cfg).run steps).store = some s ∧ s.st = r.state ∧
      (∀ a b, (s.read ((Sys.fresh cfg).run steps).fs a b).1
          = (r.read a b).map (fun e => ReadItem.ok e.1 e.2)) ∧
      s.iter ((Sys.fresh cfg).run steps).fs = r.entries.map (fun e => ReadItem.ok e.1 e.2)) ∧
    (∀ pre op post, (normalizeC6N {} steps).1 = pre ++ Step.call op :: post →
      ∃ seg, (((Sys.fresh cfg).run pre).call op).1 = .ok seg) := by
  obtain ⟨k1, k2, k3, k4, k5, _⟩ := c06_normalize_partial cfg steps hsteps hwf hpurge halive
  exact k4 ▸ c07_reads_with_truncate cfg _ _ k1 k2 (fun op hop => (k3 op hop).symm) hfresh k5

/-- The same with `AppendsFresh` stated for the ORIGINAL history (every appended id —
accepted or not — above every id appended earlier): it implies `AppendsFresh` of the
normal form (`appendsFresh_normalize_ANY`: normalisation only removes appended ids). -/
theorem c07_reads_with_truncate_any_history_fresh_partial (cfg : Cfg) (steps : List Step)
    (hsteps : ∀ st ∈ steps, st.journal = true) (hwf : ∀ op ∈ stepOps steps, op.WF)
    (hpurge : purgesLegalC6N {} steps = true)
    (hfresh : AppendsFresh steps = true)
    (halive : ((Sys.fresh cfg).run steps).worker.pc ≠ .dead) :
    let r := (normalizeC6N {} steps).2
    (∃ s, ((Sys.fresh cfg).run steps).store = some s ∧ s.st = r.state ∧
      (∀ a b, (s.read ((Sys.fresh cfg).run steps).fs a b).1
          = (r.read a b).map (fun e => ReadItem.ok e.1 e.2)) ∧
      s.iter ((Sys.fresh cfg).run steps).fs = r.entries.map (fun e => ReadItem.ok e.1 e.2)) ∧
    (∀ pre op post, (normalizeC6N {} steps).1 = pre ++ Step.call op :: post →
      ∃ seg, (((Sys.fresh cfg).run pre).call op).1 = .ok seg) :=
  c07_reads_with_truncate_any_history_partial cfg steps hsteps hwf hpurge
    (appendsFresh_normalize_ANY steps {} hfresh) halive

/-- **C03 S4, acknowledged bytes are written and durable** — for every history of
well-formed calls. -/
theorem c03_acked_is_durable_any_history_partial (cfg : Cfg) (steps : List Step)
    (hsteps : ∀ st ∈ steps, st.journal = true) (hwf : ∀ op ∈ stepOps steps, op.WF)
    (hpurge : purgesLegalC6N {} steps = true)
    (halive : ((Sys.fresh cfg).run steps).worker.pc ≠ .dead) :
    let y := (Sys.fresh cfg).run steps
    let A := (Sys.fresh cfg).ackRun steps 0
    ∃ s, y.store = some s ∧ A ≤ s.openEnd ∧
      (∀ offs ∈ s.chunks,
        min (lastOff offs - offs.headD 0) (A - offs.headD 0) ≤ (fdata y.fs (offs.headD 0)).length) ∧
      (∀ offs ∈ s.chunks, ∀ f, y.fs.find (offs.headD 0) = some f →
        min (lastOff offs - offs.headD 0) (A - offs.headD 0) ≤ f.durable) := by
  obtain ⟨k1, k2, k3, k4, k5, k6, _⟩ := c06_normalize_partial cfg steps hsteps hwf hpurge halive
  exact k6 ▸ k4 ▸ c03_acked_is_durable cfg _ _ k1 k2 k3 k5

/-- **C04, a positive callback means written and synced** — for every history
`pre ++ [flush (some i)] ++ mid ++ [st] ++ post` of well-formed calls. -/
theorem c04_positive_callback_means_durable_any_history_partial (cfg : Cfg) (pre mid post : List Step)
    (i : Nat) (st : Step) (s1 : Store)
    (hsteps : ∀ x ∈ pre ++ [.flush (some i)] ++ mid ++ [st] ++ post, x.journal = true)
    (hwf : ∀ op ∈ stepOps (pre ++ [.flush (some i)] ++ mid ++ [st] ++ post), op.WF)
    (hpurge : purgesLegalC6N {} (pre ++ [.flush (some i)] ++ mid ++ [st] ++ post) = true)
    (halive : ((Sys.fresh cfg).run (pre ++ [.flush (some i)] ++ mid ++ [st] ++ post)).worker.pc ≠ .dead)
    (halive2 : ((Sys.fresh cfg).run (pre ++ [.flush (some i)] ++ mid)).worker.pc ≠ .dead)
    (hfresh : ∀ x ∈ pre ++ mid, x ≠ .flush (some i))
    (hs1 : ((Sys.fresh cfg).run pre).store = some s1)
    (hcb : Ev.cb i true ∈ ((Sys.fresh cfg).run (pre ++ [.flush (some i)] ++ mid)).stepEvs st) :
    let y := (Sys.fresh cfg).run (pre ++ [.flush (some i)] ++ mid ++ [st] ++ post)
    ∃ s, y.store = some s ∧ s1.openEnd ≤ s.openEnd ∧
      (∀ offs ∈ s.chunks,
        min (lastOff offs - offs.headD 0) (s1.openEnd - offs.headD 0) ≤ (fdata y.fs (offs.headD 0)).length) ∧
      (∀ offs ∈ s.chunks, ∀ f, y.fs.find (offs.headD 0) = some f →
        min (lastOff offs - offs.headD 0) (s1.openEnd - offs.headD 0) ≤ f.durable) := by
  obtain ⟨hpre, hmid, _⟩ := flush_split_LIFT _ pre mid post _ st hsteps halive
  have hA := c03_acked_flush cfg pre mid post i st s1 hpre hmid hfresh hs1 halive2 hcb
  obtain ⟨s, hs, hle, hw, hd⟩ := c03_acked_is_durable_any_history_partial cfg _ hsteps hwf hpurge halive
  exact ⟨s, hs, Nat.le_trans hA hle, fun offs ho => min_sub_le_of_le hA (hw offs ho),
    fun offs ho f hf => min_sub_le_of_le hA (hd offs ho f hf)⟩

/-- **C03 with the callback** — for every history
`pre ++ [flush (some i)] ++ mid ++ [st] ++ post` of well-formed calls. `W`: the
entry-level writes of the NORMALISED history; the recovered prefix contains every
(accepted) write issued before the flush. -/
theorem c03_acked_writes_survive_any_history_partial (cfg cfg' : Cfg) (pre mid post : List Step) (i : Nat)
    (st : Step)
    (hsteps : ∀ x ∈ pre ++ ([.flush (some i)] ++ mid ++ [st] ++ post), x.journal = true)
    (hwf : ∀ op ∈ stepOps (pre ++ ([.flush (some i)] ++ mid ++ [st] ++ post)), op.WF)
    (hpurge : purgesLegalC6N {} (pre ++ ([.flush (some i)] ++ mid ++ [st] ++ post)) = true)
    (halive : ((Sys.fresh cfg).run (pre ++ ([.flush (some i)] ++ mid ++ [st] ++ post))).worker.pc ≠ .dead)
    (hfresh : ∀ x ∈ pre ++ mid, x ≠ .flush (some i))
    (hcb : Ev.cb i true ∈ ((Sys.fresh cfg).run (pre ++ [.flush (some i)] ++ mid)).stepEvs st)
    (img : Fs)
    (hc : CrashImage ((Sys.fresh cfg).run (pre ++ ([.flush (some i)] ++ mid ++ [st] ++ post))).fs img)
    (s' : Store) (w' : Worker) (fs' : Fs) (evs : List Ev)
    (hopen : openStore cfg' img = (.ok (s', w'), fs', evs)) :
    let W := expandOps {} (stepOps (normalizeC6N {} (pre ++ ([.flush (some i)] ++ mid ++ [st] ++ post))).1)
    ∃ n r', RefLog.run {} (W.take n) = some r' ∧ s'.st = r'.state ∧
      logKeys s'.log = entKeys r'.entries ∧
      (expandOps {} (stepOps (normalizeC6N {} pre).1)).length ≤ n := by
  obtain ⟨n, r', k1, k2, k3, k4⟩ := c03_crash_prefix_any_history_partial cfg cfg' pre _ hsteps hwf
    hpurge halive img hc s' w' fs' evs hopen
  refine ⟨n, r', k1, k2, k3, ?_⟩
  obtain ⟨s1, hs1, hA⟩ := acked_flush_end_C3 cfg pre mid post i st hsteps halive hfresh hcb
  exact k4 s1 hs1 hA

/-- The hypotheses of `c07_reads_with_truncate_any_history_fresh_partial` (and of the C05,
C08 (a), C03 S4 corollaries: they are the first three and the fifth) hold for
`c06NormalExample` — a history with a rejected vote, a batch with a rejected tail, a
refused purge and a rejected `truncate`, for which `RefLog.run` is `none`. -/
example : (∀ st ∈ c06NormalExample, st.journal = true) ∧
    (∀ op ∈ stepOps c06NormalExample, op.WF) ∧
    purgesLegalC6N {} c06NormalExample = true ∧
    AppendsFresh c06NormalExample = true ∧
    ((Sys.fresh {}).run c06NormalExample).worker.pc ≠ .dead ∧
    RefLog.run {} (stepOps c06NormalExample) = none := by
  exact ⟨by decide +kernel, c06NormalExample_wf, by decide +kernel⟩

/-- … and the conclusion, computed: the store reads back the reference log of the normal
form (entry `(1,1)` with payload `[2]`; `(1,0)` is purged). -/
example :
    ((Sys.fresh {}).run c06NormalExample).store.map
      (fun s => (s.read ((Sys.fresh {}).run c06NormalExample).fs 0 10).1) =
    some (((normalizeC6N {} c06NormalExample).2.read 0 10).map (fun e => ReadItem.ok e.1 e.2)) := by
  decide +kernel

end RaftLog
