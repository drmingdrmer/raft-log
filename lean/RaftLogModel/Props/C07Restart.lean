/-
C07 ACROSS RESTARTS — every live entry can be read back, with its original
payload and without error, after any number of clean restarts, whatever cache
limits (0 included) and chunk limits the reopening configurations have; and
after crash recovery.

What `open` does to the payload cache (Model/Open.lean): it replays the chunk
files oldest first; before the records of a chunk are replayed the eviction
boundary is set to the closing `last` of the chunk before it; every `Append`
record replayed is inserted and the cache evicts (ids at or below the boundary,
while over a limit). The last chunk of a clean directory is reused as the open
chunk, its file is the only one the new worker tracks, so afterwards an entry
of that chunk is served from the cache only: it must be RESIDENT. It is
(`openStore_ck_C7c`): an entry of the last chunk
whose id is above the boundary in force is never evicted during replay, is kept
by the truncations and purges of the journal that keep its index entry
(`RecCheck`), and — the crux — its id IS above the boundary: the boundary is the
closing `last` of the last closed chunk.

That last fact is not part of `ReadInvC7b`, which constrains only the file
entries the WORKER holds (a file entry disappears once its file is synced);
`open` reads the boundary from the CHUNK TABLE. The invariant therefore gets one
more clause:

  `ClosedOKC7c B s`: for every closed chunk `c`, `c.state.last ≤ B` (the ghost
  bound) and every index entry with id at or below `c.state.last` lies in `c`
  or an older chunk.

It holds initially, is kept by every journalled record (a fresh id is above
`B`), by chunk rotation (the closing `last` is the current `last ≤ B`, every
entry is in the chunk that closes or an older one), by purge of obsolete chunks,
flush, worker steps, drain — and by drop + open (chunk table and index map are
the same). `ReadInvC7c y r m` = `ReadInvC7b y r m` ∧ `ClosedOKC7c`. Without
`AppendsFresh` the clause fails exactly where C07 fails (finding D2): after a
truncation an id at or below a closing `last` is appended into a later chunk.

After crash RECOVERY the closed-chunk clause must be available for a chunk table
that `open` builds from a crash image — possibly a state the store never was in (a
batch half journalled, dropped chunks whose files are still linked loaded again,
the newest chunk cut and closed). It is therefore derived from a property of the
chunk FILES: the journal is FRESH (`FSysC7c`: every `Append` record is above every
id appended before it and above `purged`), maintained along `AppendsFresh`
histories for the journal with all dropped chunks put back (on top of the
payload-mirroring development of C05) and inherited by every chunk-aligned segment
cut at a record boundary — which is what `open` replays on a crash image.

Quantification: every initial `cfg`; every reopening configuration (any cache
limits, 0 included; any chunk limits); segments of `.call/.flush/.worker out/
.workerIdle/.drain` steps; each segment before a restart ends clean (worker
quiet, nothing pending, no removal outstanding: `Sys.Clean`, the hypothesis of
C02 — a restart from a non-clean state is a crash-like event and not covered
here); `AppendsFresh` over all segments.
-/
import RaftLogModel.Props.C07Trunc
import RaftLogModel.Props.C02
import RaftLogModel.Props.C05Crash
import RaftLogModel.Proofs.ReadRestartCycles
import RaftLogModel.Proofs.ReadRestartRecover
namespace RaftLog

/-- What `ReadInvC7c y r m` says: `ReadInvC7b y r m` (see `c07t_readInv_spec`)
and, with `B = max m r.purged`: the closing `last` of every closed chunk is at
or below `B`, and an index entry with id at or below it lies in that chunk or
an older one. -/
theorem c07r_readInv_spec {y : Sys} {r : RefLog} {m : Option LogId} (h : ReadInvC7c y r m) :
    ReadInvC7b y r m ∧ ∃ s, y.store = some s ∧
      ∀ c ∈ s.closed, optLe c.state.last (optMaxC7b m r.purged) = true ∧
        ∀ x ∈ s.log, optLe (some x.2.id) c.state.last = true → x.2.chunk ≤ c.id := by
  refine ⟨h.toC7b, ?_⟩
  obtain ⟨s, hs, _, _, _, _, hk⟩ := h
  refine ⟨s, hs, fun c hc => ⟨(hk c hc).1, fun x hx hle => ?_⟩⟩
  have := (hk c hc).2 x hx hle
  omega

/-- The freshly opened store satisfies the invariant. -/
theorem c07r_inv_fresh (cfg : Cfg) : ReadInvC7c (Sys.fresh cfg) {} none := fresh_readInv_C7c cfg

/-- Kept by a legal, accepted, small, well-formed call (ANY op) whose appended ids
are above the largest id `m` appended so far. -/
theorem c07r_inv_call (y : Sys) (r r' : RefLog) (m m' : Option LogId) (op : Op) (h : ReadInvC7c y r m)
    (hl : r.legal op = true) (hc : r.call op = .ok r') (hsm : op.small) (hwf : op.WF)
    (hfr : freshOpC7b m op = some m') :
    ReadInvC7c (y.step (.call op)) r' m' ∧ ∃ seg, (y.call op).1 = .ok seg :=
  h.call hl hc hsm hwf hfr

/-- Kept by `flush`. -/
theorem c07r_inv_flush (y : Sys) (r : RefLog) (m : Option LogId) (cb : Option Nat) (h : ReadInvC7c y r m) :
    ReadInvC7c (y.step (.flush cb)) r m := h.flush cb

/-- Kept by a worker step of any outcome, provided the worker is not dead afterwards. -/
theorem c07r_inv_worker (y : Sys) (r : RefLog) (m : Option LogId) (out : Outcome) (h : ReadInvC7c y r m)
    (halive : (y.step (.worker out)).worker.pc ≠ .dead) : ReadInvC7c (y.step (.worker out)) r m :=
  h.worker out halive

/-- Kept by `workerIdle`, provided the worker is not dead afterwards. -/
theorem c07r_inv_workerIdle (y : Sys) (r : RefLog) (m : Option LogId) (h : ReadInvC7c y r m)
    (halive : (y.step .workerIdle).worker.pc ≠ .dead) : ReadInvC7c (y.step .workerIdle) r m :=
  h.workerIdle halive

/-- Kept by `drain`. -/
theorem c07r_inv_drain (y : Sys) (r : RefLog) (m : Option LogId) (h : ReadInvC7c y r m) :
    ReadInvC7c (y.step .drain) r m := h.drain

/-- The invariant along a history from ANY state that satisfies it (e.g. a
reopened store). -/
theorem c07r_inv_history (y : Sys) (steps : List Step) (r r' : RefLog) (m m' : Option LogId)
    (h : ReadInvC7c y r m)
    (hsteps : ∀ st ∈ steps, st.journal = true)
    (hlegal : r.run (stepOps steps) = some r')
    (hops : ∀ op ∈ stepOps steps, op.small ∧ op.WF)
    (hfresh : freshOpsC7b m (stepOps steps) = some m')
    (halive : (y.run steps).worker.pc ≠ .dead) :
    ReadInvC7c (y.run steps) r' m' ∧
    ∀ pre op post, steps = pre ++ Step.call op :: post → ∃ seg, ((y.run pre).call op).1 = .ok seg :=
  run_readInv_C7c steps y r r' m m' h hsteps hlegal hops hfresh halive

/-- **ReadInvC7c ⇒ read = spec read** (through `ReadInvC7b`). -/
theorem c07r_read_of_inv {y : Sys} {r : RefLog} {m : Option LogId} (h : ReadInvC7c y r m) :
    ∃ s, y.store = some s ∧ s.st = r.state ∧
      (∀ a b, (s.read y.fs a b).1 = (r.read a b).map (fun e => ReadItem.ok e.1 e.2)) ∧
      s.iter y.fs = r.entries.map (fun e => ReadItem.ok e.1 e.2) :=
  h.toC7b.read

/-- **A clean restart keeps the read invariant.** `y` satisfies the read invariant (`ReadInvC7c y r m`) and the
replay / linked-files invariants (`CSys y r`), and is clean (worker quiet,
nothing pending, no removal outstanding). Then for EVERY configuration `cfg'`
— any cache limits (0 included), any chunk limits — the system after
`.drop`, `.openWith cfg'` satisfies both invariants again, for the same
reference log and the SAME ghost bound `m`. -/
theorem c07_clean_restart_keeps_read_invariant (y : Sys) (r : RefLog) (m : Option LogId) (cfg' : Cfg)
    (h : ReadInvC7c y r m) (hC : CSys y r) (hc : y.Clean) :
    ReadInvC7c ((y.step .drop).step (.openWith cfg')) r m ∧
      CSys ((y.step .drop).step (.openWith cfg')) r :=
  restart_readInv_C7c y r m cfg' h hC hc

/-- The same in terms of `ReadInvC7b` (the invariant of `c07_reads_with_truncate`)
and of reads: after the restart every `read(a, b)` and the snapshot iterator
return exactly `r`'s entries. -/
theorem c07_clean_restart_reads (y : Sys) (r : RefLog) (m : Option LogId) (cfg' : Cfg)
    (h : ReadInvC7c y r m) (hC : CSys y r) (hc : y.Clean) :
    let y2 := (y.step .drop).step (.openWith cfg')
    ReadInvC7b y2 r m ∧
    ∃ s', y2.store = some s' ∧ s'.st = r.state ∧ s'.cfg = cfg' ∧
      (∀ a b, (s'.read y2.fs a b).1 = (r.read a b).map (fun e => ReadItem.ok e.1 e.2)) ∧
      s'.iter y2.fs = r.entries.map (fun e => ReadItem.ok e.1 e.2) := by
  intro y2
  obtain ⟨h2, _⟩ := restart_readInv_C7c y r m cfg' h hC hc
  obtain ⟨s', hs', hst, hrd, hit⟩ := h2.toC7b.read
  obtain ⟨_, s1, _, k⟩ := restart_eq_LIFT hC hc cfg'
  have : s1 = s' := by
    have e : y2.store = some s1 := by show ((y.step .drop).step _).store = _; rw [k.sys]
    rw [hs'] at e; injection e with e; exact e.symm
  subst this
  exact ⟨h2.toC7b, s1, hs', hst, k.cfgEq, hrd, hit⟩

/-- Which entries are resident / on disk right after the restart: every live
entry of a CLOSED chunk is readable from its chunk file (completely written;
the new worker has nothing in flight), every live entry of the reused OPEN
chunk is resident with its payload — for any cache limits of `cfg'`. -/
theorem c07r_after_restart_resident_or_on_disk (y : Sys) (r : RefLog) (m : Option LogId) (cfg' : Cfg)
    (h : ReadInvC7c y r m) (hC : CSys y r) (hc : y.Clean) :
    let y2 := (y.step .drop).step (.openWith cfg')
    ∃ s', y2.store = some s' ∧ ∀ x ∈ s'.log, ∃ p, (x.2.id, p) ∈ r.entries ∧
      (s'.cache.get x.2.id = some p ∨
        ((∃ c ∈ s'.closed, c.id = x.2.chunk) ∧ y2.worker.inflight x.2.chunk = [] ∧
          ∃ f, y2.fs.find x.2.chunk = some f ∧ x.2.off - x.2.chunk + x.2.size ≤ f.data.length ∧
            (f.data.drop (x.2.off - x.2.chunk)).take x.2.size = encRecord (.append x.2.id p))) := by
  intro y2
  exact (restart_readInv_C7c y r m cfg' h hC hc).1.toC7b.resident_or_on_disk

/-- `AppendsFresh` over the concatenation of all segments' steps and a final
history, as a fold over the ops. -/
theorem c07r_appendsFresh_cycles (segs : List (List Step × Cfg)) (last : List Step) :
    AppendsFresh (cycleStepsC7c segs ++ last) =
      (freshOpsC7b none (cycleOps segs ++ stepOps last)).isSome := by
  unfold AppendsFresh
  rw [stepOps_append, stepOps_cycleSteps_C7c]

/-- The invariants after any number of clean cycles and a final history. -/
theorem c07r_inv_cycles (cfg : Cfg) (segs : List (List Step × Cfg)) (last : List Step) (r : RefLog)
    (hsegs : ∀ seg ∈ segs, ∀ st ∈ seg.1, st.journal = true)
    (hlast : ∀ st ∈ last, st.journal = true)
    (hlegal : RefLog.run {} (cycleOps segs ++ stepOps last) = some r)
    (hops : ∀ op ∈ cycleOps segs ++ stepOps last, op.small ∧ op.WF)
    (hfresh : AppendsFresh (cycleStepsC7c segs ++ last) = true)
    (hclean : CleanCycles (Sys.fresh cfg) segs)
    (halive : (((Sys.fresh cfg).runCycles segs).run last).worker.pc ≠ .dead) :
    ∃ m, freshOpsC7b none (cycleOps segs ++ stepOps last) = some m ∧
      ReadInvC7c (((Sys.fresh cfg).runCycles segs).run last) r m ∧
      CSys (((Sys.fresh cfg).runCycles segs).run last) r ∧
      (∀ pre op post, last = pre ++ Step.call op :: post →
        ∃ sg, ((((Sys.fresh cfg).runCycles segs).run pre).call op).1 = .ok sg) ∧
      (∀ segs1 seg segs2 pre op post, segs = segs1 ++ seg :: segs2 →
        seg.1 = pre ++ Step.call op :: post →
        ∃ sg, ((((Sys.fresh cfg).runCycles segs1).run pre).call op).1 = .ok sg) := by
  rw [c07r_appendsFresh_cycles] at hfresh
  exact cycles_run_C7c segs last _ {} r none (fresh_readInv_C7c cfg) (fresh_CSys cfg) hsegs hlast hlegal hops
    hfresh hclean halive

/-- **C07 across restarts.** For every initial configuration, every
list of segments — each a history of calls (ANY op, `truncate` included),
flushes, worker steps of any outcome, `workerIdle`, `drain` that ends clean and
is followed by `.drop` and `.openWith` ITS OWN configuration (any cache limits,
0 included; any chunk limits) — and every final history `last`: if the calls of
all segments and of `last`, in order, are legal and accepted by the reference
log from the empty log, reaching `r`; every op is small and well-formed; every
appended log id is strictly greater than every log id appended earlier IN THE
WHOLE RUN (`AppendsFresh` of the concatenation of all segments' steps and
`last`); and the worker is alive at the end: then the final store reports `r`'s
state, every `read(a, b)` returns exactly `r`'s entries in `[a, b)` as
`ok id payload` — original payload, no error — and so does the dump iterator;
moreover every call of `last` and of every segment returned `ok`. -/
theorem c07_reads_across_restarts (cfg : Cfg) (segs : List (List Step × Cfg)) (last : List Step)
    (r : RefLog)
    (hsegs : ∀ seg ∈ segs, ∀ st ∈ seg.1, st.journal = true)
    (hlast : ∀ st ∈ last, st.journal = true)
    (hlegal : RefLog.run {} (cycleOps segs ++ stepOps last) = some r)
    (hops : ∀ op ∈ cycleOps segs ++ stepOps last, op.small ∧ op.WF)
    (hfresh : AppendsFresh (cycleStepsC7c segs ++ last) = true)
    (hclean : CleanCycles (Sys.fresh cfg) segs)
    (halive : (((Sys.fresh cfg).runCycles segs).run last).worker.pc ≠ .dead) :
    let y := ((Sys.fresh cfg).runCycles segs).run last
    (∃ s, y.store = some s ∧ s.st = r.state ∧
      (∀ a b, (s.read y.fs a b).1 = (r.read a b).map (fun e => ReadItem.ok e.1 e.2)) ∧
      s.iter y.fs = r.entries.map (fun e => ReadItem.ok e.1 e.2)) ∧
    (∀ pre op post, last = pre ++ Step.call op :: post →
      ∃ sg, ((((Sys.fresh cfg).runCycles segs).run pre).call op).1 = .ok sg) ∧
    (∀ segs1 seg segs2 pre op post, segs = segs1 ++ seg :: segs2 →
      seg.1 = pre ++ Step.call op :: post →
      ∃ sg, ((((Sys.fresh cfg).runCycles segs1).run pre).call op).1 = .ok sg) := by
  intro y
  obtain ⟨m, _, h, _, hc1, hc2⟩ :=
    c07r_inv_cycles cfg segs last r hsegs hlast hlegal hops hfresh hclean halive
  exact ⟨h.toC7b.read, hc1, hc2⟩

/-- **C07 across restarts from ANY state that satisfies the invariants** — e.g. a store that
`open` recovered after a crash (`c07_crash_recovery_keeps_read_invariant` gives
`ReadInvC7c y2 r' m''`, `CSys y2 r'`): any number of clean cycles and a final
history whose calls are legal and accepted from `r0` and whose appended ids are
above the ghost value `m0` and fresh among themselves. -/
theorem c07_reads_across_restarts_from (y0 : Sys) (r0 : RefLog) (m0 : Option LogId)
    (segs : List (List Step × Cfg)) (last : List Step) (r : RefLog)
    (h0 : ReadInvC7c y0 r0 m0) (hC0 : CSys y0 r0)
    (hsegs : ∀ seg ∈ segs, ∀ st ∈ seg.1, st.journal = true)
    (hlast : ∀ st ∈ last, st.journal = true)
    (hlegal : r0.run (cycleOps segs ++ stepOps last) = some r)
    (hops : ∀ op ∈ cycleOps segs ++ stepOps last, op.small ∧ op.WF)
    (hfresh : (freshOpsC7b m0 (cycleOps segs ++ stepOps last)).isSome = true)
    (hclean : CleanCycles y0 segs)
    (halive : ((y0.runCycles segs).run last).worker.pc ≠ .dead) :
    let y := (y0.runCycles segs).run last
    (∃ s, y.store = some s ∧ s.st = r.state ∧
      (∀ a b, (s.read y.fs a b).1 = (r.read a b).map (fun e => ReadItem.ok e.1 e.2)) ∧
      s.iter y.fs = r.entries.map (fun e => ReadItem.ok e.1 e.2)) ∧
    (∃ m, ReadInvC7c y r m ∧ CSys y r) ∧
    (∀ pre op post, last = pre ++ Step.call op :: post →
      ∃ sg, (((y0.runCycles segs).run pre).call op).1 = .ok sg) ∧
    (∀ segs1 seg segs2 pre op post, segs = segs1 ++ seg :: segs2 →
      seg.1 = pre ++ Step.call op :: post →
      ∃ sg, (((y0.runCycles segs1).run pre).call op).1 = .ok sg) := by
  intro y
  obtain ⟨m, _, k1, k3, k2, g3⟩ :=
    cycles_run_C7c segs last y0 r0 r m0 h0 hC0 hsegs hlast hlegal hops hfresh hclean halive
  exact ⟨k1.toC7b.read, ⟨m, k1, k3⟩, k2, g3⟩

/-- With no segment this is `c07_reads_with_truncate`. -/
theorem c07_reads_with_truncate_of_across_restarts (cfg : Cfg) (steps : List Step) (r : RefLog)
    (hsteps : ∀ st ∈ steps, st.journal = true)
    (hlegal : RefLog.run {} (stepOps steps) = some r)
    (hops : ∀ op ∈ stepOps steps, op.small ∧ op.WF)
    (hfresh : AppendsFresh steps = true)
    (halive : ((Sys.fresh cfg).run steps).worker.pc ≠ .dead) :
    (∃ s, ((Sys.fresh cfg).run steps).store = some s ∧ s.st = r.state ∧
      (∀ a b, (s.read ((Sys.fresh cfg).run steps).fs a b).1
          = (r.read a b).map (fun e => ReadItem.ok e.1 e.2)) ∧
      s.iter ((Sys.fresh cfg).run steps).fs = r.entries.map (fun e => ReadItem.ok e.1 e.2)) ∧
    (∀ pre op post, steps = pre ++ Step.call op :: post →
      ∃ seg, (((Sys.fresh cfg).run pre).call op).1 = .ok seg) := by
  obtain ⟨h1, h2, _⟩ := c07_reads_across_restarts cfg [] steps r (by intro seg hs; cases hs) hsteps
    hlegal hops hfresh trivial halive
  exact ⟨h1, h2⟩

/-- **The reopening configurations are invisible to readers.** Two runs with
the same segments' steps and the same final history but DIFFERENT reopening
configurations (other cache limits, other chunk limits): the final stores report
the same state and return the same reads and the same snapshot. -/
theorem c07r_reopen_cfgs_invisible (cfg : Cfg) (segs1 segs2 : List (List Step × Cfg)) (last : List Step)
    (r : RefLog)
    (hsame : segs1.map (·.1) = segs2.map (·.1))
    (hsegs : ∀ seg ∈ segs1, ∀ st ∈ seg.1, st.journal = true)
    (hlast : ∀ st ∈ last, st.journal = true)
    (hlegal : RefLog.run {} (cycleOps segs1 ++ stepOps last) = some r)
    (hops : ∀ op ∈ cycleOps segs1 ++ stepOps last, op.small ∧ op.WF)
    (hfresh : AppendsFresh (cycleStepsC7c segs1 ++ last) = true)
    (hclean1 : CleanCycles (Sys.fresh cfg) segs1) (hclean2 : CleanCycles (Sys.fresh cfg) segs2)
    (halive1 : (((Sys.fresh cfg).runCycles segs1).run last).worker.pc ≠ .dead)
    (halive2 : (((Sys.fresh cfg).runCycles segs2).run last).worker.pc ≠ .dead) :
    let y1 := ((Sys.fresh cfg).runCycles segs1).run last
    let y2 := ((Sys.fresh cfg).runCycles segs2).run last
    ∃ s1 s2, y1.store = some s1 ∧ y2.store = some s2 ∧ s1.st = s2.st ∧
      (∀ a b, (s1.read y1.fs a b).1 = (s2.read y2.fs a b).1) ∧ s1.iter y1.fs = s2.iter y2.fs := by
  intro y1 y2
  have e1 : cycleStepsC7c segs1 = cycleStepsC7c segs2 := by
    rw [cycleSteps_eq_C7c, cycleSteps_eq_C7c, hsame]
  have e2 : cycleOps segs1 = cycleOps segs2 := by
    rw [← stepOps_cycleSteps_C7c, ← stepOps_cycleSteps_C7c, e1]
  have hsegs2 : ∀ seg ∈ segs2, ∀ st ∈ seg.1, st.journal = true := by
    intro seg hseg st hst
    have : seg.1 ∈ segs2.map (·.1) := List.mem_map.mpr ⟨seg, hseg, rfl⟩
    rw [← hsame] at this
    obtain ⟨seg', hseg', he⟩ := List.mem_map.mp this
    exact hsegs seg' hseg' st (by rw [he]; exact hst)
  exact reads_agree
    (c07_reads_across_restarts cfg segs1 last r hsegs hlast hlegal hops hfresh hclean1 halive1).1
    (c07_reads_across_restarts cfg segs2 last r hsegs2 hlast (by rw [← e2]; exact hlegal)
      (by rw [← e2]; exact hops) (by rw [← e1]; exact hfresh) hclean2 halive2).1

/-- What `CrashReadInvC7c y r W A E K m` is: the crash invariant of C05
(`c05_crashInv_spec`), the journal-freshness invariant `FSysC7c y r W m`, and the
read invariant `ReadInvC7c y r m`.

`FSysC7c` (Proofs/ReadRestartJournal.lean, ReadRestartFresh.lean) says that the
journal of the store with ALL chunks dropped so far put back is a FRESH journal
with ghost value `m`: it starts with a `State` record and after it every `Append`
record carries an id above the largest id appended before it and above `purged`,
every further `State` record (chunk heads, user data) keeps `last` and `purged`.
It is a property of the chunk FILES, so it survives a crash: the journal `open`
replays on a crash image is a chunk-aligned segment of it, cut at a record
boundary. From it the closed-chunk clause of `ReadInvC7c` is read off for the
recovered chunk table (`closedOK_of_journal_C7c`). -/
theorem c07r_crashReadInv_spec (y : Sys) (r : RefLog) (W : List Op) (A E K : Nat) (m : Option LogId) :
    CrashReadInvC7c y r W A E K m ↔
      CrashInvC5b y r W A E K ∧ FSysC7c y r W m ∧ ReadInvC7c y r m := Iff.rfl

/-- It holds for a freshly opened store. -/
theorem c07r_crashReadInv_fresh (cfg : Cfg) : CrashReadInvC7c (Sys.fresh cfg) {} [] 0 0 0 none :=
  fresh_crashReadInv_C7c cfg

/-- **Kept by `AppendsFresh` histories** from ANY state that satisfies it (e.g. a
recovered store): calls legal and accepted by the reference log (well-formed,
small) whose appended ids are above the ghost value `m`, flushes, worker steps of
any outcome, `workerIdle`, `drain`, worker alive at the end. Every call returns
`ok`. -/
theorem c07r_crashReadInv_history (steps : List Step) (y : Sys) (r r' : RefLog) (W : List Op)
    (A E K : Nat) (m m' : Option LogId) (h : CrashReadInvC7c y r W A E K m)
    (hsteps : ∀ st ∈ steps, st.journal = true)
    (hr : r.run (stepOps steps) = some r') (hwf : ∀ op ∈ stepOps steps, op.WF ∧ op.small)
    (hfr : freshOpsC7b m (stepOps steps) = some m')
    (hnd : (y.run steps).worker.pc ≠ .dead) :
    CrashReadInvC7c (y.run steps) r' (W ++ expandOps r (stepOps steps)) (y.ackRun steps A) E K m' ∧
    ∀ pre op post, steps = pre ++ Step.call op :: post → ∃ seg, ((y.run pre).call op).1 = .ok seg :=
  run_crashReadInv_C7c steps y r r' W A E K m m' h hsteps hr hwf hfr hnd

/-- **Crash recovery re-establishes the read invariant.** `y` satisfies `CrashReadInvC7c` (a state reached by `AppendsFresh`
histories and crash + recovery rounds); `img` is a crash image of its directory
without torn predecessor (the hypothesis of C05, finding D11); `cfg'` is ANY
configuration with `truncate = true` — any cache limits, 0 included. Then `open`
succeeds, and with `y2` the system it builds there are `n`, `r'`, `A'`, `m''`
such that the first `n` entry-level writes reach `r'` (`n` covers the tracked write
count `K` if the tracked position `E` is acknowledged), `m'' ≤ m`, and `y2`
satisfies `CrashReadInvC7c` again — for `r'`, the first `n` writes and `m''` — and
is clean. In particular (`ReadInvC7c y2 r' m''`) every read of the recovered store
returns exactly `r'`'s entries — whether recovery reused the newest chunk (its
entries are resident), cut a torn tail and started a fresh chunk, or removed a
chunk file without a complete record. -/
theorem c07_crash_recovery_keeps_read_invariant {y : Sys} {r : RefLog} {W : List Op} {A E K : Nat}
    {m : Option LogId} (h : CrashReadInvC7c y r W A E K m) (img : Fs) (hc : CrashImage y.fs img)
    (hnt : NoTornPredecessor img) (cfg' : Cfg) (htr : cfg'.truncate = true) :
    let y2 := (({ fs := img, cfg := cfg' } : Sys).open).2.1
    (({ fs := img, cfg := cfg' } : Sys).open).1 = .ok () ∧
    ∃ s' n r' A' m'', y2.store = some s' ∧ RefLog.run {} (W.take n) = some r' ∧ (E ≤ A → K ≤ n) ∧
      optLe m'' m = true ∧
      CrashReadInvC7c y2 r' (W.take n) A' s'.openEnd n m'' ∧ CSys y2 r' ∧ y2.Clean ∧ s'.cfg = cfg' ∧
      s'.st = r'.state ∧
      (∀ a b, (s'.read y2.fs a b).1 = (r'.read a b).map (fun e => ReadItem.ok e.1 e.2)) ∧
      s'.iter y2.fs = r'.entries.map (fun e => ReadItem.ok e.1 e.2) := by
  intro y2
  obtain ⟨h1, h2, _⟩ := h
  obtain ⟨s', w', fs', evs, n, r', A', m'', q1, q2, q3, q4, q5, q6, q7, hcl, q8⟩ :=
    recover_readInv_C7c h1 h2 hc hnt cfg' htr
  have hopen := open_eq_recovered_C5b q1
  have hy2 : y2 = recoveredSysC5b cfg' s' w' fs' := by
    show (({ fs := img, cfg := cfg' } : Sys).open).2.1 = _
    rw [hopen]
  obtain ⟨s1, hs1, hst, hrd, hit⟩ := q5.toC7b.read
  have : s1 = s' := by
    simp only [recoveredSysC5b, Option.some.injEq] at hs1; exact hs1.symm
  subst this
  refine ⟨by rw [hopen], s1, n, r', A', m'', by rw [hy2]; rfl, q2, q3, q6,
    by rw [hy2]; exact ⟨q4, q7, q5⟩, by rw [hy2]; exact q4.csys, ?_, q8, hst, ?_, ?_⟩
  · rw [hy2]; exact hcl
  · rw [hy2]; exact hrd
  · rw [hy2]; exact hit

/-- **Reads after crash recovery, for histories from a freshly opened store** (the hypotheses of
`c05_recovered_store_is_consistent`, plus `AppendsFresh`). The history is split as
`pre ++ post` (think of `pre` as the history up to an acknowledged flush). `img`
is a crash image of the final directory without torn predecessor,
`cfg'.truncate = true`, ANY cache limits. Then `open` returns `ok`, and with `y2`
the system it builds there are `n`, `r'`, `m''` such that the first `n` entry-level
writes of the history reach `r'`, `n` covers every write issued before a point of
the history whose journal end is acknowledged, and the recovered store reports
`r'`'s state and returns exactly `r'`'s entries — original payloads, no error — for
every `read(a, b)` and for the snapshot iterator. Moreover `y2` satisfies the
invariants (`CrashReadInvC7c`, `CSys`, clean), so the theorem applies again to
every `AppendsFresh` continuation (`c07_reads_after_recovery_continue`). -/
theorem c07_reads_after_crash_recovery (cfg cfg' : Cfg) (pre post : List Step) (r : RefLog)
    (hsteps : ∀ st ∈ pre ++ post, st.journal = true)
    (hlegal : RefLog.run {} (stepOps (pre ++ post)) = some r)
    (hwf : ∀ op ∈ stepOps (pre ++ post), op.WF ∧ op.small)
    (hfresh : AppendsFresh (pre ++ post) = true)
    (halive : ((Sys.fresh cfg).run (pre ++ post)).worker.pc ≠ .dead)
    (img : Fs) (hc : CrashImage ((Sys.fresh cfg).run (pre ++ post)).fs img)
    (htr : cfg'.truncate = true) (hnt : NoTornPredecessor img) :
    let W := expandOps {} (stepOps (pre ++ post))
    let A := (Sys.fresh cfg).ackRun (pre ++ post) 0
    let y2 := (({ fs := img, cfg := cfg' } : Sys).open).2.1
    (({ fs := img, cfg := cfg' } : Sys).open).1 = .ok () ∧
    ∃ s' n r' A' m m'', y2.store = some s' ∧ RefLog.run {} (W.take n) = some r' ∧
      (∀ s1, ((Sys.fresh cfg).run pre).store = some s1 → s1.openEnd ≤ A →
        (expandOps {} (stepOps pre)).length ≤ n) ∧
      freshOpsC7b none (stepOps (pre ++ post)) = some m ∧ optLe m'' m = true ∧
      CrashReadInvC7c y2 r' (W.take n) A' s'.openEnd n m'' ∧ CSys y2 r' ∧ y2.Clean ∧ s'.cfg = cfg' ∧
      s'.st = r'.state ∧
      (∀ a b, (s'.read y2.fs a b).1 = (r'.read a b).map (fun e => ReadItem.ok e.1 e.2)) ∧
      s'.iter y2.fs = r'.entries.map (fun e => ReadItem.ok e.1 e.2) := by
  intro W A y2
  obtain ⟨m, hm⟩ := Option.isSome_iff_exists.mp hfresh
  obtain ⟨s1, hs1, hci⟩ := reach_CrashInv_at_C5b cfg pre post r hsteps hlegal hwf halive
  have hF : FSysC7c ((Sys.fresh cfg).run (pre ++ post)) r W m := by
    have := run_FSys_C7c (pre ++ post) (Sys.fresh cfg) {} r [] none m (fresh_FSys_C7c cfg) hsteps
      hlegal hwf halive hm
    simpa using this
  have hR : ReadInvC7c ((Sys.fresh cfg).run (pre ++ post)) r m :=
    (run_readInv_C7c (pre ++ post) (Sys.fresh cfg) {} r none m (fresh_readInv_C7c cfg) hsteps hlegal
      (fun op hop => ⟨(hwf op hop).2, (hwf op hop).1⟩) hm halive).1
  obtain ⟨k1, s', n, r', A', m'', k2, k3, k4, k5, k6, k7, k8, k9, k10, k11, k12⟩ :=
    c07_crash_recovery_keeps_read_invariant ⟨hci, hF, hR⟩ img hc hnt cfg' htr
  refine ⟨k1, s', n, r', A', m, m'', k2, k3, ?_, hm, k5, k6, k7, k8, k9, k10, k11, k12⟩
  intro s1' hs1' hle
  rw [hs1] at hs1'
  injection hs1' with hs1'
  subst hs1'
  exact k4 hle

/-- **Every `AppendsFresh` continuation after a recovery.** `y2` satisfies
`CrashReadInvC7c` for `r'` with ghost value `m''` (e.g. the recovered system of the
two theorems above). For every further history `more` of calls — legal and
accepted from `r'`, reaching `r2`; well-formed, small; their appended ids above
`m''`, e.g. above every id appended before the crash (`m'' ≤ m`) — flushes, worker
steps of any outcome, `workerIdle`, `drain`, with the worker alive at the end: the
final store reports `r2`'s state, every read and the snapshot iterator return
exactly `r2`'s entries, every call returned `ok`, and the invariant holds again
for some ghost value `m3` (no bound on `m3` is stated). -/
theorem c07_reads_after_recovery_continue (y2 : Sys) (r' r2 : RefLog) (W : List Op) (A E K : Nat)
    (m m'' m2 : Option LogId) (more : List Step)
    (h : CrashReadInvC7c y2 r' W A E K m'') (hle : optLe m'' m = true)
    (hmore : ∀ st ∈ more, st.journal = true)
    (hlegal2 : r'.run (stepOps more) = some r2) (hwf2 : ∀ op ∈ stepOps more, op.WF ∧ op.small)
    (hfr : freshOpsC7b m (stepOps more) = some m2)
    (halive2 : (y2.run more).worker.pc ≠ .dead) :
    (∃ s2, (y2.run more).store = some s2 ∧ s2.st = r2.state ∧
      (∀ a b, (s2.read (y2.run more).fs a b).1 = (r2.read a b).map (fun e => ReadItem.ok e.1 e.2)) ∧
      s2.iter (y2.run more).fs = r2.entries.map (fun e => ReadItem.ok e.1 e.2)) ∧
    (∀ a op b, more = a ++ Step.call op :: b → ∃ seg, ((y2.run a).call op).1 = .ok seg) ∧
    ∃ m3, CrashReadInvC7c (y2.run more) r2 (W ++ expandOps r' (stepOps more)) (y2.ackRun more A) E K m3 := by
  obtain ⟨m3, hm3, _⟩ := freshOps_mono_C7c (stepOps more) m m'' m2 hle hfr
  obtain ⟨k1, k2⟩ := run_crashReadInv_C7c more y2 r' r2 W A E K m'' m3 h hmore hlegal2 hwf2 hm3 halive2
  exact ⟨k1.2.2.toC7b.read, k2, m3, k1⟩

/-- The initial configuration: chunks rotate after five records, the payload
cache may hold nothing. -/
def c07rCfg0 : Cfg := { maxRecords := 5, cacheItems := 0, cacheCap := 0 }

/-- First segment: appends in term 1 fill chunk 0 (rotation), a truncation and
re-appends in term 2 go to chunk 148; flushes, a short write, `drain`; ends
clean. -/
def c07rSeg1 : List Step :=
  [ .call (.saveVote ⟨1, 7⟩),
    .call (.append [(⟨1, 0⟩, [1, 2, 3]), (⟨1, 1⟩, [4]), (⟨1, 2⟩, [5, 6])]),
    .flush none,
    .workerIdle,
    .call (.truncate 1),
    .call (.append [(⟨2, 1⟩, [9]), (⟨2, 2⟩, [8, 8])]),
    .flush none, .worker .ok, .worker (.short 3), .drain,
    .workerIdle ]

/-- The first reopening configuration: cache limits 0, other chunk limits. -/
def c07rCfg1 : Cfg := { maxRecords := 3, cacheItems := 0, cacheCap := 0 }

/-- Second segment (on the reopened store): one more append — the reused open
chunk is full under the new limit and rotates; ends clean. -/
def c07rSeg2 : List Step :=
  [ .call (.append [(⟨2, 3⟩, [4])]), .flush (some 1), .workerIdle ]

/-- The second reopening configuration: one cache entry, no bytes. -/
def c07rCfg2 : Cfg := { maxRecords := 4, cacheItems := 1, cacheCap := 0 }

/-- Final history: a truncation and a re-append in a higher term; not flushed
completely. -/
def c07rLast : List Step :=
  [ .call (.truncate 3), .call (.append [(⟨4, 3⟩, [1, 1])]), .flush none, .worker .ok ]

def c07rSegs : List (List Step × Cfg) := [(c07rSeg1, c07rCfg1), (c07rSeg2, c07rCfg2)]

/-- The hypotheses of `c07_reads_across_restarts` hold for two cycles and the
final history; the reference log ends with four live entries, three of them
(re-)appended after a truncation. -/
example :
    (∀ seg ∈ c07rSegs, ∀ st ∈ seg.1, st.journal = true) ∧
    (∀ st ∈ c07rLast, st.journal = true) ∧
    RefLog.run {} (cycleOps c07rSegs ++ stepOps c07rLast) = some
      { vote := some ⟨1, 7⟩, last := some ⟨4, 3⟩, committed := none, purged := none,
        entries := [(⟨1, 0⟩, [1, 2, 3]), (⟨2, 1⟩, [9]), (⟨2, 2⟩, [8, 8]), (⟨4, 3⟩, [1, 1])] } ∧
    (∀ op ∈ cycleOps c07rSegs ++ stepOps c07rLast, op.small ∧ op.WF) ∧
    AppendsFresh (cycleStepsC7c c07rSegs ++ c07rLast) = true ∧
    CleanCycles (Sys.fresh c07rCfg0) c07rSegs ∧
    (((Sys.fresh c07rCfg0).runCycles c07rSegs).run c07rLast).worker.pc ≠ .dead := by
  decide +kernel

/- The implementation side, computed by the model. Right after the FIRST
restart (cache limits 0): the open chunk 148 was reused; its two live entries
`(2, 1)`, `(2, 2)` are resident although the cache "may hold nothing" (the
boundary is `(1, 2)`, the closing `last` of chunk 0), entry `(1, 0)` of the closed
chunk 0 was evicted during replay and is served from the chunk file. -/
set_option maxRecDepth 100000 in
example :
    ∃ s, ((Sys.fresh c07rCfg0).runCycles [(c07rSeg1, c07rCfg1)]).store = some s ∧
      s.cfg = c07rCfg1 ∧ s.openId = 148 ∧ s.closed.map Closed.id = [0] ∧
      s.log.map (fun e => (e.2.id, e.2.chunk)) = [(⟨1, 0⟩, 0), (⟨2, 1⟩, 148), (⟨2, 2⟩, 148)] ∧
      s.cache.items = [(⟨2, 1⟩, [9]), (⟨2, 2⟩, [8, 8])] ∧
      s.cache.lastEvictable = some ⟨1, 2⟩ ∧
      (s.read ((Sys.fresh c07rCfg0).runCycles [(c07rSeg1, c07rCfg1)]).fs 0 10).1 =
        [ReadItem.ok ⟨1, 0⟩ [1, 2, 3], ReadItem.ok ⟨2, 1⟩ [9], ReadItem.ok ⟨2, 2⟩ [8, 8]] ∧
      (s.read ((Sys.fresh c07rCfg0).runCycles [(c07rSeg1, c07rCfg1)]).fs 0 10).2.miss = 1 := by
  decide +kernel

/- At the end of the whole run (two restarts, then the final history): the reads
are those of the reference log. -/
set_option maxRecDepth 100000 in
example :
    ∃ s, (((Sys.fresh c07rCfg0).runCycles c07rSegs).run c07rLast).store = some s ∧
      (s.read (((Sys.fresh c07rCfg0).runCycles c07rSegs).run c07rLast).fs 0 10).1 =
        [ReadItem.ok ⟨1, 0⟩ [1, 2, 3], ReadItem.ok ⟨2, 1⟩ [9], ReadItem.ok ⟨2, 2⟩ [8, 8],
          ReadItem.ok ⟨4, 3⟩ [1, 1]] ∧
      s.iter (((Sys.fresh c07rCfg0).runCycles c07rSegs).run c07rLast).fs =
        [ReadItem.ok ⟨1, 0⟩ [1, 2, 3], ReadItem.ok ⟨2, 1⟩ [9], ReadItem.ok ⟨2, 2⟩ [8, 8],
          ReadItem.ok ⟨4, 3⟩ [1, 1]] := by
  decide +kernel

/-- Chunks rotate after six records, the payload cache may hold nothing. -/
def c07rCrashCfg : Cfg := { maxRecords := 6, cacheItems := 0, cacheCap := 0 }

/-- Appends in term 1, a truncation (its record fills chunk 0: rotation to chunk
177), re-appends in term 2, an acknowledged flush; then one more append whose
record is only partly written (a short write of 7 of its 33 bytes, not synced). -/
def c07rCrashHist : List Step :=
  [ .call (.saveVote ⟨1, 7⟩),
    .call (.append [(⟨1, 0⟩, [1, 2, 3]), (⟨1, 1⟩, [4]), (⟨1, 2⟩, [5, 6])]),
    .flush none,
    .workerIdle,
    .call (.truncate 1),
    .call (.append [(⟨2, 1⟩, [9]), (⟨2, 2⟩, [8, 8])]),
    .flush (some 1), .workerIdle,
    .call (.append [(⟨2, 3⟩, [4])]), .flush none, .worker .ok, .worker (.short 7) ]

/-- The reopening configuration after the crash: cache limits 0. -/
def c07rCrashCfg' : Cfg := { maxRecords := 3, cacheItems := 0, cacheCap := 0 }

/-- The hypotheses of `c07_reads_after_crash_recovery` hold for this history
(with `pre` = everything up to the acknowledged flush), for the process-crash image
(the torn record survives as 7 bytes) and for the worst power-failure image (chunk
177 cut to its 117 durable bytes); chunk 0 has 177 bytes, all durable, the
acknowledged position 294 covers the start of the newest chunk. -/
example :
    (∀ st ∈ c07rCrashHist, st.journal = true) ∧
    (RefLog.run {} (stepOps c07rCrashHist)).isSome = true ∧
    (∀ op ∈ stepOps c07rCrashHist, op.WF ∧ op.small) ∧
    AppendsFresh c07rCrashHist = true ∧
    ((Sys.fresh c07rCrashCfg).run c07rCrashHist).worker.pc ≠ .dead ∧
    ((Sys.fresh c07rCrashCfg).run c07rCrashHist).fs.map
      (fun f => (f.id, f.data.length, f.durable, f.linked)) = [(0, 177, 177, true), (177, 124, 117, true)] ∧
    CrashImage ((Sys.fresh c07rCrashCfg).run c07rCrashHist).fs
      (procCrash ((Sys.fresh c07rCrashCfg).run c07rCrashHist).fs) ∧
    CrashImage ((Sys.fresh c07rCrashCfg).run c07rCrashHist).fs
      (powerCrash ((Sys.fresh c07rCrashCfg).run c07rCrashHist).fs) ∧
    NoTornPredecessor (procCrash ((Sys.fresh c07rCrashCfg).run c07rCrashHist).fs) ∧
    NoTornPredecessor (powerCrash ((Sys.fresh c07rCrashCfg).run c07rCrashHist).fs) ∧
    c07rCrashCfg'.truncate = true := by
  have hwf : ∀ op ∈ stepOps c07rCrashHist, op.WF ∧ op.small := by decide +kernel
  have hsys : (∀ st ∈ c07rCrashHist, st.journal = true) ∧
      (RefLog.run {} (stepOps c07rCrashHist)).isSome = true ∧
      AppendsFresh c07rCrashHist = true ∧
      ((Sys.fresh c07rCrashCfg).run c07rCrashHist).worker.pc ≠ .dead ∧
      ((Sys.fresh c07rCrashCfg).run c07rCrashHist).fs.map
        (fun f => (f.id, f.data.length, f.durable, f.linked)) = [(0, 177, 177, true), (177, 124, 117, true)] ∧
      (∀ f ∈ ((Sys.fresh c07rCrashCfg).run c07rCrashHist).fs, f.durable ≤ f.data.length) ∧
      ∃ s, ((Sys.fresh c07rCrashCfg).run c07rCrashHist).store = some s ∧
        s.openId ≤ (Sys.fresh c07rCrashCfg).ackRun c07rCrashHist 0 := by
    decide +kernel
  obtain ⟨hj, hsome, hfr, hal, hfs, hdur, s, hs, hA⟩ := hsys
  obtain ⟨r, hr⟩ := Option.isSome_iff_exists.mp hsome
  have h1 := procCrash_image _ hdur
  have h2 := powerCrash_image _ hdur
  have key := fun img hc =>
    c05_no_torn_predecessor_when_synced c07rCrashCfg c07rCrashHist r s hj hr hwf hal hs hA img hc
  exact ⟨hj, hsome, hwf, hfr, hal, hfs, h1, h2, key _ h1, key _ h2, rfl⟩

/- The conclusion, computed by the model. After the PROCESS crash `open` cuts the
torn tail of chunk 177 and creates the fresh chunk 294; the entry `(2, 3)` is lost
(it was never acknowledged); the three surviving entries are read back — `(1, 0)`
from the file of chunk 0 (evicted during replay), `(2, 1)` and `(2, 2)` still
resident (the boundary during the replay of chunk 177 was `(1, 0)`). -/
set_option maxRecDepth 100000 in
example :
    (({ fs := procCrash ((Sys.fresh c07rCrashCfg).run c07rCrashHist).fs, cfg := c07rCrashCfg' } : Sys).open).1
      = .ok () ∧
    ∃ s, (({ fs := procCrash ((Sys.fresh c07rCrashCfg).run c07rCrashHist).fs,
             cfg := c07rCrashCfg' } : Sys).open).2.1.store = some s ∧
      s.closed.map Closed.id = [0, 177] ∧ s.openId = 294 ∧
      s.cache.items = [(⟨2, 1⟩, [9]), (⟨2, 2⟩, [8, 8])] ∧
      (s.read (({ fs := procCrash ((Sys.fresh c07rCrashCfg).run c07rCrashHist).fs,
                  cfg := c07rCrashCfg' } : Sys).open).2.1.fs 0 10).1 =
        [ReadItem.ok ⟨1, 0⟩ [1, 2, 3], ReadItem.ok ⟨2, 1⟩ [9], ReadItem.ok ⟨2, 2⟩ [8, 8]] := by
  decide +kernel

/- After the worst POWER failure chunk 177 ends at a record boundary: `open`
reuses it as the open chunk (no file is touched); its two live entries are
resident although the cache limits are 0 (the boundary is `(1, 0)`, the closing
`last` of chunk 0), and the reads are the same. -/
set_option maxRecDepth 100000 in
example :
    ∃ s, (({ fs := powerCrash ((Sys.fresh c07rCrashCfg).run c07rCrashHist).fs,
             cfg := c07rCrashCfg' } : Sys).open).2.1.store = some s ∧
      s.closed.map Closed.id = [0] ∧ s.openId = 177 ∧
      s.log.map (fun e => (e.2.id, e.2.chunk)) = [(⟨1, 0⟩, 0), (⟨2, 1⟩, 177), (⟨2, 2⟩, 177)] ∧
      s.cache.items = [(⟨2, 1⟩, [9]), (⟨2, 2⟩, [8, 8])] ∧ s.cache.lastEvictable = some ⟨1, 0⟩ ∧
      (s.read (({ fs := powerCrash ((Sys.fresh c07rCrashCfg).run c07rCrashHist).fs,
                  cfg := c07rCrashCfg' } : Sys).open).2.1.fs 0 10).1 =
        [ReadItem.ok ⟨1, 0⟩ [1, 2, 3], ReadItem.ok ⟨2, 1⟩ [9], ReadItem.ok ⟨2, 2⟩ [8, 8]] := by
  decide +kernel

/-- The history of the known finding (D2, `c07Counter`): `(1, 1)` is re-appended
after `(1, 2)` had been appended; here with chunks of four records (the three
appends fill chunk 0, closing `last = (1, 2)`; the truncation and the re-append
go to chunk 117) and the DEFAULT cache limits, ending clean. -/
def c07rCounter : List Step :=
  [ .call (.append [(⟨1, 0⟩, [1]), (⟨1, 1⟩, [2]), (⟨1, 2⟩, [3])]),
    .call (.truncate 1),
    .call (.append [(⟨1, 1⟩, [9])]),
    .flush none, .workerIdle ]

/- All hypotheses of `c07_reads_across_restarts` except `AppendsFresh` hold. With
the default limits the running store never evicts anything and reads correctly.
After a CLEAN restart with cache limits 0 the re-appended entry `(1, 1)` — in the
reused open chunk 117, at or below the boundary `(1, 2)` that `open` publishes —
has been evicted during replay, and `read` returns `notFound` for it. (With one
cache slot it survives.) Same root cause as `c07Counter`; the restart is one more
way to reach it, also for stores whose cache never was under pressure. -/
set_option maxRecDepth 100000 in
example :
    AppendsFresh c07rCounter = false ∧
    (∀ st ∈ c07rCounter, st.journal = true) ∧
    (RefLog.run {} (stepOps c07rCounter)).map (·.entries) = some [(⟨1, 0⟩, [1]), (⟨1, 1⟩, [9])] ∧
    ((Sys.fresh { maxRecords := 4 }).run c07rCounter).cleanB = true ∧
    (((Sys.fresh { maxRecords := 4 }).run c07rCounter).store.map
      (fun s => (s.read ((Sys.fresh { maxRecords := 4 }).run c07rCounter).fs 0 10).1))
      = some [ReadItem.ok ⟨1, 0⟩ [1], ReadItem.ok ⟨1, 1⟩ [9]] ∧
    ((((Sys.fresh { maxRecords := 4 }).run c07rCounter).step .drop).step
        (.openWith { maxRecords := 4, cacheItems := 0, cacheCap := 0 })).store.map
      (fun s => ((s.read ((Sys.fresh { maxRecords := 4 }).run c07rCounter).fs 0 10).1,
        s.cache.lastEvictable, s.openId, s.log.map (fun e => (e.2.id, e.2.chunk))))
      = some ([ReadItem.ok ⟨1, 0⟩ [1], ReadItem.err .notFound], some ⟨1, 2⟩, 117,
          [(⟨1, 0⟩, 0), (⟨1, 1⟩, 117)]) ∧
    ((((Sys.fresh { maxRecords := 4 }).run c07rCounter).step .drop).step
        (.openWith { maxRecords := 4, cacheItems := 1 })).store.map
      (fun s => (s.read ((Sys.fresh { maxRecords := 4 }).run c07rCounter).fs 0 10).1)
      = some [ReadItem.ok ⟨1, 0⟩ [1], ReadItem.ok ⟨1, 1⟩ [9]] := by
  decide +kernel

end RaftLog
