/-
C13 — A directory is owned by at most one store or dump at a time.

The model of the lock is one flag (`flock(LOCK_EX|LOCK_NB)` on the `LOCK`
file, taken as the first action of both constructors and released when the
owner is dropped). Assumption (trusted, exercised by the `lockrace` monitor of
the harness with threads and processes): the kernel grants an exclusive
`flock` to at most one open file description at a time and releases it on
`unlock`/close. What is proved is the protocol on top of it.
-/
import RaftLogModel.Proofs.WorkerSys
import RaftLogModel.Proofs.ReplayLog
namespace RaftLog

/-- Steps of several would-be owners acting on one directory. -/
inductive LStep
  | sys (st : Step)
  | dumpOpen
  | dumpDrop
deriving Repr

def Sys.lstep (y : Sys) : LStep → Sys
  | .sys st => y.step st
  | .dumpOpen => y.dumpOpen.2
  | .dumpDrop => y.dumpDrop

/-- The lock is held exactly while there is an owner, and there is never a
store and a dump at the same time. -/
structure LockInv (y : Sys) : Prop where
  owner_locks : (y.store.isSome ∨ y.dump = true) → y.locked = true
  lock_owned : y.locked = true → (y.store.isSome ∨ y.dump = true)
  exclusive : ¬ (y.store.isSome ∧ y.dump = true)

/-- A refused `RaftLog::open` changes nothing at all: no file-system event, no
state change. -/
theorem c13_refused_open_is_noop (y : Sys) (h : y.locked = true) :
    y.open = (.err .locked, y, []) := by
  rcases y.open_cases with ⟨_, e⟩ | ⟨hl, _⟩ | ⟨hl, _⟩ | ⟨hl, _⟩
  · exact e
  all_goals exact absurd h (by simp [hl])

/-- A refused `Dump::new` changes nothing. -/
theorem c13_refused_dump_is_noop (y : Sys) (h : y.locked = true) :
    y.dumpOpen = (.err .locked, y) := by
  simp [Sys.dumpOpen, h]

/-- While one owner exists every other attempt is refused. -/
theorem c13_attempt_while_owned_refused (y : Sys) (hinv : LockInv y)
    (howned : y.store.isSome ∨ y.dump = true) :
    y.open.1 = .err .locked ∧ y.dumpOpen.1 = .err .locked ∧ y.open.2.1 = y ∧ y.dumpOpen.2 = y := by
  have hl := hinv.owner_locks howned
  simp [c13_refused_open_is_noop y hl, c13_refused_dump_is_noop y hl]

theorem openChunk_not_locked (cfg : Cfg) (id : Nat) (data : Bytes) :
    openChunk cfg id data ≠ .error .locked := by
  unfold openChunk
  dsimp only
  split
  · simp
  · split <;> simp
  · split <;> simp

/-- `RState.apply` fails only with a reversal or a gap, never with `locked`. -/
theorem RState.apply_not_locked (st : RState) (r : Record) : st.apply r ≠ .err .locked := by
  intro hst
  rcases st.apply_cases r with h1 | ⟨k, h1, hk⟩ | ⟨_, _, h1, _⟩
  · rw [h1] at hst
    cases hst
  · rw [h1] at hst
    cases hst
    exact absurd hk (by decide)
  · rw [h1] at hst
    cases hst

theorem replay_not_locked (chunk : Nat) (rs : List Record) (offs : List Nat) (s : Store) :
    replay chunk rs offs s ≠ .err .locked := by
  induction rs generalizing offs s with
  | nil => simp [replay]
  | cons r rest ih =>
    match offs with
    | [] => simp [replay]
    | [_] => simp [replay]
    | o1 :: o2 :: os =>
      simp only [replay]
      cases h : s.smApply r chunk ⟨o1, o2 - o1⟩ with
      | ok s' => simp only; exact ih _ _
      | panic m => simp
      | err k =>
        simp only
        intro hk
        injection hk with hk
        subst hk
        exact RState.apply_not_locked _ r (Store.smApply_err h)

theorem openLoop_not_locked (cfg : Cfg) (ids : List Nat) (a : OpenAcc) :
    (openLoop cfg ids a).1 ≠ .err .locked := by
  induction ids generalizing a with
  | nil => exact fun h => nomatch h
  | cons id rest ih =>
    have hstep := openLoop_cons cfg id rest a
    generalize openLoop cfg (id :: rest) a = r at hstep
    cases hstep with
    | chunkErr _ _ hoc => exact fun h => openChunk_not_locked _ _ _ (by cases h; exact hoc)
    | replayErr _ _ _ hr => exact fun h => replay_not_locked _ _ _ _ (by cases h; exact hr)
    | keep => exact ih _
    | _ => intro h; cases h

theorem openStore_not_locked (cfg : Cfg) (fs : Fs) : (openStore cfg fs).1 ≠ .err .locked := by
  have he := openStore_end cfg fs
  have hl := openLoop_not_locked cfg fs.linkedIds { sm := emptyStore cfg, fs := fs }
  generalize openLoop cfg fs.linkedIds { sm := emptyStore cfg, fs := fs } = l at he hl
  generalize openStore cfg fs = r at he
  cases he with
  | err k a => exact fun h => hl (by cases h; rfl)
  | _ => intro h; cases h

theorem lockInv_init : LockInv ({} : Sys) :=
  ⟨by simp, by simp, by simp⟩

theorem LockInv.of_flags {y y' : Sys} (h : LockInv y) (hs : y'.store.isSome = y.store.isSome)
    (hl : y'.locked = y.locked) (hd : y'.dump = y.dump) : LockInv y' :=
  ⟨by rw [hs, hl, hd]; exact h.owner_locks, by rw [hs, hl, hd]; exact h.lock_owned,
    by rw [hs, hd]; exact h.exclusive⟩

theorem LockInv.free {y : Sys} (hs : y.store = none) (hl : y.locked = false) (hd : y.dump = false) :
    LockInv y :=
  ⟨by simp [hs, hd], by simp [hl], by simp [hs]⟩

theorem LockInv.unowned {y : Sys} (h : LockInv y) (hl : y.locked = false) :
    y.store = none ∧ y.dump = false := by
  have hns : ¬ (y.store.isSome ∨ y.dump = true) := fun ho => by simp [h.owner_locks ho] at hl
  constructor
  · cases hs : y.store
    · rfl
    · exact absurd (.inl (by simp [hs])) hns
  · cases hd : y.dump
    · rfl
    · exact absurd (.inr hd) hns

theorem lockInv_step (y : Sys) (st : LStep) (hinv : LockInv y) : LockInv (y.lstep st) := by
  cases st with
  | dumpOpen =>
    simp only [Sys.lstep, Sys.dumpOpen]
    rcases Bool.eq_false_or_eq_true y.locked with hl | hl
    · rw [if_pos hl]; exact hinv
    · obtain ⟨hs, _⟩ := hinv.unowned hl
      rw [if_neg (by simp [hl])]
      exact ⟨fun _ => rfl, fun _ => .inr rfl, fun h => by simp [hs] at h⟩
  | dumpDrop =>
    simp only [Sys.lstep, Sys.dumpDrop]
    rcases Bool.eq_false_or_eq_true y.dump with hd | hd
    · rw [if_pos hd]
      refine .free ?_ rfl rfl
      cases hs : y.store
      · rfl
      · exact absurd ⟨by simp [hs], hd⟩ hinv.exclusive
    · rw [if_neg (by simp [hd])]; exact hinv
  | sys st =>
    simp only [Sys.lstep]
    by_cases hdrop : st = .drop
    · subst hdrop
      cases hs : y.store with
      | none => rw [Sys.step_no_store hs rfl]; exact hinv
      | some s0 =>
        show LockInv y.dropStore.1
        rw [y.dropStore_eq hs]
        refine .free rfl rfl ?_
        cases hd : y.dump
        · rfl
        · exact absurd ⟨by simp [hs], hd⟩ hinv.exclusive
    by_cases hopen : ∃ cfg, st = .openWith cfg
    · obtain ⟨cfg, rfl⟩ := hopen
      show LockInv ({ y with cfg := cfg } : Sys).open.2.1
      rcases Sys.open_cases { y with cfg := cfg } with ⟨_, e⟩ | ⟨hl, _, _, _, _, _, e⟩ | ⟨hl, _, _, _, _, e⟩ |
        ⟨hl, _, _, _, _, e⟩ <;> rw [e]
      · exact hinv.of_flags rfl rfl rfl
      · exact ⟨fun _ => rfl, fun _ => .inl rfl, fun h => by simp [(hinv.unowned hl).2] at h⟩
      · exact .free (hinv.unowned hl).1 hl (hinv.unowned hl).2
      · exact .free (hinv.unowned hl).1 hl (hinv.unowned hl).2
    · obtain ⟨h1, h2, h3⟩ := y.step_flags st (fun cfg h => hopen ⟨cfg, h⟩) hdrop
      exact hinv.of_flags h1 h2 h3

/-- **At most one owner** in every reachable state, for every interleaving of
open / dump / drop / writes / worker steps. -/
theorem c13_at_most_one_owner (steps : List LStep) :
    LockInv (steps.foldl Sys.lstep {}) := by
  have : ∀ (y : Sys), LockInv y → LockInv (steps.foldl Sys.lstep y) := by
    induction steps with
    | nil => intro y h; exact h
    | cons st rest ih => intro y h; exact ih _ (lockInv_step y st h)
  exact this {} lockInv_init

/-- **Once the owner is dropped the lock is free** … -/
theorem c13_after_drop_unlocked (y : Sys) (hs : y.store.isSome) : (y.dropStore.1).locked = false := by
  obtain ⟨s, h⟩ := Option.isSome_iff_exists.mp hs
  rw [y.dropStore_eq h]

/-- … and an attempt on a free lock is never refused for the lock (it may
still fail for what it finds in the directory). -/
theorem c13_free_lock_not_refused (y : Sys) (h : y.locked = false) :
    y.open.1 ≠ .err .locked ∧ y.dumpOpen.1 = .ok () := by
  constructor
  · -- `openStore` has no `locked` error: its error kinds come from the files
    rcases y.open_cases with ⟨hl, _⟩ | ⟨_, _, _, _, _, _, e⟩ | ⟨_, k, _, _, ho, e⟩ | ⟨_, _, _, _, _, e⟩
    · exact absurd hl (by simp [h])
    · rw [e]; simp
    · rw [e]
      intro hk
      obtain rfl : k = .locked := by injection hk
      exact openStore_not_locked y.cfg y.fs (by rw [ho])
    · rw [e]; simp
  · simp [Sys.dumpOpen, h]

theorem c13_after_dump_drop_unlocked (y : Sys) (hd : y.dump = true) : y.dumpDrop.locked = false := by
  simp [Sys.dumpDrop, hd]

/-- Non-vacuity: a store is live, the second open is refused and leaves everything as it was. -/
example : ((Sys.fresh {}).open).1 = .err .locked := by decide

end RaftLog
