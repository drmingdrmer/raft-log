/-
C16 for reads and recovery — no reachable state makes `read`, the dump
iterator or a clean reopen panic.

`loadPayload` (the cache-miss path of `read` / `dump_data().iter()`) has two
`panic` branches: the bytes at the recorded position decode to a record that
is not an `Append`, or to an `Append` with another log id. The theorems below
show they are unreachable in every state that satisfies the replay invariant
of C02 (`RSys`), hence after every history of legal, accepted, well-formed,
small calls — `truncate` INCLUDED — flushes, worker steps of any outcome,
`workerIdle`, `drain` and clean restarts (drop + reopen with any
configuration), as long as the worker is alive: for all `a b` (also `b < a`,
also values ≥ 2^64 — `Nat`), every item of `read a b` and of `iter` is `ok` or
`err`.

More precisely (`c16_lookup_trichotomy`): for every index entry `d`, a lookup
that misses the cache returns `err notFound` (no closed chunk with that id: the
record is still in the open chunk), `err eof` (the chunk file is still too
short: the record is in flight), or `ok d.id p` where `(d.id, p)` is a live
entry of the reference log (the bytes read are exactly the encoding of the
entry's own `Append` record). The errors are the known finding of C07
(`c07_reads_partial`: they do occur after `truncate`); panics never occur.

Recovery: `c16_open_no_panic_clean` — at every clean point of such a history
`drop` + `open cfg'` returns `ok` (so it does not panic), for every `cfg'`.
`c16_open_no_panic_reachable` — at EVERY point of such a history (worker in the
middle of a batch, bytes pending or in flight, removals outstanding), for every
`cfg'`: `open` on the files as they are does not panic, and `drop` followed by
`open cfg'` does not panic. Reason: every chunk file — live, scheduled for
removal, already unlinked — always holds a prefix of the encoding of small
well-formed records (`SmallJ`: journalled records of
small ops are small, head `State` records carry the small `purged`/`last` of a
`PanicFree` store); `drop` only appends bytes that were in flight; so `FsSmall`
holds and `c05_open_no_panic_partial` applies.
-/
import RaftLogModel.Proofs.ReadNoPanic
import RaftLogModel.Proofs.SmallJournalSys
import RaftLogModel.Proofs.OpDecide
import RaftLogModel.Props.C02
import RaftLogModel.Props.C06Sys
import RaftLogModel.Props.C07
namespace RaftLog

/-- **Trichotomy of a cache miss** under the replay invariant. -/
theorem c16_lookup_trichotomy {y : Sys} {r : RefLog} (h : RSys y r) :
    ∃ s, y.store = some s ∧ ∀ x ∈ s.log,
      loadPayload s.closed y.fs x.2 = .err .notFound ∨
      loadPayload s.closed y.fs x.2 = .err .eof ∨
      ∃ p, (x.2.id, p) ∈ r.entries ∧ loadPayload s.closed y.fs x.2 = .ok x.2.id p := by
  obtain ⟨s, hs, _, hinv⟩ := h
  exact ⟨s, hs, hinv.lookupOK⟩

/-- **No read panics** under the replay invariant: every item of every
`read a b` and of the dump iterator is a value or an error. -/
theorem c16_read_no_panic_of_inv {y : Sys} {r : RefLog} (h : RSys y r) :
    ∃ s, y.store = some s ∧
      (∀ a b, ReadItem.panic ∉ (s.read y.fs a b).1) ∧ ReadItem.panic ∉ s.iter y.fs := by
  obtain ⟨s, hs, _, hinv⟩ := h
  exact ⟨s, hs, fun a b hm => hinv.read_fine a b _ hm, fun hm => hinv.iter_fine _ hm⟩

/-- **C16, reads, reachable states** (the histories of `c02_replay_invariant`,
which include those of `c07_inv_reachable` and allow `truncate`): no item of
`read a b` (any `a b`) or of `iter` is `ReadItem.panic`. -/
theorem c16_read_no_panic_reachable (cfg : Cfg) (steps : List Step) (r : RefLog)
    (hsteps : ∀ st ∈ steps, st.journal = true)
    (hlegal : RefLog.run {} (stepOps steps) = some r)
    (hwf : ∀ op ∈ stepOps steps, op.WF ∧ op.small)
    (halive : ((Sys.fresh cfg).run steps).worker.pc ≠ .dead) :
    ∃ s, ((Sys.fresh cfg).run steps).store = some s ∧
      (∀ a b, ReadItem.panic ∉ (s.read ((Sys.fresh cfg).run steps).fs a b).1) ∧
      ReadItem.panic ∉ s.iter ((Sys.fresh cfg).run steps).fs :=
  c16_read_no_panic_of_inv (c02_replay_invariant cfg steps r hsteps hlegal hwf halive)

/-- The histories of `c07_inv_reachable` are among them. -/
theorem c16_read_no_panic_c07 (cfg : Cfg) (steps : List Step) (r : RefLog)
    (hsteps : ∀ st ∈ steps, st.journal = true)
    (hlegal : RefLog.run {} (stepOps steps) = some r)
    (hops : ∀ op ∈ stepOps steps, op.c07)
    (halive : ((Sys.fresh cfg).run steps).worker.pc ≠ .dead) :
    ∃ s, ((Sys.fresh cfg).run steps).store = some s ∧
      (∀ a b, ReadItem.panic ∉ (s.read ((Sys.fresh cfg).run steps).fs a b).1) ∧
      ReadItem.panic ∉ s.iter ((Sys.fresh cfg).run steps).fs :=
  c16_read_no_panic_reachable cfg steps r hsteps hlegal
    (fun op hop => ⟨(hops op hop).2.1, (hops op hop).1⟩) halive

/-- **… and across clean restarts**: any number of segments ending clean, each
followed by drop + reopen with its own configuration, then a final history. -/
theorem c16_read_no_panic_cycles (cfg : Cfg) (segs : List (List Step × Cfg)) (last : List Step)
    (r : RefLog)
    (hsegs : ∀ seg ∈ segs, ∀ st ∈ seg.1, st.journal = true)
    (hlast : ∀ st ∈ last, st.journal = true)
    (hlegal : RefLog.run {} (cycleOps segs ++ stepOps last) = some r)
    (hwf : ∀ op ∈ cycleOps segs ++ stepOps last, op.WF ∧ op.small)
    (hclean : CleanCycles (Sys.fresh cfg) segs)
    (halive : (((Sys.fresh cfg).runCycles segs).run last).worker.pc ≠ .dead) :
    let y := ((Sys.fresh cfg).runCycles segs).run last
    ∃ s, y.store = some s ∧
      (∀ a b, ReadItem.panic ∉ (s.read y.fs a b).1) ∧ ReadItem.panic ∉ s.iter y.fs ∧
      ∀ x ∈ s.log,
        loadPayload s.closed y.fs x.2 = .err .notFound ∨
        loadPayload s.closed y.fs x.2 = .err .eof ∨
        ∃ p, (x.2.id, p) ∈ r.entries ∧ loadPayload s.closed y.fs x.2 = .ok x.2.id p := by
  intro y
  obtain ⟨_, _, _, _, _, hC⟩ := c02_cycles cfg segs last r hsegs hlast hlegal hwf hclean halive
  obtain ⟨s, hs, h1, h2⟩ := c16_read_no_panic_of_inv hC.1
  obtain ⟨s', hs', h3⟩ := c16_lookup_trichotomy hC.1
  rw [hs] at hs'; cases hs'
  exact ⟨s, hs, h1, h2, h3⟩

/-- **`open` after a clean drop never panics** (it returns `ok`), for every
new configuration: from the invariants alone … -/
theorem c16_open_no_panic_of_inv (y : Sys) (r : RefLog) (cfg' : Cfg) (h : CSys y r) (hc : y.Clean) :
    ({ (y.step .drop) with cfg := cfg' } : Sys).open.1 = .ok () ∧
    ∀ m, (openStore cfg' (y.step .drop).fs).1 ≠ .panic m := by
  obtain ⟨_, _, _, k⟩ := restart_eq_LIFT h hc cfg'
  refine ⟨by rw [k.open_eq], fun m hm => ?_⟩
  rw [hc.drop_fs h, k.openStore_eq] at hm
  cases hm

/-- … and on reachable states: after any number of clean cycles and a final
history that ends clean, `drop` + `open cfg'` returns `ok`. -/
theorem c16_open_no_panic_clean (cfg cfg' : Cfg) (segs : List (List Step × Cfg)) (last : List Step)
    (r : RefLog)
    (hsegs : ∀ seg ∈ segs, ∀ st ∈ seg.1, st.journal = true)
    (hlast : ∀ st ∈ last, st.journal = true)
    (hlegal : RefLog.run {} (cycleOps segs ++ stepOps last) = some r)
    (hwf : ∀ op ∈ cycleOps segs ++ stepOps last, op.WF ∧ op.small)
    (hclean : CleanCycles (Sys.fresh cfg) segs)
    (halive : (((Sys.fresh cfg).runCycles segs).run last).worker.pc ≠ .dead)
    (hc : (((Sys.fresh cfg).runCycles segs).run last).Clean) :
    let y1 := (((Sys.fresh cfg).runCycles segs).run last).step .drop
    ({ y1 with cfg := cfg' } : Sys).open.1 = .ok () ∧ ∀ m, (openStore cfg' y1.fs).1 ≠ .panic m := by
  intro y1
  obtain ⟨_, _, _, _, _, hC⟩ := c02_cycles cfg segs last r hsegs hlast hlegal hwf hclean halive
  exact c16_open_no_panic_of_inv _ r cfg' hC hc

theorem cycles_smallSys (segs : List (List Step × Cfg)) : ∀ (y : Sys) (r r' : RefLog), CSys y r →
    SmallSys y →
    (∀ seg ∈ segs, ∀ st ∈ seg.1, st.journal = true) → r.run (cycleOps segs) = some r' →
    (∀ op ∈ cycleOps segs, op.WF ∧ op.small) → CleanCycles y segs →
    SmallSys (y.runCycles segs) ∧ CSys (y.runCycles segs) r' :=
  cycles_induct_ref (Q := fun y _ => SmallSys y) (fun y r r1 seg h hS hst hr hwf hnd h1 hc =>
    restart_SmallSys _ r1 seg.2 h1
      (run_SmallSys_D12 seg.1 y h.1.J h.1.pf hS hst (fun op hop => (hwf op hop).1) hnd) hc) segs

/-- From the invariants: the files as they are, and the files `drop` leaves,
satisfy `FsSmall`; neither `open` panics. -/
theorem c16_open_no_panic_of_small (y : Sys) (r : RefLog) (cfg' : Cfg) (h : RSys y r)
    (hS : SmallSys y) (hset : y.worker.settle = y.worker) :
    FsSmall y.fs ∧ FsSmall (y.step .drop).fs ∧
    (∀ m, (openStore cfg' y.fs).1 ≠ .panic m) ∧
    (∀ m, ({ (y.step .drop) with cfg := cfg' } : Sys).open.1 ≠ .panic m) :=
  hS.open_no_panic h.J hset cfg'

/-- **C16, recovery, reachable states.** At every point of a history of legal,
accepted, well-formed, small calls, flushes, worker steps of any outcome,
`workerIdle`, `drain` and clean restarts with a live worker — NOT only at clean
points — and for every configuration `cfg'`:
* every linked chunk file parses to small records (`FsSmall`), before and after
  `drop`;
* `open cfg'` on the files as they are does not panic;
* `drop` followed by `open cfg'` does not panic (`drop` lets the worker finish
  what is queued; the pending buffer is lost). -/
theorem c16_open_no_panic_reachable (cfg cfg' : Cfg) (segs : List (List Step × Cfg))
    (last : List Step) (r : RefLog)
    (hsegs : ∀ seg ∈ segs, ∀ st ∈ seg.1, st.journal = true)
    (hlast : ∀ st ∈ last, st.journal = true)
    (hlegal : RefLog.run {} (cycleOps segs ++ stepOps last) = some r)
    (hwf : ∀ op ∈ cycleOps segs ++ stepOps last, op.WF ∧ op.small)
    (hclean : CleanCycles (Sys.fresh cfg) segs)
    (halive : (((Sys.fresh cfg).runCycles segs).run last).worker.pc ≠ .dead) :
    let y := ((Sys.fresh cfg).runCycles segs).run last
    FsSmall y.fs ∧ FsSmall (y.step .drop).fs ∧
    (∀ m, (openStore cfg' y.fs).1 ≠ .panic m) ∧
    (∀ m, ({ (y.step .drop) with cfg := cfg' } : Sys).open.1 ≠ .panic m) := by
  intro y
  obtain ⟨r1, hr1, hlegal⟩ := RefLog.run_append_some.mp hlegal
  obtain ⟨hS1, hC1⟩ := cycles_smallSys segs (Sys.fresh cfg) {} r1 (fresh_CSys cfg)
    (fresh_SmallSys cfg) hsegs hr1 (fun op hop => hwf op (List.mem_append_left _ hop)) hclean
  have hwf2 : ∀ op ∈ stepOps last, op.WF ∧ op.small :=
    fun op hop => hwf op (List.mem_append_right _ hop)
  have hC : CSys y r := run_CSys last _ r1 r hC1 hlast hlegal hwf2 halive
  have hS : SmallSys y := run_SmallSys_D12 last _ hC1.1.J hC1.1.pf hS1 hlast (fun op hop => (hwf2 op hop).1) halive
  have hset : y.Settled :=
    Sys.run_settled last _ (Sys.runCycles_settled segs _ (Sys.fresh_settled cfg))
  exact c16_open_no_panic_of_small y r cfg' hC.1 hS hset

/-- The same for a single history from a freshly opened store. -/
theorem c16_open_no_panic_history (cfg cfg' : Cfg) (steps : List Step) (r : RefLog)
    (hsteps : ∀ st ∈ steps, st.journal = true)
    (hlegal : RefLog.run {} (stepOps steps) = some r)
    (hwf : ∀ op ∈ stepOps steps, op.WF ∧ op.small)
    (halive : ((Sys.fresh cfg).run steps).worker.pc ≠ .dead) :
    let y := (Sys.fresh cfg).run steps
    (∀ m, (openStore cfg' y.fs).1 ≠ .panic m) ∧
    (∀ m, ({ (y.step .drop) with cfg := cfg' } : Sys).open.1 ≠ .panic m) := by
  intro y
  obtain ⟨_, _, h3, h4⟩ := c16_open_no_panic_reachable cfg cfg' [] steps r
    (fun seg hseg => by cases hseg) hsteps (by simpa [cycleOps] using hlegal)
    (by simpa [cycleOps] using hwf) trivial halive
  exact ⟨h3, h4⟩

/- The truncate counterexample of C07 satisfies the hypotheses of
`c16_read_no_panic_reachable`; its read returns an error item (`err eof`), not a
panic — computed by the model. -/
set_option maxRecDepth 100000 in
example :
    (∀ st ∈ c07Counter, st.journal = true) ∧
    (RefLog.run {} (stepOps c07Counter)).isSome = true ∧
    ((Sys.fresh c07Cfg).run c07Counter).worker.pc ≠ .dead ∧
    ∃ s, ((Sys.fresh c07Cfg).run c07Counter).store = some s ∧
      (s.read ((Sys.fresh c07Cfg).run c07Counter).fs 0 10).1 =
        [ReadItem.ok ⟨1, 0⟩ [1], ReadItem.err .eof] := by
  decide +kernel

example : ∀ op ∈ stepOps c07Counter, op.WF ∧ op.small := by decide +kernel

/-- A history that is NOT clean at its end — the worker is in the middle of a
batch after a short write, two purged chunks are still scheduled for removal —
satisfies the hypotheses of `c16_open_no_panic_history`. -/
def c16DropExample : List Step :=
  [ .call (.append [(⟨1, 0⟩, [1]), (⟨1, 1⟩, [2]), (⟨1, 2⟩, [3])]), .flush none, .worker .ok,
    .worker (.short 3), .call (.purge ⟨1, 1⟩), .call (.saveVote ⟨1, 1⟩) ]

example :
    (∀ st ∈ c16DropExample, st.journal = true) ∧
    (RefLog.run {} (stepOps c16DropExample)).isSome = true ∧
    ((Sys.fresh c07Cfg).run c16DropExample).worker.pc ≠ .dead ∧
    ((Sys.fresh c07Cfg).run c16DropExample).worker.quiet = false ∧
    ((Sys.fresh c07Cfg).run c16DropExample).store.map (·.removed) = some [0, 51] := by
  decide +kernel

example : ∀ op ∈ stepOps c16DropExample, op.WF ∧ op.small := by decide +kernel

end RaftLog
