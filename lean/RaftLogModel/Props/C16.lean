/-
C16 — No argument makes a public operation panic.

Every panic site of the implementation that can be reached from the public
write API is an explicit `Res.panic` branch of the model (`next_log_index`
overflow, `last_segment` on a record-less chunk). The theorems below show
those branches are unreachable for *every* argument value as long as no log
index equals u64::MAX (`smallId`). For that class (defect D12 of DESIGN.md §7)
`append` and `purge` refuse the id with `InvalidInput` (`c16_u64_max_is_refused`),
so the property holds for every well-formed argument:
`c16_call_no_panic`, `c16_history_no_panic` in Props/C16All2.lean. The `_partial`
theorems carry the hypothesis `small`.
-/
import RaftLogModel.Proofs.SysBasic
import RaftLogModel.Proofs.NoPanic
import RaftLogModel.Model.Sys
namespace RaftLog

/-- One call: never a panic, and the invariant that makes the next call safe
is kept — for all vote/commit arguments, all truncate indexes (0, below the
purge point, u64::MAX …), all purge and append ids with `index ≠ u64::MAX`. -/
theorem c16_call_no_panic_partial (s : Store) (fsHas : Nat → Bool) (op : Op)
    (hp : PanicFree s) (hop : op.small) :
    (∀ m, (s.call fsHas op).1 ≠ .panic m) ∧ PanicFree (s.call fsHas op).2.1 :=
  call_no_panic fsHas op hp hop.indexU64

/-- A freshly opened store satisfies the invariant. -/
theorem c16_fresh_panicFree (cfg : Cfg) : ∃ s, (Sys.fresh cfg).store = some s ∧ PanicFree s := by
  rw [Sys.fresh_eq]
  exact ⟨_, rfl, .fresh cfg⟩

/-- Every history of calls with such arguments from a fresh store: no call in
it panics (by induction over the history). -/
theorem c16_history_no_panic_partial (fsHas : Nat → Bool) (ops : List Op) (s : Store)
    (hp : PanicFree s) (hops : ∀ op ∈ ops, op.small) :
    ∀ pre op post, ops = pre ++ op :: post →
      ∀ m, ((pre.foldl (fun s o => (s.call fsHas o).2.1) s).call fsHas op).1 ≠ .panic m :=
  history_no_panic_of fsHas (fun _ op hp h => call_no_panic fsHas op hp h.indexU64) ops s hp hops

/-- `read(from, to)` with `to ≤ from` (inverted or empty range) yields nothing. -/
theorem c16_read_inverted_empty (s : Store) (fs : Fs) (a b : Nat) (h : b ≤ a) :
    (s.read fs a b).1 = [] := by
  unfold Store.read
  have : s.log.filter (fun e => decide (a ≤ e.1) && decide (e.1 < b)) = [] := by
    apply List.filter_eq_nil_iff.mpr
    intro e _
    simp
    omega
  simp [this, readLoop]

/-- `truncate` below or at the purge point is an error, never a panic: the
`index - 1` of the implementation is guarded (D4). -/
theorem c16_truncate_zero_is_error (s : Store) (fsHas : Nat → Bool) (p : LogId)
    (hp : s.st.purged = some p) (hsm : smallId p) :
    (s.call fsHas (.truncate 0)).1 = .err .indexNotFound := by
  have h : p.index + 1 < U64 := hsm
  simp [Store.call, hp, nextIndexChecked, h]

/-- The same for any id whose index is u64::MAX, stated with `index + 1 = U64`. -/
theorem c16_u64_max_is_refused' (s : Store) (fsHas : Nat → Bool) (id : LogId)
    (hidx : id.index + 1 = U64) :
    s.call fsHas (.purge id) = (.err .invalidInput, s, []) ∧
    (2 ≤ s.openOffsets.length → ∀ p rest,
      s.call fsHas (.append ((id, p) :: rest)) = (.err .invalidInput, s, [])) := by
  refine ⟨call_purge_refused_D12 s fsHas _ hidx, ?_⟩
  intro h2 p rest
  obtain ⟨seg, hseg⟩ := lastSegment_some h2
  rw [s.call_append fsHas _ hseg]
  exact appendBatch_cons_refused_D12 fsHas _ p rest s seg [] hidx

/-- **D12: ids with index u64::MAX are refused** (defect D12 of DESIGN.md §7,
corpus/C16/purge-u64-max.script: such a purge or append would overflow in
`next_log_index`). For EVERY store, every
term, every payload and every rest of the batch: `purge (term, u64::MAX)` and
`append [((term, u64::MAX), p), …]` return `InvalidInput`, return the store
unchanged and emit no effect. (`append` looks at the open chunk's last segment
first — `2 ≤ s.openOffsets.length`, part of `PanicFree`, true for every open
store.) -/
theorem c16_u64_max_is_refused (s : Store) (fsHas : Nat → Bool) (term : Nat) :
    s.call fsHas (.purge ⟨term, 2 ^ 64 - 1⟩) = (.err .invalidInput, s, []) ∧
    (2 ≤ s.openOffsets.length → ∀ p rest,
      s.call fsHas (.append ((⟨term, 2 ^ 64 - 1⟩, p) :: rest)) = (.err .invalidInput, s, [])) :=
  c16_u64_max_is_refused' s fsHas ⟨term, 2 ^ 64 - 1⟩ (by show 2 ^ 64 - 1 + 1 = 2 ^ 64; omega)

/-- Checked by evaluation on the empty store and on a freshly opened store (which
has an open chunk with a head record, as `append` needs). -/
theorem c16_u64_max_is_refused_witness :
    (emptyStore {}).call (fun _ => false) (.purge ⟨1, 2 ^ 64 - 1⟩)
      = (.err .invalidInput, emptyStore {}, []) ∧
    (Sys.fresh {}).store.map (fun s => s.call (fun _ => false) (.purge ⟨1, 2 ^ 64 - 1⟩))
      = (Sys.fresh {}).store.map (fun s => (.err .invalidInput, s, [])) ∧
    (Sys.fresh {}).store.map (fun s => s.call (fun _ => false) (.append [(⟨1, 2 ^ 64 - 1⟩, [1])]))
      = (Sys.fresh {}).store.map (fun s => (.err .invalidInput, s, [])) := by
  decide +kernel

/-- The overflow branch inside `append_and_apply` is part of the model
(`Types::next_log_index` is a checked add); the public API does not reach it:
`purge`/`append` refuse the id first (`c16_u64_max_is_refused`). -/
theorem c16_internal_overflow_branch :
    ((emptyStore {}).appendAndApply (fun _ => false) (.purgeUpto ⟨1, 2 ^ 64 - 1⟩)).1
      = .panic "next_log_index overflow (apply)" := by
  decide +kernel

end RaftLog
