/-
C16 without `small` (D12) — no argument makes a public operation panic.

`RaftLog::append` (per entry) and `RaftLog::purge` refuse a log id whose index is
u64::MAX with `InvalidInput` (D12; `c16_u64_max_is_refused`, Props/C16.lean). That
id class is the ONLY reason for the hypothesis `Op.small` in the `_partial`
theorems of Props/C16.lean, Props/C16Read.lean (recovery part) and
`c05_recovery_never_panics`. Here the theorems are proved without it: the only
requirement on arguments is `Op.WF` — log ids
and votes are pairs of u64, payloads are shorter than 2^32 — i.e. what the Rust
types enforce anyway. No reference log, no legality, no acceptance: the calls of
a history may be accepted, rejected by the state, or refused.
Covered: one call on a `PanicFree` store; histories (calls, flushes, worker steps of any
outcome — the worker may die —, `workerIdle`, `drain`, from `Sys.fresh cfg`); recovery
(`open` on the directory as it is, `drop` + `open`, `open` on ANY crash image: the journal
contains small records only, `SmallJ` is kept by EVERY well-formed call).

Not covered here: reads (`c16_read_no_panic_*`) and clean-restart cycles keep
their reference-log hypotheses (they rest on the replay invariant `RSys`).
-/
import RaftLogModel.Props.C05
import RaftLogModel.Props.C16All
import RaftLogModel.Proofs.SmallJournalSys
import RaftLogModel.Proofs.OpDecide
namespace RaftLog

/-- **C16, one call, every argument.** On a store satisfying `PanicFree` (open
chunk has a record; `purged`, `last` and every indexed id have
`index + 1 < 2^64`) a public write call with ANY well-formed argument — also
ids with index u64::MAX, any truncate index — does not panic, and the returned
store satisfies `PanicFree` again (accepted, rejected or refused). -/
theorem c16_call_no_panic (s : Store) (fsHas : Nat → Bool) (op : Op)
    (hp : PanicFree s) (hop : op.WF) :
    (∀ m, (s.call fsHas op).1 ≠ .panic m) ∧ PanicFree (s.call fsHas op).2.1 :=
  call_ok_D12 fsHas op hp hop

/-- What `PanicFree` says about the state: no index at u64::MAX. -/
theorem c16_panicFree_spec (s : Store) (hp : PanicFree s) :
    2 ≤ s.openOffsets.length ∧
    (∀ id, s.st.purged = some id → id.index + 1 < U64) ∧
    (∀ id, s.st.last = some id → id.index + 1 < U64) ∧
    (∀ e ∈ s.log, e.2.id.index + 1 < U64) := by
  refine ⟨hp.open2, ?_, ?_, hp.log⟩
  · intro id h
    have := hp.purged
    rw [h] at this
    exact this
  · intro id h
    have := hp.last
    rw [h] at this
    exact this

/-- **C16, histories, store level**: `c16_history_no_panic_partial` with `WF` in place of
`small`. -/
theorem c16_history_no_panic_store (fsHas : Nat → Bool) (ops : List Op) (s : Store)
    (hp : PanicFree s) (hops : ∀ op ∈ ops, op.WF) :
    ∀ pre op post, ops = pre ++ op :: post →
      ∀ m, ((pre.foldl (fun s o => (s.call fsHas o).2.1) s).call fsHas op).1 ≠ .panic m :=
  history_no_panic_of fsHas (fun _ op hp h => call_ok_D12 fsHas op hp h) ops s hp hops

/-- **C16, histories, system level.** For every configuration and every history
from a freshly opened store made of `.call op` (ANY well-formed `op`: accepted,
rejected or refused), `.flush cb`, `.worker out` (any outcome; the worker may
die, sends may fail), `.workerIdle`, `.drain`: no call in it panics, and before
every call the store is `PanicFree`. -/
theorem c16_history_no_panic (cfg : Cfg) (steps : List Step)
    (hsteps : ∀ st ∈ steps, st.journal = true) (hwf : ∀ op ∈ stepOps steps, op.WF) :
    ∀ pre op post, steps = pre ++ .call op :: post →
      (∀ m, (((Sys.fresh cfg).run pre).call op).1 ≠ .panic m) ∧
      ∀ s, ((Sys.fresh cfg).run pre).store = some s → PanicFree s :=
  history_no_panic_D12 steps (Sys.fresh cfg) (fresh_PFSys_D12 cfg) hsteps hwf

/-- … and at the end of the history (hence before any further call). -/
theorem c16_reachable_panicFree (cfg : Cfg) (steps : List Step)
    (hsteps : ∀ st ∈ steps, st.journal = true) (hwf : ∀ op ∈ stepOps steps, op.WF) :
    ∀ s, ((Sys.fresh cfg).run steps).store = some s → PanicFree s :=
  run_PFSys_D12 steps (Sys.fresh cfg) (fresh_PFSys_D12 cfg) hsteps hwf

/-- **C16, recovery, every well-formed history.** At every point of a history of
calls with ANY well-formed arguments, flushes, worker steps of any outcome,
`workerIdle`, `drain`, with the worker alive — not only at clean points — and
for every configuration `cfg'`: every linked chunk file parses to small records
(before and after `drop`), `open cfg'` on the files as they are does not panic,
and `drop` followed by `open cfg'` does not panic. -/
theorem c16_open_no_panic_history_all (cfg cfg' : Cfg) (steps : List Step)
    (hsteps : ∀ st ∈ steps, st.journal = true) (hwf : ∀ op ∈ stepOps steps, op.WF)
    (halive : ((Sys.fresh cfg).run steps).worker.pc ≠ .dead) :
    let y := (Sys.fresh cfg).run steps
    FsSmall y.fs ∧ FsSmall (y.step .drop).fs ∧
    (∀ m, (openStore cfg' y.fs).1 ≠ .panic m) ∧
    (∀ m, ({ (y.step .drop) with cfg := cfg' } : Sys).open.1 ≠ .panic m) := by
  intro y
  have hinv : RecInv_D12 y :=
    run_RecInv_D12 steps (Sys.fresh cfg) (fresh_RecInv_D12 cfg) hsteps hwf halive
  exact hinv.small.open_no_panic hinv.j (Sys.run_settled steps _ (Sys.fresh_settled cfg)) cfg'

/-- **Recovery never panics — on ANY crash image, after ANY well-formed
history** (`c05_recovery_never_panics` without the reference log and without
`small`; no hypothesis on the image, any configuration). -/
theorem c16_recovery_never_panics (cfg cfg' : Cfg) (steps : List Step)
    (hsteps : ∀ st ∈ steps, st.journal = true) (hwf : ∀ op ∈ stepOps steps, op.WF)
    (halive : ((Sys.fresh cfg).run steps).worker.pc ≠ .dead)
    (img : Fs) (hc : CrashImage ((Sys.fresh cfg).run steps).fs img) :
    FsSmall img ∧
    (∀ m, (openStore cfg' img).1 ≠ .panic m) ∧ (openStore cfg' img).1.isPanic = false ∧
    (({ fs := img, cfg := cfg' } : Sys).open).1.isPanic = false := by
  have hinv : RecInv_D12 ((Sys.fresh cfg).run steps) :=
    run_RecInv_D12 steps (Sys.fresh cfg) (fresh_RecInv_D12 cfg) hsteps hwf halive
  have hsmall : FsSmall img := hinv.crash_fsSmall hc
  have h1 := c05_open_no_panic_partial cfg' img hsmall
  have h2 : (openStore cfg' img).1.isPanic = false := by
    cases hr : (openStore cfg' img).1 with
    | panic m => exact absurd hr (h1 m)
    | ok _ => rfl
    | err _ => rfl
  refine ⟨hsmall, h1, h2, ?_⟩
  cases hr : (({ fs := img, cfg := cfg' } : Sys).open).1 with
  | panic m => exact absurd (Sys.open_panic hr) (h1 m)
  | ok _ => rfl
  | err _ => rfl

/-- The invariant behind the recovery theorems: every store-level call with well-formed arguments
keeps "every chunk file is a prefix of a journal of small, well-formed records"
(`SmallJ`), given the journal invariant and `PanicFree`. -/
theorem c16_call_keeps_small_journal {s : Store} {fs : Fs} {w : Worker} (fsHas : Nat → Bool) (op : Op)
    (h : JInv s fs w) (hS : SmallJ s fs w) (hp : PanicFree s) (hop : op.WF)
    (hfs : ∀ i, s.openEnd ≤ i → fsHas i = false) :
    SmallJ (s.call fsHas op).2.1 (effFs (s.call fsHas op).2.2 fs)
      (w.push (effQ (s.call fsHas op).2.2)) :=
  call_SJ_D12 fsHas op h hS hp hop

/-- A history with calls that are NOT small: a purge and an append at index
u64::MAX (refused), a truncate at u64::MAX (rejected), a commit at u64::MAX
(accepted: `commit` does not look at the index), around accepted writes, a flush
and a worker step. -/
def c16AllExample : List Step :=
  [ .call (.append [(⟨1, 0⟩, [1])]),
    .call (.purge ⟨1, 2 ^ 64 - 1⟩),
    .call (.append [(⟨1, 1⟩, [2]), (⟨1, 2 ^ 64 - 1⟩, [3])]),
    .flush none, .worker .ok,
    .call (.truncate (2 ^ 64 - 1)),
    .call (.commit ⟨5, 2 ^ 64 - 1⟩),
    .call (.append [(⟨2, 2 ^ 64 - 1⟩, [])]) ]

/-- It satisfies the hypotheses of `c16_history_no_panic`,
`c16_open_no_panic_history_all` and `c16_recovery_never_panics` … -/
example :
    (∀ st ∈ c16AllExample, st.journal = true) ∧
    ((Sys.fresh {}).run c16AllExample).worker.pc ≠ .dead := by
  decide +kernel

example : ∀ op ∈ stepOps c16AllExample, op.WF := by decide +kernel

/-- … its ops are not all small (so the `_partial` theorems do not apply) … -/
example : ¬ ∀ op ∈ stepOps c16AllExample, op.small := by decide +kernel

/-- … and the results of its calls, computed by the model: ok, refused, refused
after one accepted entry, rejected, ok, refused. -/
example :
    let y0 := Sys.fresh {}
    let r1 := y0.call (.append [(⟨1, 0⟩, [1])])
    let r2 := r1.2.1.call (.purge ⟨1, 2 ^ 64 - 1⟩)
    let r3 := r2.2.1.call (.append [(⟨1, 1⟩, [2]), (⟨1, 2 ^ 64 - 1⟩, [3])])
    let y4 := ((r3.2.1.step (.flush none)).step (.worker .ok))
    let r5 := y4.call (.truncate (2 ^ 64 - 1))
    let r6 := r5.2.1.call (.commit ⟨5, 2 ^ 64 - 1⟩)
    let r7 := r6.2.1.call (.append [(⟨2, 2 ^ 64 - 1⟩, [])])
    r1.1.isOk = true ∧ r2.1 = .err .invalidInput ∧ r3.1 = .err .invalidInput ∧
    r3.2.1.store.map (·.st.last) = some (some ⟨1, 1⟩) ∧
    r5.1 = .err .indexNotFound ∧ r6.1.isOk = true ∧ r7.1 = .err .invalidInput := by
  decide +kernel

end RaftLog
