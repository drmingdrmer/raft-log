/-
C04 — system-level corollary: a positive callback means durable.

`Props/C04.lean` proves the acknowledgement rules on the worker machine. Here
`c03_acked_flush` (a positive callback raises the acknowledged position to the
journal end of its flush) and the durability invariant along histories (`reach_HSys`,
`DInv.upto`: every live chunk file is written and durable up to the acknowledged
position, what `c03_acked_is_durable` states) are combined into the statement C04 makes about
whole histories of the system, for every configuration, every interleaving of
caller and worker steps and every outcome (short writes, failed syncs) along
which the worker stays alive.
-/
import RaftLogModel.Props.C03
namespace RaftLog

/-- **A positive callback means written and synced.** History
`pre ++ [flush (some i)] ++ mid ++ [st] ++ post` of legal journal steps from a
fresh store (any cfg), worker alive at the end; no other flush before `st` uses
callback `i`; the worker emits `Ev.cb i true` during step `st`. Let `E` be the
journal end when that flush was issued (`s1.openEnd`: every record journalled
before the flush ends at or below `E`). Then at the END of the history (any
later steps `post`, including later failed syncs) every live chunk `offs` —
file id `offs.head`, chunk end `lastOff offs` — is written to its file up to
`E` or to the chunk's end, and that much of the file is durable. -/
theorem c04_positive_callback_means_durable (cfg : Cfg) (pre mid post : List Step) (i : Nat) (st : Step)
    (r : RefLog) (s1 : Store)
    (hsteps : ∀ x ∈ pre ++ [.flush (some i)] ++ mid ++ [st] ++ post, x.journal = true)
    (hlegal : RefLog.run {} (stepOps (pre ++ [.flush (some i)] ++ mid ++ [st] ++ post)) = some r)
    (hwf : ∀ op ∈ stepOps (pre ++ [.flush (some i)] ++ mid ++ [st] ++ post), op.WF ∧ op.small)
    (halive : ((Sys.fresh cfg).run (pre ++ [.flush (some i)] ++ mid ++ [st] ++ post)).worker.pc ≠ .dead)
    (halive2 : ((Sys.fresh cfg).run (pre ++ [.flush (some i)] ++ mid)).worker.pc ≠ .dead)
    (hfresh : ∀ x ∈ pre ++ mid, x ≠ .flush (some i))
    (hs1 : ((Sys.fresh cfg).run pre).store = some s1)
    (hcb : Ev.cb i true ∈ ((Sys.fresh cfg).run (pre ++ [.flush (some i)] ++ mid)).stepEvs st) :
    let y := (Sys.fresh cfg).run (pre ++ [.flush (some i)] ++ mid ++ [st] ++ post)
    ∃ s, y.store = some s ∧ s1.openEnd ≤ s.openEnd ∧
      (∀ offs ∈ s.chunks,
        min (lastOff offs - offs.headD 0) (s1.openEnd - offs.headD 0) ≤ (fdata y.fs (offs.headD 0)).length) ∧
      (∀ offs ∈ s.chunks, ∀ f, y.fs.find (offs.headD 0) = some f →
        min (lastOff offs - offs.headD 0) (s1.openEnd - offs.headD 0) ≤ f.durable) := by
  intro y
  have hpre : ∀ x ∈ pre, x.journal = true := fun x hx => hsteps x (by simp [hx])
  have hmid : ∀ x ∈ mid, x.journal = true := fun x hx => hsteps x (by simp [hx])
  have hA := c03_acked_flush cfg pre mid post i st s1 hpre hmid hfresh hs1 halive2 hcb
  obtain ⟨⟨s, hs, _, hi⟩, _⟩ := reach_HSys cfg _ r hsteps hlegal hwf halive
  exact ⟨s, hs, hi.dur.upto hA⟩

/-- Non-vacuity: the history `c03Example` (vote, a batch append with a chunk
rotation, `flush (some 7)`, `workerIdle`, then a commit that is only partly
written and an unflushed append) satisfies the hypotheses with
`pre = [vote, append]`, `mid = []`, `st = workerIdle`; the journal end at the
flush is 164, and at the end chunk 0 (114 bytes) is durable in full and chunk
114 is durable up to byte 50 = 164 - 114. -/
example :
    c03Example = [.call (.saveVote ⟨1, 7⟩), .call (.append [(⟨1, 0⟩, [1, 2, 3]), (⟨1, 1⟩, [4])])]
      ++ [.flush (some 7)] ++ [] ++ [.workerIdle] ++
      [.call (.commit ⟨1, 0⟩), .flush none, .worker .ok, .worker (.short 5),
       .call (.append [(⟨1, 2⟩, [5, 6])])] ∧
    Ev.cb 7 true ∈ ((Sys.fresh { maxRecords := 4 }).run
      ([.call (.saveVote ⟨1, 7⟩), .call (.append [(⟨1, 0⟩, [1, 2, 3]), (⟨1, 1⟩, [4])])]
        ++ [.flush (some 7)] ++ [])).stepEvs .workerIdle ∧
    ((Sys.fresh { maxRecords := 4 }).run c03Example).fs.map
      (fun f => (f.id, f.data.length, f.durable)) = [(0, 114, 114), (114, 55, 50)] := by
  exact ⟨rfl, by decide +kernel⟩

end RaftLog
