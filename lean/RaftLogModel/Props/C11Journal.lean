/-
C11 (journal part; groundwork for C02 / C03) — The byte-level journal invariant.

At every point of a history of calls, flushes, worker steps (any outcome that
does not kill the worker), `workerIdle` and `drain` steps on a store opened on
an empty directory, for every live chunk (closed or open):

  bytes already in its file ++ bytes still in flight to it inside the flush
  worker ++ (open chunk only) the pending buffer
    = the concatenated encodings of a list of well-formed records whose first
      element is a `State` record and whose sizes give exactly the chunk's
      offsets list;

chunks abut (each ends where the next begins, the last closed one where the
open one begins), the worker's newest file followed by the files announced to
it ascends to the open chunk, all of them exist, and no file sits at or beyond
the journal end (so chunk rotation never fails with `AlreadyExists`).

Quantification: every configuration; every history of such steps whose ops
carry values the Rust types can hold (`Op.WF`: u64 ids, payloads and user data
below 4 GiB); the worker alive at the end (a dead worker stays dead, so it was
alive all along). Accepted, rejected and panicking calls are all covered.

Definitions and helper lemmas: Proofs/Journal.lean (definitions, `J`),
Proofs/JournalWorker.lean, Proofs/JournalStore.lean, Proofs/JournalSys.lean,
Proofs/JournalCor.lean.
-/
import RaftLogModel.Proofs.JournalCor
import RaftLogModel.Proofs.OpDecide
namespace RaftLog

theorem inflight_idle (w : Worker) (h : w.pc = .idle) (id : Nat) :
    w.inflight id = inflightFrom (newestId w.files) w.queue id := by
  simp [Worker.inflight, infl, Worker.rest, Worker.cur, h, WPc.todoBytes, WPc.inHand]

theorem inflight_got (w : Worker) (r : WReq) (h : w.pc = .got r) (id : Nat) :
    w.inflight id = inflightFrom (newestId w.files) (r :: w.queue) id := by
  simp [Worker.inflight, infl, Worker.rest, Worker.cur, h, WPc.todoBytes, WPc.inHand]

theorem inflight_writing (w : Worker) (todo : List Bytes) (batch : List WReq) (tail : Option WReq)
    (h : w.pc = .writing todo batch tail) (id : Nat) :
    w.inflight id = (if newestId w.files = id then todo.flatten else []) ++
      inflightFrom (newestId w.files) (tail.toList ++ w.queue) id := by
  simp only [Worker.inflight, infl, Worker.rest, Worker.cur, h, WPc.todoBytes, WPc.inHand]

theorem inflight_syncOld (w : Worker) (batch : List WReq) (tail : Option WReq)
    (h : w.pc = .syncOld batch tail) (id : Nat) :
    w.inflight id = inflightFrom (newestId w.files) (tail.toList ++ w.queue) id := by
  simp [Worker.inflight, infl, Worker.rest, Worker.cur, h, WPc.todoBytes, WPc.inHand]

theorem inflight_syncNew (w : Worker) (batch : List WReq) (tail : Option WReq)
    (h : w.pc = .syncNew batch tail) (id : Nat) :
    w.inflight id = inflightFrom (newestId w.files) (tail.toList ++ w.queue) id := by
  simp [Worker.inflight, infl, Worker.rest, Worker.cur, h, WPc.todoBytes, WPc.inHand]

theorem inflight_unlinking (w : Worker) (ids : List Nat) (h : w.pc = .unlinking ids) (id : Nat) :
    w.inflight id = inflightFrom (newestId w.files) w.queue id := by
  simp [Worker.inflight, infl, Worker.rest, Worker.cur, h, WPc.todoBytes, WPc.inHand]

/-- What `J y` says, item by item (1 layout, 2 open chunk, 3 closed chunks,
4 worker tracking and the file-system bound). -/
theorem c11_journal_spec {y : Sys} (h : J y) :
    ∃ s, y.store = some s ∧ y.worker.pc ≠ .dead ∧
      -- 1. layout
      (∀ offs ∈ s.chunks, 2 ≤ offs.length ∧ Incr offs) ∧ Chained s.chunks ∧
      (∀ c ∈ s.closed, c.id < lastOff c.offsets ∧ lastOff c.offsets ≤ s.openId) ∧
      -- 2. the open chunk
      (∃ rs, AllWF rs ∧ (∃ st rest, rs = .state st :: rest) ∧
        offsetsFrom s.openId (recSizes rs) = s.openOffsets ∧
        fdata y.fs s.openId ++ y.worker.inflight s.openId ++ s.pending = encAll rs) ∧
      -- 3. every closed chunk
      (∀ c ∈ s.closed, ∃ rs, AllWF rs ∧ (∃ st rest, rs = .state st :: rest) ∧
        offsetsFrom c.id (recSizes rs) = c.offsets ∧
        fdata y.fs c.id ++ y.worker.inflight c.id = encAll rs) ∧
      -- 4. worker tracking, files
      y.worker.announced.getLast? = some s.openId ∧ Incr y.worker.announced ∧
      (∀ a ∈ y.worker.announced, a ∈ Fs.ids y.fs ∧ a ≤ s.openId) ∧
      (∀ c ∈ s.closed, c.id ∈ Fs.ids y.fs) ∧ (∀ i ∈ Fs.ids y.fs, i < s.openEnd) ∧
      s.st.WF := by
  obtain ⟨s, hs, hd, hj⟩ := h
  refine ⟨s, hs, hd, ?_, hj.chained, ?_, ?_, ?_, hj.annLast, hj.annAsc,
    fun a ha => ⟨hj.annFs a ha, hj.ann_le a ha⟩, hj.closedFs, hj.fsLt, hj.stWF⟩
  · exact fun offs ho => ⟨(hj.chunk_ok offs ho).1.length, (hj.chunk_ok offs ho).1.incr⟩
  · intro c hc
    exact ⟨(hj.closedBytes c hc).head_lt, hj.closedLe c hc⟩
  · exact hj.openBytes
  · exact hj.closedBytes

theorem c11_journal_fresh (cfg : Cfg) : J (Sys.fresh cfg) := fresh_J cfg

/-- A call, whatever its result (accepted, rejected, panicking). -/
theorem c11_journal_call (y : Sys) (op : Op) (h : J y) (hop : op.WF) : J (y.step (.call op)) :=
  h.call op hop

/-- A call never fails with `exists`: the rotation target is always free. -/
theorem c11_call_never_exists (y : Sys) (op : Op) (h : J y) (hop : op.WF) :
    (y.call op).1 ≠ .err .exists := h.call_not_exists op

theorem c11_journal_flush (y : Sys) (cb : Option Nat) (h : J y) : J (y.step (.flush cb)) := h.flush cb

/-- Any outcome (`ok`, `eio` at a sync, `short k`), provided the worker is
not dead afterwards. -/
theorem c11_journal_worker (y : Sys) (out : Outcome) (h : J y)
    (halive : (y.step (.worker out)).worker.pc ≠ .dead) : J (y.step (.worker out)) := h.worker out halive

theorem c11_journal_workerIdle (y : Sys) (h : J y)
    (halive : (y.step .workerIdle).worker.pc ≠ .dead) : J (y.step .workerIdle) := h.workerIdle halive

theorem c11_journal_drain (y : Sys) (h : J y) : J (y.step .drain) := h.drain

/-- **C11 (journal).** The invariant holds after every history of calls,
flushes, worker steps, `workerIdle` and `drain` steps from a freshly opened
store, if the worker is alive at the end. -/
theorem c11_journal_invariant (cfg : Cfg) (steps : List Step)
    (hsteps : ∀ st ∈ steps, st.journal = true) (hwf : ∀ op ∈ stepOps steps, op.WF)
    (halive : ((Sys.fresh cfg).run steps).worker.pc ≠ .dead) : J ((Sys.fresh cfg).run steps) :=
  run_J steps _ (fresh_J cfg) hsteps hwf halive

/-- **The segment a call returns holds the record it journalled.** If a
single-record call (`s.opRecord op = some r`) returns `ok seg`, then `seg` is
`(old journal end, |encRecord r|)` and, in the new state, the bytes of the chunk
that was open (file ++ in flight ++ pending if it is still the open chunk) at
positions `[seg.off - id, seg.off - id + seg.size)` are exactly `encRecord r`. -/
theorem c11_segment_holds_record (y : Sys) (s : Store) (op : Op) (r : Record) (seg : Seg)
    (h : J y) (hs : y.store = some s) (hop : op.WF) (hrec : s.opRecord op = some r)
    (hok : (y.call op).1 = .ok seg) :
    ∃ s', (y.call op).2.1.store = some s' ∧
      seg = ⟨s.openEnd, (encRecord r).length⟩ ∧ s.openId ≤ seg.off ∧
      ((chunkBytes s' (y.call op).2.1.fs (y.call op).2.1.worker s.openId).drop (seg.off - s.openId)).take seg.size
        = encRecord r := by
  obtain ⟨s0, hs0, hd, hj⟩ := h
  rw [hs] at hs0; cases hs0
  obtain ⟨e1, e2⟩ := Sys.call_eq y op hs hd
  rw [e2] at hok
  obtain ⟨g1, g2⟩ := call_segment y.fs.has op r hj hop (Fs.has_false_of_lt hj.fsLt) hrec seg hok
  rw [e1]
  refine ⟨_, rfl, g1, by rw [g1]; exact Nat.le_of_lt hj.openId_lt, ?_⟩
  have hb : chunkBytes (s.call y.fs.has op).2.1 (effFs (s.call y.fs.has op).2.2 y.fs)
      (y.worker.push (effQ (s.call y.fs.has op).2.2)).settle s.openId
      = chunkBytes s y.fs y.worker s.openId ++ encRecord r := by
    rw [← g2]
    simp only [chunkBytes, Worker.settle_inflight]
  have hlen := hj.openBytes_length
  show List.take seg.size (List.drop (seg.off - s.openId) (chunkBytes _ _ _ s.openId)) = encRecord r
  rw [hb, g1, ← hlen]
  simp

/-- **When nothing is in flight or pending, the files are exactly the journal.**
With the worker quiet (idle on an empty queue) and an empty pending buffer,
every live chunk's file holds exactly the encodings of its records: `parseChunk`
returns them cleanly, its length is `lastOff offsets - id`; consecutive files
abut (`Chained`, and each file's length is its chunk's extent); and
`on_disk_size` is the sum of the file lengths. -/
theorem c11_quiescent_files_exact (y : Sys) (s : Store) (h : J y) (hs : y.store = some s)
    (hq : y.worker.quiet = true) (hp : s.pending = []) :
    (∀ offs ∈ s.chunks, ∃ f rs, y.fs.find (offs.headD 0) = some f ∧
        f.data = encAll rs ∧ AllWF rs ∧ (∃ st rest, rs = .state st :: rest) ∧
        offsetsFrom (offs.headD 0) (recSizes rs) = offs ∧
        parseChunk f.data = (rs.map (fun r => (r, (encRecord r).length)), .clean, []) ∧
        f.data.length = lastOff offs - offs.headD 0 ∧ offs.headD 0 < lastOff offs) ∧
    Chained s.chunks ∧
    s.onDiskSize = sumNat (s.chunks.map (fun offs => (fdata y.fs (offs.headD 0)).length)) := by
  obtain ⟨s0, hs0, hd, hj⟩ := h
  rw [hs] at hs0; cases hs0
  -- nothing in flight
  have hinf := fun id => inflight_quiet (quiet_alive hq hd).1 (quiet_alive hq hd).2 id
  -- every chunk: ChunkOK of its file data, and the file exists
  have hall : ∀ offs ∈ s.chunks, ChunkOK offs (fdata y.fs (offs.headD 0)) ∧ offs.headD 0 ∈ Fs.ids y.fs := by
    intro offs ho
    have := hj.chunk_ok offs ho
    simp only [chunkBytes, hinf, hp, ite_self, List.append_nil] at this
    exact this
  refine ⟨?_, hj.chained, ?_⟩
  · intro offs ho
    obtain ⟨hok, hid⟩ := hall offs ho
    have hlen := hok.lastOff_eq
    have hlt := hok.head_lt
    obtain ⟨rs, h1, h2, h3, h4⟩ := hok
    have hsome := (Fs.find_isSome_iff y.fs (offs.headD 0)).mpr hid
    cases hf : y.fs.find (offs.headD 0) with
    | none => rw [hf] at hsome; cases hsome
    | some f =>
      have hfd : fdata y.fs (offs.headD 0) = f.data := by unfold fdata; rw [hf]
      rw [hfd] at h4 hlen
      refine ⟨f, rs, rfl, h4, h1, h2, h3, ?_, by omega, hlt⟩
      rw [h4]; exact parse_encAll' h1
  · rw [hj.onDiskSize_extents]
    congr 1
    apply List.map_congr_left
    intro offs ho
    have := (hall offs ho).1.lastOff_eq
    omega

/-- A history with chunk rotation after every second record, a flush, a short
write, a purge and worker steps: its steps are of the kinds covered, its ops
well-formed, and the worker is alive at the end (computed by the model). -/
def c11JournalExample : List Step :=
  [ .call (.saveVote ⟨1, 7⟩),
    .call (.append [(⟨1, 0⟩, [1, 2, 3]), (⟨1, 1⟩, [4]), (⟨1, 2⟩, [5, 6])]),
    .flush (some 0),
    .worker .ok,
    .worker (.short 3),
    .worker .ok,
    .call (.purge ⟨1, 0⟩),
    .drain,
    .workerIdle,
    .call (.saveUserData (some [42])) ]

example :
    (∀ st ∈ c11JournalExample, st.journal = true) ∧
    (∀ op ∈ stepOps c11JournalExample, op.WF) ∧
    ((Sys.fresh { maxRecords := 2 }).run c11JournalExample).worker.pc ≠ .dead ∧
    (∃ s, ((Sys.fresh { maxRecords := 2 }).run c11JournalExample).store = some s ∧ s.closed.length = 4) := by
  exact ⟨by decide, by decide, by decide +kernel⟩

/-- The hypotheses of the two corollaries are satisfiable: a call that returns
`ok` for a single-record op, and a quiescent state with nothing pending. -/
example :
    let y := (Sys.fresh { maxRecords := 2 }).run [.call (.saveVote ⟨1, 7⟩), .flush none, .workerIdle]
    (∃ s, y.store = some s ∧ s.pending = [] ∧ s.opRecord (.commit ⟨0, 0⟩) = some (.commit ⟨0, 0⟩)) ∧
      y.worker.quiet = true ∧ y.worker.pc ≠ .dead ∧ (y.call (.commit ⟨0, 0⟩)).1 = .ok ⟨80, 28⟩ := by
  decide +kernel

/-- Remark on item 4. "Every announced id is a chunk id of `closed ++ [open]`"
is NOT an invariant: a purge can drop closed chunks whose `appendFile` request
the worker has not processed yet. Here the worker still has to be told about
chunks 51, 118 and 180 while only chunk 180 is live. The invariant proved
instead bounds every announced id by the open chunk id (ascending order, last
= open chunk), which is what items 2–3 need. -/
example :
    let y := (Sys.fresh { maxRecords := 2 }).run
      [.call (.append [(⟨1, 0⟩, [1])]), .call (.append [(⟨1, 1⟩, [2])]), .call (.purge ⟨1, 1⟩)]
    y.worker.announced = [0, 51, 118, 180] ∧
      y.store.map (fun s => s.closed.map Closed.id ++ [s.openId]) = some [180] := by
  decide +kernel

end RaftLog
