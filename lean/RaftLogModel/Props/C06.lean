/-
C06 — Rejected writes leave no trace.

Model level: a call that returns a validation error returns the *whole* store
unchanged (pending bytes, offsets, index, cache with its counters, removal
list) and emits no effect (nothing created, written or queued). The link
"the reference log rejects ⇒ the model returns that error": `c06_spec_rejects_*`
below for votes and commits; in full (every single-record op, the error KIND)
`Abs.rejects` (Proofs/RejectSys), stated as `c06_same_verdict` in Props/C06Sys.
-/
import RaftLogModel.Proofs.StoreBasic
import RaftLogModel.Spec.RefLog
namespace RaftLog

/-- One journal record: if validation fails nothing at all happens. -/
theorem c06_rejected_record_noop (s : Store) (fsHas : Nat → Bool) (r : Record) (k : ErrKind)
    (h : s.st.apply r = .err k) : s.appendAndApply fsHas r = (.err k, s, []) :=
  appendAndApply_of_apply_err s fsHas h

/-- Conversely an error other than a failed file creation can only be a
validation error, and then the store and the effect list are untouched. -/
theorem c06_err_is_noop (s : Store) (fsHas : Nat → Bool) (r : Record) (k : ErrKind)
    (s' : Store) (effs : List Eff)
    (h : s.appendAndApply fsHas r = (.err k, s', effs)) (hk : k ≠ .exists) :
    s' = s ∧ effs = [] ∧ s.st.apply r = .err k :=
  appendAndApply_err h hk

/-- Every single-record public call: a returned validation error means the
store is returned unchanged and nothing was emitted. -/
theorem c06_rejected_call_noop (s : Store) (fsHas : Nat → Bool) (op : Op) (k : ErrKind)
    (s' : Store) (effs : List Eff) (hop : ∀ es, op ≠ .append es)
    (h : s.call fsHas op = (.err k, s', effs)) (hk : k ≠ .exists) :
    s' = s ∧ effs = [] := by
  rcases s.call_cases fsHas op with ⟨x, e, _⟩ | ⟨es, _, rfl, _⟩ | ⟨r, _, e⟩ | ⟨_, _, _, _, _, _, e⟩ <;>
    try rw [e] at h
  · cases h; exact ⟨rfl, rfl⟩
  · exact absurd rfl (hop es)
  · exact ⟨(c06_err_is_noop s fsHas r k s' effs h hk).1, (c06_err_is_noop s fsHas r k s' effs h hk).2.1⟩
  · cases h

/-- A batch `append` applies its accepted prefix; the first rejected entry
leaves no trace: the store is exactly the one reached by the entries before
it, with exactly their effects. (D12: an entry whose index is u64::MAX is
refused before validation with `InvalidInput` — see
`c06_batch_refused_entry_noop` — so the error kind is the state's verdict only
for the other ids, `hidx`.) -/
theorem c06_batch_rejected_entry_noop (fsHas : Nat → Bool) (id : LogId) (p : Bytes)
    (rest : List (LogId × Bytes)) (s : Store) (seg : Seg) (effs : List Eff) (k : ErrKind)
    (hidx : id.index + 1 ≠ U64)
    (h : s.st.apply (.append id p) = .err k) :
    Store.appendBatch fsHas ((id, p) :: rest) s seg effs = (.err k, s, effs) := by
  simp only [appendBatch_cons_small_D12 _ _ _ _ _ _ _ hidx, appendAndApply_of_apply_err s fsHas h,
    List.append_nil]

/-- D12: an entry with index u64::MAX is refused with `InvalidInput` and leaves
no trace either, whatever the state would have said. -/
theorem c06_batch_refused_entry_noop (fsHas : Nat → Bool) (id : LogId) (p : Bytes)
    (rest : List (LogId × Bytes)) (s : Store) (seg : Seg) (effs : List Eff)
    (hidx : id.index + 1 = U64) :
    Store.appendBatch fsHas ((id, p) :: rest) s seg effs = (.err .invalidInput, s, effs) :=
  appendBatch_cons_refused_D12 fsHas id p rest s seg effs hidx

/-- Either way: whenever the state rejects the entry, the batch stops with SOME
error, the store reached so far and the effects so far. -/
theorem c06_batch_rejected_entry_noop_any (fsHas : Nat → Bool) (id : LogId) (p : Bytes)
    (rest : List (LogId × Bytes)) (s : Store) (seg : Seg) (effs : List Eff) (k : ErrKind)
    (h : s.st.apply (.append id p) = .err k) :
    ∃ k', Store.appendBatch fsHas ((id, p) :: rest) s seg effs = (.err k', s, effs) := by
  by_cases hidx : id.index + 1 = U64
  · exact ⟨_, c06_batch_refused_entry_noop fsHas id p rest s seg effs hidx⟩
  · exact ⟨_, c06_batch_rejected_entry_noop fsHas id p rest s seg effs k hidx h⟩

theorem c06_spec_rejects_vote (s : Store) (r : RefLog) (v : Vote) (hs : s.st = r.state) :
    (∃ k, r.call (.saveVote v) = .error k) ↔ (∃ k, s.st.apply (.saveVote v) = .err k) := by
  simp only [RefLog.call, RState.apply, RState.updateVote, hs, RefLog.state]
  split <;> simp

theorem c06_spec_rejects_commit (s : Store) (r : RefLog) (id : LogId) (hs : s.st = r.state) :
    (∃ k, r.call (.commit id) = .error k) ↔ (∃ k, s.st.apply (.commit id) = .err k) := by
  simp only [RefLog.call, RState.apply, RState.commit, hs, RefLog.state]
  split <;> simp

/-- Non-vacuity: a concrete rejected write on a concrete store. -/
example :
    let s : Store := { cfg := {}, cache := { maxItems := 10, capacity := 100 }, openOffsets := [0, 18],
                       st := { vote := some ⟨3, 1⟩ } }
    s.st.apply (.saveVote ⟨2, 9⟩) = .err .voteReversal := by decide

end RaftLog
