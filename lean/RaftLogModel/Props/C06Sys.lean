/-
C06 at system level — a rejected write leaves no trace in the WHOLE system
(file system, lock, store, worker, configuration), emits no event, and is
invisible to every continuation, including flush + drop + reopen.

The only hypothesis besides the rejection is that the worker is settled
(`y.worker.settle = y.worker`: a worker blocked in `recv` has an empty queue), which
holds in EVERY state reachable from `Sys.fresh` by ANY steps (`c06_reachable_settled`).
`c06_sys_same_verdict*`: the reference log's verdict is the model's verdict, for every
system whose store is related to the reference log by the cache-free refinement `Abs`
(this includes `Refines`/`SysRef` of C01 and `RSys`/`CSys` of C02) and every
single-record op; `purge` and `saveUserData` are never rejected by the reference log.
-/
import RaftLogModel.Proofs.RejectSys
import RaftLogModel.Props.C02
import RaftLogModel.Props.C06
namespace RaftLog

/-- `settle` is idempotent. -/
theorem c06_settle_idempotent (w : Worker) : w.settle.settle = w.settle := w.settle_idem

/-- Every step keeps the worker settled … -/
theorem c06_step_settled (y : Sys) (st : Step) (h : y.worker.settle = y.worker) :
    (y.step st).worker.settle = (y.step st).worker :=
  y.step_settled st h

/-- … so every state reachable from a freshly opened store by ANY steps (calls
accepted or rejected, worker steps with any outcome, drops, reopens with any
configuration, failed opens) is settled. -/
theorem c06_reachable_settled (cfg : Cfg) (steps : List Step) :
    ((Sys.fresh cfg).run steps).worker.settle = ((Sys.fresh cfg).run steps).worker :=
  Sys.reachable_settled cfg steps

/-- A call the store rejects is the identity on the whole system and
emits no event. -/
theorem c06_sys_rejected_is_identity (y : Sys) (s : Store) (op : Op) (k : ErrKind)
    (hs : y.store = some s) (hset : y.worker.settle = y.worker)
    (h : s.call y.fs.has op = (.err k, s, [])) :
    y.call op = (.err k, y, []) :=
  y.call_rejected_eq s op k hs hset h

/-- `c06_sys_rejected_is_identity` with the hypothesis of Props/C06.lean: a single-record op (anything but
a batch `append`) that returns a validation error (`k ≠ exists`). -/
theorem c06_sys_rejected_single (y : Sys) (s s' : Store) (op : Op) (k : ErrKind) (effs : List Eff)
    (hs : y.store = some s) (hset : y.worker.settle = y.worker) (hop : ∀ es, op ≠ .append es)
    (h : s.call y.fs.has op = (.err k, s', effs)) (hk : k ≠ .exists) :
    y.call op = (.err k, y, []) := by
  obtain ⟨h1, h2⟩ := c06_rejected_call_noop s y.fs.has op k s' effs hop h hk
  rw [h1, h2] at h
  exact y.call_rejected_eq s op k hs hset h

/-- `c06_sys_rejected_is_identity` on every reachable state (any history whatsoever). -/
theorem c06_sys_rejected_is_identity_reachable (cfg : Cfg) (steps : List Step) (s : Store) (op : Op)
    (k : ErrKind) (hs : ((Sys.fresh cfg).run steps).store = some s)
    (h : s.call ((Sys.fresh cfg).run steps).fs.has op = (.err k, s, [])) :
    ((Sys.fresh cfg).run steps).call op = (.err k, (Sys.fresh cfg).run steps, []) :=
  c06_sys_rejected_is_identity _ s op k hs (c06_reachable_settled cfg steps) h

/-- A rejected call is invisible forever: whatever happens next — any
steps, including flush, drop and reopen with another configuration — the
system evolves exactly as if the call had never been made. -/
theorem c06_rejected_invisible_forever (y : Sys) (s : Store) (op : Op) (k : ErrKind)
    (hs : y.store = some s) (hset : y.worker.settle = y.worker)
    (h : s.call y.fs.has op = (.err k, s, [])) (more : List Step) :
    (y.step (.call op)).run more = y.run more := by
  rw [Sys.step_call_rejected_C6N y s op k hs hset h]

/-- … also in the middle of a history: `pre ++ [call op] ++ more` and
`pre ++ more` end in the same system. -/
theorem c06_rejected_invisible_in_history (cfg : Cfg) (pre more : List Step) (s : Store) (op : Op)
    (k : ErrKind) (hs : ((Sys.fresh cfg).run pre).store = some s)
    (h : s.call ((Sys.fresh cfg).run pre).fs.has op = (.err k, s, [])) :
    (Sys.fresh cfg).run (pre ++ .call op :: more) = (Sys.fresh cfg).run (pre ++ more) := by
  rw [Sys.run_append, Sys.run_cons, Sys.run_append]
  exact c06_rejected_invisible_forever _ s op k hs (c06_reachable_settled cfg pre) h more

/-- **Batches.** `pre` is accepted by the store (reaching `s'`), the next
entry `(id, p)` is rejected by `s'`. Then the batch `pre ++ (id, p) :: rest`
leaves the system, and emits the events, exactly as the batch `pre` does; the
entries after the rejected one are never looked at. The result is the
validation error (or `sendFailed` if the worker is gone, as for `pre`); D12: if
the rejected entry's index is u64::MAX the call refuses it before validation
and the error kind is `InvalidInput` instead. -/
theorem c06_sys_batch_rejected_prefix (y : Sys) (s s' : Store) (pre rest : List (LogId × Bytes))
    (id : LogId) (p : Bytes) (seg' : Seg) (effs' : List Eff) (k : ErrKind)
    (hs : y.store = some s)
    (h : s.call y.fs.has (.append pre) = (.ok seg', s', effs'))
    (hk : s'.st.apply (.append id p) = .err k) :
    (y.call (.append (pre ++ (id, p) :: rest))).2 = (y.call (.append pre)).2 ∧
    y.step (.call (.append (pre ++ (id, p) :: rest))) = y.step (.call (.append pre)) ∧
    (∀ more, (y.step (.call (.append (pre ++ (id, p) :: rest)))).run more =
      (y.step (.call (.append pre))).run more) ∧
    (y.worker.pc ≠ .dead → (y.call (.append (pre ++ (id, p) :: rest))).1 =
      .err (if id.index + 1 = U64 then .invalidInput else k)) := by
  obtain ⟨h1, k', h2, hk'⟩ :=
    y.call_append_stopped_after s s' pre rest id p seg' effs' hs h (Or.inr ⟨k, hk⟩)
  rw [hk' k hk] at h2
  have h3 : y.step (.call (.append (pre ++ (id, p) :: rest))) = y.step (.call (.append pre)) :=
    congrArg Prod.fst h1
  refine ⟨h1, h3, fun more => by rw [h3], ?_⟩
  intro hd
  rw [h2, (applyEffs_live effs' y.fs y.worker [] hd).1]
  rfl

/-- Store level, cache-free refinement `Abs`: same verdict, same error kind,
store unchanged, nothing emitted. -/
theorem c06_same_verdict (s : Store) (r : RefLog) (h : Abs s r) (fsHas : Nat → Bool) (op : Op)
    (hop : op.single) (hsm : op.small) (k : ErrKind) (hr : r.call op = .error k) :
    s.call fsHas op = (.err k, s, []) :=
  h.rejects fsHas op hop hsm k hr

/-- D12 (index u64::MAX is refused): without `small` (an `append` whose id has index u64::MAX) the store
still rejects what the reference log rejects, unchanged and without effects;
the error kind is the reference log's whenever the op is small, otherwise it
may be `InvalidInput`. -/
theorem c06_same_verdict_any (s : Store) (r : RefLog) (h : Abs s r) (fsHas : Nat → Bool) (op : Op)
    (hop : op.single) (k : ErrKind) (hr : r.call op = .error k) :
    ∃ k', s.call fsHas op = (.err k', s, []) ∧ (op.small → k' = k) :=
  h.rejects_any_D12 fsHas op hop k hr

/-- `purge` and `saveUserData` are never rejected by the reference log. -/
theorem c06_never_rejected (r : RefLog) :
    (∀ id, ∃ r', r.call (.purge id) = .ok r') ∧ (∀ d, ∃ r', r.call (.saveUserData d) = .ok r') :=
  ⟨fun id => r.never_rejects _ (Or.inl ⟨id, rfl⟩), fun d => r.never_rejects _ (Or.inr ⟨d, rfl⟩)⟩

/-- **Same verdict**, any settled system whose store is `Abs`-related to `r`. -/
theorem c06_sys_same_verdict (y : Sys) (s : Store) (r : RefLog) (hs : y.store = some s)
    (h : Abs s r) (hset : y.worker.settle = y.worker) (op : Op) (hop : op.single) (hsm : op.small)
    (k : ErrKind) (hr : r.call op = .error k) :
    y.call op = (.err k, y, []) ∧ ∀ more, (y.step (.call op)).run more = y.run more :=
  ⟨c06_sys_rejected_is_identity y s op k hs hset (h.rejects y.fs.has op hop hsm k hr),
   c06_rejected_invisible_forever y s op k hs hset (h.rejects y.fs.has op hop hsm k hr)⟩

/-- D12: the same without `small`: the call is rejected with SOME error kind
(the reference log's if the op is small), the whole system is unchanged, no
event is emitted and every continuation is unaffected. -/
theorem c06_sys_same_verdict_any (y : Sys) (s : Store) (r : RefLog) (hs : y.store = some s)
    (h : Abs s r) (hset : y.worker.settle = y.worker) (op : Op) (hop : op.single)
    (k : ErrKind) (hr : r.call op = .error k) :
    ∃ k', y.call op = (.err k', y, []) ∧ (op.small → k' = k) ∧
      ∀ more, (y.step (.call op)).run more = y.run more := by
  obtain ⟨k', h1, h2⟩ := h.rejects_any_D12 y.fs.has op hop k hr
  exact ⟨k', c06_sys_rejected_is_identity y s op k' hs hset h1, h2,
    c06_rejected_invisible_forever y s op k' hs hset h1⟩

/-- Same verdict from the C02 invariant (`CSys`). -/
theorem c06_sys_same_verdict_csys (y : Sys) (r : RefLog) (h : CSys y r)
    (hset : y.worker.settle = y.worker) (op : Op) (hop : op.single) (hsm : op.small) (k : ErrKind)
    (hr : r.call op = .error k) :
    y.call op = (.err k, y, []) ∧ ∀ more, (y.step (.call op)).run more = y.run more := by
  obtain ⟨s, hs, habs⟩ := h.1.abs
  exact c06_sys_same_verdict y s r hs habs hset op hop hsm k hr

/-- Same verdict from the C01 invariant (`SysRef`). -/
theorem c06_sys_same_verdict_sysRef (y : Sys) (r : RefLog) (n b : Nat) (h : SysRef y r n b)
    (hset : y.worker.settle = y.worker) (op : Op) (hop : op.single) (hsm : op.small) (k : ErrKind)
    (hr : r.call op = .error k) :
    y.call op = (.err k, y, []) ∧ ∀ more, (y.step (.call op)).run more = y.run more := by
  obtain ⟨s, hs, href, _⟩ := h
  exact c06_sys_same_verdict y s r hs href.abs hset op hop hsm k hr

theorem Sys.runCycles_settled (segs : List (List Step × Cfg)) : ∀ (y : Sys), y.Settled →
    (y.runCycles segs).Settled := by
  induction segs with
  | nil => intro y h; exact h
  | cons seg rest ih =>
    intro y h
    simp only [Sys.runCycles, List.foldl_cons]
    exact ih _ (Sys.step_settled _ _ (Sys.step_settled _ _ (Sys.run_settled _ _ h)))

/-- **Same verdict on reachable states.** Any number of segments of legal, accepted,
well-formed, small calls (`truncate` included), flushes, worker steps,
`workerIdle`, `drain`, each ending clean and followed by drop + reopen with its
own configuration, then a final such history with the worker alive: if the
reference log `r` reached by the calls rejects a single-record op with kind
`k`, the call returns `.err k`, the whole system is unchanged, no event is
emitted, and every continuation is unaffected. -/
theorem c06_sys_same_verdict_reachable (cfg : Cfg) (segs : List (List Step × Cfg))
    (last : List Step) (r : RefLog)
    (hsegs : ∀ seg ∈ segs, ∀ st ∈ seg.1, st.journal = true)
    (hlast : ∀ st ∈ last, st.journal = true)
    (hlegal : RefLog.run {} (cycleOps segs ++ stepOps last) = some r)
    (hwf : ∀ op ∈ cycleOps segs ++ stepOps last, op.WF ∧ op.small)
    (hclean : CleanCycles (Sys.fresh cfg) segs)
    (halive : (((Sys.fresh cfg).runCycles segs).run last).worker.pc ≠ .dead)
    (op : Op) (hop : op.single) (hsm : op.small) (k : ErrKind) (hr : r.call op = .error k) :
    let y := ((Sys.fresh cfg).runCycles segs).run last
    y.call op = (.err k, y, []) ∧ ∀ more, (y.step (.call op)).run more = y.run more := by
  intro y
  obtain ⟨_, _, _, _, _, hC⟩ := c02_cycles cfg segs last r hsegs hlast hlegal hwf hclean halive
  have hset : y.Settled :=
    Sys.run_settled last _ (Sys.runCycles_settled segs _ (Sys.fresh_settled cfg))
  exact c06_sys_same_verdict_csys y r hC hset op hop hsm k hr

/-- Same verdict on the histories of C01 (calls, flushes, worker steps of any outcome —
the worker may die — within the cache budget). -/
theorem c06_sys_same_verdict_c01 (cfg : Cfg) (steps : List Step) (r : RefLog)
    (h0 : SysRef (Sys.fresh cfg) {} (opsCount (stepOps steps)) (opsBytes (stepOps steps)))
    (hsteps : ∀ st ∈ steps, st.c01 = true) (hlegal : RefLog.run {} (stepOps steps) = some r)
    (hsmall : ∀ op ∈ stepOps steps, op.small)
    (op : Op) (hop : op.single) (hsm : op.small) (k : ErrKind) (hr : r.call op = .error k) :
    let y := (Sys.fresh cfg).run steps
    y.call op = (.err k, y, []) ∧ ∀ more, (y.step (.call op)).run more = y.run more := by
  intro y
  obtain ⟨href, _⟩ := run_sysRef steps _ {} r h0 hsteps hlegal hsmall
  exact c06_sys_same_verdict_sysRef y r 0 0 href (c06_reachable_settled cfg steps) op hop hsm k hr

/-- **Same verdict, batches.** From the C02 invariant: the reference log accepts the
entries `pre` (a legal, well-formed, small batch, reaching `r1`) and rejects the
next entry `(id, p)` with kind `k`. Then the call with the whole batch returns
`.err k` (D12: `.err invalidInput` if that entry's index is u64::MAX) and leaves
the system — and every continuation — exactly as the call with `pre` alone does. -/
theorem c06_sys_batch_same_verdict (y : Sys) (r r1 : RefLog) (h : CSys y r)
    (pre rest : List (LogId × Bytes)) (id : LogId) (p : Bytes) (k : ErrKind)
    (hl : r.legal (.append pre) = true) (hc : r.call (.append pre) = .ok r1)
    (hsm : (Op.append pre).small) (hwf : (Op.append pre).WF)
    (hr : r1.append1 id p = .error k) :
    (y.call (.append (pre ++ (id, p) :: rest))).1 =
      .err (if id.index + 1 = U64 then .invalidInput else k) ∧
    (y.call (.append (pre ++ (id, p) :: rest))).2 = (y.call (.append pre)).2 ∧
    ∀ more, (y.step (.call (.append (pre ++ (id, p) :: rest)))).run more =
      (y.step (.call (.append pre))).run more := by
  obtain ⟨s, seg, s', effs, hs, hd, hcall, habs⟩ := h.1.call_store hl hc hsm hwf
  obtain ⟨g1, _, g3, g4⟩ := c06_sys_batch_rejected_prefix y s s' pre rest id p seg effs k hs hcall
    (habs.rejects_append1 id p k hr)
  exact ⟨g4 hd, g1, g3⟩

/-- A concrete reachable system state and a vote the store rejects: the
hypotheses of `c06_sys_rejected_is_identity_reachable` hold. -/
example : ∃ s, ((Sys.fresh {}).run [.call (.saveVote ⟨3, 1⟩), .flush none]).store = some s ∧
    s.call ((Sys.fresh {}).run [.call (.saveVote ⟨3, 1⟩), .flush none]).fs.has (.saveVote ⟨2, 9⟩)
      = (.err .voteReversal, s, []) := by
  decide +kernel

/-- … and the reference log rejects it too (hypothesis of `c06_sys_same_verdict`). -/
example : ∃ r, RefLog.run {} [.saveVote ⟨3, 1⟩] = some r ∧
    r.call (.saveVote ⟨2, 9⟩) = .error .voteReversal := ⟨_, rfl, rfl⟩

/-- A batch whose second entry is rejected (non-consecutive index): the
hypotheses of `c06_sys_batch_rejected_prefix` hold with `pre` of length 1. -/
example : ∃ s seg s' effs, (Sys.fresh {}).store = some s ∧
    s.call (Sys.fresh {}).fs.has (.append [(⟨1, 0⟩, [1])]) = (.ok seg, s', effs) ∧
    s'.st.apply (.append ⟨1, 5⟩ [2]) = .err .nonConsecutive :=
  ⟨_, _, _, _, rfl, rfl, by decide⟩

end RaftLog
