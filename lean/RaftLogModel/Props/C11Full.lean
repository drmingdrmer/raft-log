/-
C11, second sentence — "A file is closed as soon as it reaches the configured
record-count or size limit, and the reported on-disk size equals the bytes from
the oldest retained chunk to the journal end."

(The first sentence is `Props/C11Journal.lean`: invariant `J`.)

Quantification. Every configuration `cfg`; every history of calls (ANY
well-formed arguments, `Op.WF`: accepted, rejected, refused), flushes, worker
steps of any outcome, `workerIdle` and `drain` steps from `Sys.fresh cfg`, with
the worker alive at the end — the hypotheses of `c11_journal_invariant`; no
legality of the calls is assumed. The on-disk-size theorems are also stated for
every `J` state and for every `ReachLIFT` system (histories, clean restarts,
crash recoveries, in any order).

1. Rotation rule (`RotInvC11F`, `Proofs/C11Full.lean`).
   (i)  `c11_open_chunk_never_full`: after every step the open chunk is below
        BOTH limits — or it holds only its head `State` record and that record
        alone reaches a limit (`maxRecords ≤ 1`, or `maxSize ≤` size of the head
        record). That exception is real (`OpenChunk::create` does not look at the
        limits; the chunk is closed by the next accepted record): examples below.
        The other exception the code allows — `create_new` of the next chunk file
        fails with `AlreadyExists`, the full chunk stays open — cannot happen in
        these histories (`c11_call_never_exists`: no file at or beyond the journal
        end); at the store level it does (`c11_rotation_blocked_by_existing_file`).
   (ii) `c11_closed_chunks_full_when_closed`: every live closed chunk reached a
        limit, holds its head record and at least one more, and WITHOUT its last
        record it was below both limits (so it was closed as soon as the limit was
        reached) — or it holds only head + one record (the degenerate case again).
        Hence no chunk ever holds more than `max maxRecords 2` records (head
        included), and a chunk closed by the record limit holds exactly that many.
   Restarts. `open` re-opens the last chunk without looking at the limits, so
   after a restart with SMALLER limits the open chunk can be over the limit with
   many records (`c11_restart_open_chunk_may_be_full`; it is closed by the next
   accepted record): (i) and (ii) are relative to the limits in force. They ARE
   lifted to clean restarts whose configurations keep both limits
   (`ReachRotC11F`, `c11_rotation_rule_reach`, `c11_rotation_clean_restart`; any
   other setting may change). Not lifted to crash recovery: recovery closes a
   truncated last chunk that is not full.

2. On-disk size (`c11_on_disk_size_of_J`, `c11_on_disk_size_is_files_total`,
   `…_reach`): `on_disk_size` = journal end − id of the oldest live chunk (a real
   subtraction) = Σ extents of the live chunks (they abut) = Σ bytes of the live
   chunks (file ‖ in flight in the worker ‖ pending buffer); and when the worker is
   quiet, nothing is pending and no removal is outstanding, = Σ lengths of the
   linked files of the directory.
-/
import RaftLogModel.Proofs.C11Full
import RaftLogModel.Proofs.OpDecide
import RaftLogModel.Props.C11
import RaftLogModel.Props.LiftRestart
namespace RaftLog

/-- **Every public write call keeps the rotation rule** `RotInvC11F` (store level), whatever its
arguments and result — unless it panics (which well-formed arguments never cause: `call_ok_D12`) —
provided no chunk file sits at or beyond the journal end (true in every `J` state). -/
theorem c11_call_keeps_rotation_rule (s : Store) (fsHas : Nat → Bool) (op : Op) (h : RotInvC11F s)
    (hfs : ∀ i, s.openEnd ≤ i → fsHas i = false) :
    (∃ m, (s.call fsHas op).1 = .panic m) ∨
      (RotInvC11F (s.call fsHas op).2.1 ∧ (s.call fsHas op).2.1.cfg = s.cfg) :=
  call_rot_C11F fsHas op h hfs

/-- The rotation rule, the journal invariant and `PanicFree` hold after
every history. -/
theorem c11_rotation_invariant (cfg : Cfg) (steps : List Step)
    (hsteps : ∀ st ∈ steps, st.journal = true) (hwf : ∀ op ∈ stepOps steps, op.WF)
    (halive : ((Sys.fresh cfg).run steps).worker.pc ≠ .dead) :
    ∃ s, ((Sys.fresh cfg).run steps).store = some s ∧ s.cfg = cfg ∧ RotInvC11F s :=
  run_RotSys_C11F steps _ (fresh_J cfg) (fresh_PFSys_D12 cfg) (fresh_RotSys_C11F cfg) hsteps hwf
    halive

/-- **C11 (i): the open chunk is never full.** After every history the open
chunk is below both limits — `is_full` is false; fewer than `maxRecords` records
(head included) and fewer than `maxSize` bytes — or, the exact exception, it
holds only its head record and `maxRecords ≤ 1` or `maxSize ≤` that record's
size. -/
theorem c11_open_chunk_never_full (cfg : Cfg) (steps : List Step)
    (hsteps : ∀ st ∈ steps, st.journal = true) (hwf : ∀ op ∈ stepOps steps, op.WF)
    (halive : ((Sys.fresh cfg).run steps).worker.pc ≠ .dead) :
    ∃ s, ((Sys.fresh cfg).run steps).store = some s ∧ s.cfg = cfg ∧
      (s.isOpenFull = false ∨ s.openOffsets.length = 2) ∧
      ((recordsCount s.openOffsets < cfg.maxRecords ∧ chunkSize s.openOffsets < cfg.maxSize) ∨
        (recordsCount s.openOffsets = 1 ∧
          (cfg.maxRecords ≤ 1 ∨ cfg.maxSize ≤ chunkSize s.openOffsets))) := by
  obtain ⟨s, hs, hc, hr⟩ := c11_rotation_invariant cfg steps hsteps hwf halive
  have := hr.open_spec
  rw [hc] at this
  exact ⟨s, hs, hc, hr.openNF, this⟩

/-- **C11 (ii): a chunk is closed as soon as it reaches a limit.** After every
history (no restart), for every live closed chunk: it reached a limit; it holds
the head record and at least one more; without its last record it was below both
limits, or it holds only head + one record; it holds at most `max maxRecords 2`
records, and exactly that many if the record limit closed it. -/
theorem c11_closed_chunks_full_when_closed (cfg : Cfg) (steps : List Step)
    (hsteps : ∀ st ∈ steps, st.journal = true) (hwf : ∀ op ∈ stepOps steps, op.WF)
    (halive : ((Sys.fresh cfg).run steps).worker.pc ≠ .dead) :
    ∃ s, ((Sys.fresh cfg).run steps).store = some s ∧ s.cfg = cfg ∧
      ∀ c ∈ s.closed,
        (cfg.maxRecords ≤ recordsCount c.offsets ∨ cfg.maxSize ≤ chunkSize c.offsets) ∧
        2 ≤ recordsCount c.offsets ∧
        ((recordsCount c.offsets.dropLast < cfg.maxRecords ∧
            chunkSize c.offsets.dropLast < cfg.maxSize) ∨ recordsCount c.offsets = 2) ∧
        recordsCount c.offsets.dropLast + 1 = recordsCount c.offsets ∧
        recordsCount c.offsets ≤ max cfg.maxRecords 2 ∧
        (cfg.maxRecords ≤ recordsCount c.offsets → recordsCount c.offsets = max cfg.maxRecords 2) := by
  obtain ⟨s, hs, hc, hr⟩ := c11_rotation_invariant cfg steps hsteps hwf halive
  refine ⟨s, hs, hc, fun c hcm => ?_⟩
  have := (hr.closedFull c hcm).spec
  rw [hc] at this
  exact this

/-- In these histories a rotation is never blocked: no call fails with
`exists`, at any point of the history (`c11_call_never_exists` for these histories). -/
theorem c11_rotation_never_blocked (cfg : Cfg) (steps : List Step) (op : Op)
    (hsteps : ∀ st ∈ steps, st.journal = true) (hwf : ∀ op ∈ stepOps steps, op.WF) (hop : op.WF)
    (halive : ((Sys.fresh cfg).run steps).worker.pc ≠ .dead) :
    (((Sys.fresh cfg).run steps).call op).1 ≠ .err .exists :=
  c11_call_never_exists _ op (c11_journal_invariant cfg steps hsteps hwf halive) hop

/-- The rotation rule `RotInvC11F` in numbers (any store): the open-chunk rule
and, for every closed chunk, the closed-chunk rule of (i) and (ii). -/
theorem c11_rotation_rule_spec (s : Store) (h : RotInvC11F s) :
    ((recordsCount s.openOffsets < s.cfg.maxRecords ∧ chunkSize s.openOffsets < s.cfg.maxSize) ∨
      (recordsCount s.openOffsets = 1 ∧
        (s.cfg.maxRecords ≤ 1 ∨ s.cfg.maxSize ≤ chunkSize s.openOffsets))) ∧
    ∀ c ∈ s.closed,
      (s.cfg.maxRecords ≤ recordsCount c.offsets ∨ s.cfg.maxSize ≤ chunkSize c.offsets) ∧
      2 ≤ recordsCount c.offsets ∧
      ((recordsCount c.offsets.dropLast < s.cfg.maxRecords ∧
          chunkSize c.offsets.dropLast < s.cfg.maxSize) ∨ recordsCount c.offsets = 2) ∧
      recordsCount c.offsets.dropLast + 1 = recordsCount c.offsets ∧
      recordsCount c.offsets ≤ max s.cfg.maxRecords 2 ∧
      (s.cfg.maxRecords ≤ recordsCount c.offsets → recordsCount c.offsets = max s.cfg.maxRecords 2) :=
  ⟨h.open_spec, fun c hc => (h.closedFull c hc).spec⟩

/-- A history from ANY system that satisfies the journal invariant, has a
`PanicFree` store and satisfies the rotation rule keeps the rule. -/
theorem c11_rotation_history_from (y : Sys) (cfg : Cfg) (steps : List Step) (hJ : J y)
    (hp : PFSys_D12 y) (hr : RotSysC11F cfg y)
    (hsteps : ∀ st ∈ steps, st.journal = true) (hwf : ∀ op ∈ stepOps steps, op.WF)
    (halive : (y.run steps).worker.pc ≠ .dead) : RotSysC11F cfg (y.run steps) :=
  run_RotSys_C11F steps y hJ hp hr hsteps hwf halive

/-- A clean restart with a configuration that has the SAME two limits keeps
the rule: `open` re-opens the last chunk and rebuilds the closed chunks exactly
as they were. (With other limits it does not: `c11_restart_open_chunk_may_be_full`.) -/
theorem c11_rotation_clean_restart {y : Sys} {r : RefLog} (hC : CSys y r) (hc : y.Clean)
    (cfg cfg' : Cfg) (hr : RotSysC11F cfg y) (h1 : cfg'.maxRecords = cfg.maxRecords)
    (h2 : cfg'.maxSize = cfg.maxSize) :
    RotSysC11F cfg' ((y.step .drop).step (.openWith cfg')) := by
  obtain ⟨s, s', c, k⟩ := restart_eq_LIFT hC hc cfg'
  obtain ⟨s0, hs0, hcfg, hrot⟩ := hr
  rw [c.store] at hs0; cases hs0
  rw [k.sys]
  exact ⟨s', rfl, k.cfgEq, hrot.of_limits (by rw [k.cfgEq, hcfg]; exact h1) (by rw [k.cfgEq, hcfg]; exact h2)
    k.openOffsets k.closed⟩

/-- Systems reached from a fresh store by histories (as in `ReachLIFT`: legal,
accepted, well-formed, small calls; worker alive at the end) and clean restarts
with configurations that all have the record limit `mr` and the size limit `ms`. -/
inductive ReachRotC11F (mr ms : Nat) : Sys → Prop
  | fresh (cfg : Cfg) : cfg.maxRecords = mr → cfg.maxSize = ms → ReachRotC11F mr ms (Sys.fresh cfg)
  | hist {y : Sys} (steps : List Step) (r r' : RefLog) : ReachRotC11F mr ms y →
      (∀ st ∈ steps, st.journal = true) → CSys y r → r.run (stepOps steps) = some r' →
      (∀ op ∈ stepOps steps, op.WF ∧ op.small) → (y.run steps).worker.pc ≠ .dead →
      ReachRotC11F mr ms (y.run steps)
  | restart {y : Sys} (cfg' : Cfg) : ReachRotC11F mr ms y → y.Clean →
      cfg'.maxRecords = mr → cfg'.maxSize = ms →
      ReachRotC11F mr ms ((y.step .drop).step (.openWith cfg'))

/-- **C11 (i) + (ii) across clean restarts with unchanged limits**: every such
system is `ReachLIFT` (so `J` etc. hold) and its store satisfies the rotation
rule for the limits `mr`, `ms` (spelled out: `c11_rotation_rule_spec`). -/
theorem c11_rotation_rule_reach {mr ms : Nat} {y : Sys} (h : ReachRotC11F mr ms y) :
    ReachLIFT y ∧ ∃ s, y.store = some s ∧ s.cfg.maxRecords = mr ∧ s.cfg.maxSize = ms ∧
      RotInvC11F s := by
  induction h with
  | fresh cfg h1 h2 =>
    obtain ⟨s, hs, hc, hr⟩ := fresh_RotSys_C11F cfg
    exact ⟨ReachLIFT.fresh cfg, s, hs, by rw [hc]; exact h1, by rw [hc]; exact h2, hr⟩
  | @hist y steps r r' _ hst hC hrun hwf hnd ih =>
    obtain ⟨hreach, s, hs, k1, k2, hr⟩ := ih
    have hJ := hC.1.J
    obtain ⟨s', hs', hc', hr'⟩ := c11_rotation_history_from y s.cfg steps hJ hC.1.pf
      ⟨s, hs, rfl, hr⟩ hst (fun op hop => (hwf op hop).1) hnd
    exact ⟨ReachLIFT.hist steps r r' hreach hst hC hrun hwf hnd, s', hs', by rw [hc']; exact k1,
      by rw [hc']; exact k2, hr'⟩
  | @restart y cfg' _ hcl h1 h2 ih =>
    obtain ⟨hreach, s, hs, k1, k2, hr⟩ := ih
    obtain ⟨r, hC⟩ := hreach.csys
    obtain ⟨s', hs', hc', hr'⟩ := c11_rotation_clean_restart hC hcl s.cfg cfg' ⟨s, hs, rfl, hr⟩
      (by rw [h1, k1]) (by rw [h2, k2])
    exact ⟨ReachLIFT.restart cfg' hreach hcl, s', hs', by rw [hc']; exact h1, by rw [hc']; exact h2, hr'⟩

/-- `on_disk_size`, by definition: journal end minus the id of the oldest live
chunk (any store). -/
theorem c11_on_disk_size_def (s : Store) :
    s.onDiskSize = s.openEnd - (s.closed.map Closed.id ++ [s.openId]).headD 0 := by
  rw [← Store.chunkIds_eq]; exact onDiskSize_def_C11F s

/-- **C11: the reported on-disk size, in every `J` state**: journal end − oldest
live chunk id (which is smaller); = Σ over the live chunks of their extents
`lastOff − id` (consecutive chunks abut: `Chained`); = Σ over the live chunks of
the length of their bytes: file ‖ in flight inside the worker ‖ (open chunk)
pending buffer. -/
theorem c11_on_disk_size_of_J {y : Sys} {s : Store} (h : J y) (hs : y.store = some s) :
    s.onDiskSize = s.openEnd - (s.closed.map Closed.id ++ [s.openId]).headD 0 ∧
    (s.closed.map Closed.id ++ [s.openId]).headD 0 < s.openEnd ∧
    Chained s.chunks ∧
    s.onDiskSize = sumNat (s.chunks.map (fun offs => lastOff offs - offs.headD 0)) ∧
    s.onDiskSize = sumNat ((s.closed.map Closed.id ++ [s.openId]).map
      (fun id => (chunkBytes s y.fs y.worker id).length)) := by
  have hj := (Sys.Live.of_store (I := JInv) h hs).2
  refine ⟨c11_on_disk_size_def s, ?_, hj.chained, hj.onDiskSize_extents, ?_⟩
  · rw [← Store.chunkIds_eq]; exact hj.oldest_lt_C11F
  · rw [← Store.chunkIds_eq]; exact hj.onDiskSize_bytes_C11F

/-- **C11: at quiescence the reported size is the total length of the chunk
files in the directory.** `J` and the linked-files invariant `LSys`; worker
quiet (idle on an empty queue), nothing pending, no removal outstanding in the
store or postponed in the worker. -/
theorem c11_on_disk_size_files_of_J {y : Sys} {s : Store} (h : J y) (hl : LSys y)
    (hs : y.store = some s) (hq : y.worker.quiet = true) (hp : s.pending = [])
    (hr : s.removed = []) (hpo : y.worker.postponed = []) :
    s.onDiskSize = ((y.fs.filter (·.linked)).map (·.data.length)).sum ∧
    y.fs.linkedIds = s.closed.map Closed.id ++ [s.openId] := by
  obtain ⟨hd, hj⟩ := Sys.Live.of_store (I := JInv) h hs
  obtain ⟨s1, hs1, hli⟩ := hl
  rw [hs] at hs1; cases hs1
  obtain ⟨hpc, hqe⟩ := quiet_alive hq hd
  have htr := toRemove_of_quiet_C8s hq hd hpo
  have hids := hli.linkedIds_eq hj hr htr
  exact ⟨onDiskSize_files_C11F hj hli.nodup hids hpc hqe hp, by rw [hids, Store.chunkIds_eq]⟩

/-- **C11: the reported on-disk size along every history** from a fresh store
(any well-formed calls, flushes, worker steps of any outcome, worker alive at the
end): all of `c11_on_disk_size_of_J`, and at quiescence with no removal
outstanding the total length of the linked files. -/
theorem c11_on_disk_size_is_files_total (cfg : Cfg) (steps : List Step)
    (hsteps : ∀ st ∈ steps, st.journal = true) (hwf : ∀ op ∈ stepOps steps, op.WF)
    (halive : ((Sys.fresh cfg).run steps).worker.pc ≠ .dead) :
    let y := (Sys.fresh cfg).run steps
    ∃ s, y.store = some s ∧
      s.onDiskSize = s.openEnd - (s.closed.map Closed.id ++ [s.openId]).headD 0 ∧
      (s.closed.map Closed.id ++ [s.openId]).headD 0 < s.openEnd ∧
      s.onDiskSize = sumNat (s.chunks.map (fun offs => lastOff offs - offs.headD 0)) ∧
      s.onDiskSize = sumNat ((s.closed.map Closed.id ++ [s.openId]).map
        (fun id => (chunkBytes s y.fs y.worker id).length)) ∧
      (y.worker.quiet = true → s.pending = [] → s.removed = [] → y.worker.postponed = [] →
        s.onDiskSize = ((y.fs.filter (·.linked)).map (·.data.length)).sum) := by
  intro y
  have hJ : J y := run_J steps _ (fresh_J cfg) hsteps hwf halive
  have hL : LSys y := run_LSys steps _ (fresh_LSys cfg) (fresh_J cfg) hsteps hwf halive
  have ⟨s, hs, _, _⟩ := hJ
  obtain ⟨k1, k2, _, k4, k5⟩ := c11_on_disk_size_of_J hJ hs
  exact ⟨s, hs, k1, k2, k4, k5, fun hq hp hr hpo => (c11_on_disk_size_files_of_J hJ hL hs hq hp hr hpo).1⟩

/-- The same for **every reachable system** (`ReachLIFT`: histories, clean
restarts with any configuration, crashes + recoveries, in any order). -/
theorem c11_on_disk_size_is_files_total_reach {y : Sys} (h : ReachLIFT y) :
    ∃ s, y.store = some s ∧
      s.onDiskSize = s.openEnd - (s.closed.map Closed.id ++ [s.openId]).headD 0 ∧
      (s.closed.map Closed.id ++ [s.openId]).headD 0 < s.openEnd ∧
      s.onDiskSize = sumNat (s.chunks.map (fun offs => lastOff offs - offs.headD 0)) ∧
      s.onDiskSize = sumNat ((s.closed.map Closed.id ++ [s.openId]).map
        (fun id => (chunkBytes s y.fs y.worker id).length)) ∧
      (y.worker.quiet = true → s.pending = [] → s.removed = [] → y.worker.postponed = [] →
        s.onDiskSize = ((y.fs.filter (·.linked)).map (·.data.length)).sum) := by
  obtain ⟨r, hC⟩ := h.csys
  have hJ := hC.1.J
  have ⟨s, hs, _, _⟩ := hJ
  obtain ⟨k1, k2, _, k4, k5⟩ := c11_on_disk_size_of_J hJ hs
  exact ⟨s, hs, k1, k2, k4, k5,
    fun hq hp hr hpo => (c11_on_disk_size_files_of_J hJ hC.2 hs hq hp hr hpo).1⟩

/-- A history with rotations, a purge that drops a chunk, flushes and a quiet
worker at the end. -/
def c11FullExample : List Step :=
  [ .call (.saveVote ⟨1, 7⟩),
    .call (.append [(⟨1, 0⟩, [1, 2, 3]), (⟨1, 1⟩, [4]), (⟨1, 2⟩, [5, 6])]),
    .call (.commit ⟨1, 1⟩),
    .flush (some 0),
    .workerIdle,
    .call (.purge ⟨1, 0⟩),
    .call (.saveUserData (some [42])),
    .flush none,
    .workerIdle ]

theorem c11FullExample_wf : ∀ op ∈ stepOps c11FullExample, op.WF := by decide +kernel

def c11FullSysMR3 : Sys := (Sys.fresh { maxRecords := 3 }).run c11FullExample
def c11FullSysMS64 : Sys := (Sys.fresh { maxSize := 64 }).run c11FullExample

/-- `maxRecords = 3`: the hypotheses hold; the two live closed chunks hold
exactly 3 records (head + 2), the open chunk 2 (not full); the reported size 392
is journal end 473 − oldest live id 81 and the total of the three linked files
(117 + 106 + 169), the system being quiescent with no removal outstanding. -/
example :
    (∀ st ∈ c11FullExample, st.journal = true) ∧ c11FullSysMR3.worker.pc ≠ .dead ∧
    c11FullSysMR3.worker.quiet = true ∧ c11FullSysMR3.worker.postponed = [] ∧
    c11FullSysMR3.store.map (fun s => (s.closed.map (·.offsets), s.openOffsets, s.isOpenFull))
      = some ([[81, 131, 164, 198], [198, 248, 276, 304]], [304, 386, 473], false) ∧
    c11FullSysMR3.store.map (fun s => (s.onDiskSize, s.pending, s.removed)) = some (392, [], []) ∧
    (c11FullSysMR3.fs.filter (·.linked)).map (fun f => (f.id, f.data.length))
      = [(81, 117), (198, 106), (304, 169)] := by
  decide +kernel

/-- `maxSize = 64`: chunks `[81,131,164]`, `[164,214,248]`, `[248,298,326]`,
`[420,502,589]`… were closed by the size limit as soon as it was reached (head
alone < 64 except where the head `State` record itself is ≥ 64 bytes: chunk
`[326,392,420]` has a 66-byte head and holds head + one record — the degenerate
case); the open chunk `[589,676]` holds only its 87-byte head record and is
"full": the exact exception of (i). -/
example :
    c11FullSysMS64.worker.pc ≠ .dead ∧ c11FullSysMS64.worker.quiet = true ∧
    c11FullSysMS64.worker.postponed = [] ∧
    c11FullSysMS64.store.map (fun s => (s.closed.map (·.offsets), s.openOffsets, s.isOpenFull))
      = some ([[81, 131, 164], [164, 214, 248], [248, 298, 326], [326, 392, 420], [420, 502, 589]],
          [589, 676], true) ∧
    c11FullSysMS64.store.map (fun s => (s.onDiskSize, s.pending, s.removed)) = some (595, [], []) ∧
    (c11FullSysMS64.fs.filter (·.linked)).map (fun f => (f.id, f.data.length))
      = [(81, 83), (164, 84), (248, 78), (326, 94), (420, 169), (589, 87)] := by
  decide +kernel

/-- Degenerate limits: with `maxRecords = 1` (or `maxSize = 0`) every fresh
chunk is "full" from the start; it is closed by the next accepted record, so
every chunk holds head + one record and the open chunk only its head. -/
example :
    ((Sys.fresh { maxRecords := 1 }).run c11FullExample).store.map
        (fun s => (s.closed.map (·.offsets), s.openOffsets, s.isOpenFull))
      = some ([[115, 165, 198], [198, 248, 282], [282, 332, 360], [360, 426, 454], [454, 536, 623]],
          [623, 710], true) ∧
    ((Sys.fresh { maxSize := 0 }).run c11FullExample).store.map
        (fun s => (s.closed.map (·.offsets), s.openOffsets, s.isOpenFull))
      = some ([[115, 165, 198], [198, 248, 282], [282, 332, 360], [360, 426, 454], [454, 536, 623]],
          [623, 710], true) := by
  decide +kernel

/-- The exception the code allows at the store level: if a file with the next
chunk's name exists, `create_new` fails, the call reports `exists` and the full
chunk stays open (here: 3 records with `maxRecords = 3`). Not reachable in the
histories above (`c11_rotation_never_blocked`). -/
theorem c11_rotation_blocked_by_existing_file :
    ∃ s, ((Sys.fresh { maxRecords := 3 }).run [.call (.saveVote ⟨1, 7⟩)]).store = some s ∧
      RotInvC11F s ∧
      (s.call (fun _ => true) (.commit ⟨0, 0⟩)).1 = .err .exists ∧
      (s.call (fun _ => true) (.commit ⟨0, 0⟩)).2.1.isOpenFull = true ∧
      (s.call (fun _ => true) (.commit ⟨0, 0⟩)).2.1.openOffsets.length = 4 := by
  obtain ⟨s, hs, _, hr⟩ := c11_rotation_invariant { maxRecords := 3 } [Step.call (.saveVote ⟨1, 7⟩)]
    (by decide) (by decide +kernel) (by decide +kernel)
  refine ⟨s, hs, hr, ?_⟩
  have e : ((Sys.fresh { maxRecords := 3 }).run [.call (.saveVote ⟨1, 7⟩)]).store.map
      (fun s => ((s.call (fun _ => true) (.commit ⟨0, 0⟩)).1,
        (s.call (fun _ => true) (.commit ⟨0, 0⟩)).2.1.isOpenFull,
        (s.call (fun _ => true) (.commit ⟨0, 0⟩)).2.1.openOffsets.length))
      = some (.err .exists, true, 4) := by decide +kernel
  rw [hs] at e
  simp only [Option.map_some, Option.some.injEq, Prod.mk.injEq] at e
  exact e

-- the kernel's evaluation of drop + reopen (a replay of the whole journal) recurses deeper than the default
set_option maxRecDepth 100000 in
/-- Why (i) is not lifted to restarts: a clean restart with smaller limits
re-opens the last chunk as it is — here 8 records, `maxRecords = 2`. -/
theorem c11_restart_open_chunk_may_be_full :
    ((Sys.fresh { maxRecords := 10 }).run c11FullExample).cleanB = true ∧
    ((((Sys.fresh { maxRecords := 10 }).run c11FullExample).step .drop).step
        (.openWith { maxRecords := 2 })).store.map
        (fun s => (s.cfg.maxRecords, s.closed.length, s.openOffsets.length, s.isOpenFull))
      = some (2, 0, 9, true) := by
  decide +kernel

theorem c11FullExample_small : ∀ op ∈ stepOps c11FullExample, op.WF ∧ op.small := by
  decide +kernel

/-- `c11FullSysMR3` restarted cleanly with the same limits (other cache size). -/
def c11FullRestarted : Sys :=
  (c11FullSysMR3.step .drop).step (.openWith { maxRecords := 3, cacheItems := 7 })

/-- `ReachRotC11F` is inhabited by a run with a history and a clean restart. -/
theorem c11_reachRot_example : ReachRotC11F 3 (1024 * 1024 * 1024) c11FullRestarted := by
  have hev : (∀ st ∈ c11FullExample, st.journal = true) ∧
      (RefLog.run {} (stepOps c11FullExample)).isSome = true ∧
      ((Sys.fresh { maxRecords := 3 }).run c11FullExample).worker.pc ≠ .dead ∧
      c11FullSysMR3.cleanB = true := by decide +kernel
  obtain ⟨hj, hr, halive, hclean⟩ := hev
  obtain ⟨r, hr⟩ := Option.isSome_iff_exists.mp hr
  have h1 : ReachRotC11F 3 (1024 * 1024 * 1024) c11FullSysMR3 :=
    .hist c11FullExample {} r (.fresh _ rfl rfl) hj (fresh_CSys _) hr c11FullExample_small halive
  exact .restart _ h1 (Sys.clean_of_cleanB hclean) rfl rfl

set_option maxRecDepth 100000 in
/-- The restarted store, computed by the model: same chunks, open chunk not
full, new cache size — and by `c11_rotation_rule_reach` the rotation rule. -/
example :
    c11FullRestarted.store.map (fun s => (s.closed.map (·.offsets), s.openOffsets, s.isOpenFull))
      = some ([[81, 131, 164, 198], [198, 248, 276, 304]], [304, 386, 473], false) ∧
    c11FullRestarted.store.map (fun s => (s.cfg.maxRecords, s.cfg.cacheItems, s.onDiskSize))
      = some (3, 7, 392) ∧
    ∃ s, c11FullRestarted.store = some s ∧ RotInvC11F s := by
  obtain ⟨_, s, hs, _, _, hr⟩ := c11_rotation_rule_reach c11_reachRot_example
  exact and_assoc.mp ⟨by decide +kernel, s, hs, hr⟩

end RaftLog
