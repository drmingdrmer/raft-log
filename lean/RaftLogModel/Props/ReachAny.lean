/-
Reachability with arbitrary (accepted or rejected) calls.

`ReachLIFT` (Props/LiftRestart.lean) closes the fresh systems under LEGAL histories,
clean restarts and crash recoveries. By the normalisation theorem of Props/C06Normal.lean
a history of well-formed calls that the reference log does not accept ends in the same
system as its legal normal form, so `ReachLIFT` is also closed under such histories
(hypothesis: purges are Raft-legal, `purgesLegalC6N`). Hence every theorem stated for
`ReachLIFT` systems holds for systems reached through rejected calls, refused batches and
index-u64::MAX calls as well.
-/
import RaftLogModel.Proofs.AnyHistory
import RaftLogModel.Props.C06Normal
import RaftLogModel.Props.LiftRestart
namespace RaftLog

theorem reachLIFT_settled {y : Sys} (h : ReachLIFT y) : y.Settled := by
  induction h with
  | fresh cfg => exact Sys.fresh_settled cfg
  | hist steps r r' _ _ _ _ _ _ ih => exact Sys.run_settled steps _ ih
  | restart cfg' _ _ ih => exact Sys.step_settled _ _ (Sys.step_settled _ _ ih)
  | recover img cfg' _ _ _ _ _ =>
    -- the system recovery starts from has the default worker, which is dead: `settle` does nothing
    exact Sys.open_settled _ rfl

/-- **`ReachLIFT` is closed under arbitrary histories of well-formed calls.** From a
reachable system `y` refining `r`: any journal steps whose ops are well-formed (accepted or
not, small or not), with Raft-legal purges and the worker alive at the end, lead to a
reachable system again, refining the reference log of the normal form. -/
theorem reachLIFT_any_history {y : Sys} (h : ReachLIFT y) (r : RefLog) (hC : CSys y r)
    (steps : List Step) (hsteps : ∀ st ∈ steps, st.journal = true)
    (hwf : ∀ op ∈ stepOps steps, op.WF) (hpurge : purgesLegalC6N r steps = true)
    (halive : (y.run steps).worker.pc ≠ .dead) :
    ReachLIFT (y.run steps) ∧ CSys (y.run steps) (normalizeC6N r steps).2 := by
  obtain ⟨k1, k2, k3, k4, k5, _⟩ :=
    normalize_run_C6N steps y r hC (reachLIFT_settled h) hsteps hwf hpurge halive
  refine ⟨?_, k5⟩
  rw [← k1]
  exact ReachLIFT.hist _ r _ h k2 hC k3 k4 (by rw [k1]; exact halive)

/-- From a fresh store: any such history is `ReachLIFT`. -/
theorem reachLIFT_of_any_history (cfg : Cfg) (steps : List Step)
    (hsteps : ∀ st ∈ steps, st.journal = true) (hwf : ∀ op ∈ stepOps steps, op.WF)
    (hpurge : purgesLegalC6N {} steps = true)
    (halive : ((Sys.fresh cfg).run steps).worker.pc ≠ .dead) :
    ReachLIFT ((Sys.fresh cfg).run steps) :=
  (reachLIFT_any_history (ReachLIFT.fresh cfg) {} (fresh_CSys cfg) steps hsteps hwf hpurge halive).1

/-- Non-vacuity: the history of Props/C06Normal.lean with a rejected vote, a batch with a
rejected tail, an index-u64::MAX purge and a rejected truncate is reachable in this sense
although the reference log does not accept it. -/
example : ReachLIFT ((Sys.fresh {}).run c06NormalExample) ∧
    RefLog.run {} (stepOps c06NormalExample) = none := by
  exact ⟨reachLIFT_of_any_history {} c06NormalExample (by decide +kernel) c06NormalExample_wf
    (by decide +kernel) (by decide +kernel), by decide +kernel⟩

end RaftLog
