/-
C14, system level — drop with a busy worker, then open.

"After the caller has received the acknowledgement of its last flush and dropped
the store, nothing changes the directory any more, so opening it again at any
later moment succeeds, shows the acknowledged state, and the new instance keeps
working; for all placements of the old worker's remaining steps (pending unlink,
queued writes)."

`c02_clean_restart` proves drop + open = identity from a state whose worker is
already quiet. Here the `drop` is issued while the worker is in ANY control
state with ANY queue (parked at a `write`, an `fdatasync` of an older file, an
`unlink`, with writes / `appendFile` / `removeChunks` requests queued): `drop`
closes the channel and joins the worker, which finishes all of it.

`drop` = `workerIdle` followed by `drop`, as an equation between whole system states
(`c14_busy_drop_eq_idle_drop`): the worker looks at `senderAlive` only in `recv` on an empty
queue, where the live-channel worker blocks and the closed-channel worker exits, so closing the
channel commutes with every worker step (Proofs/BusyDropWorker.lean, Proofs/BusyDropSys.lean).
The only hypothesis on failed syncs in the restart theorems: a write request is in hand or queued
(`Worker.willSyncD14`: the caller's last flush is not finished — a removal postponed by a failed
sync is retried right after the batch the join syncs), or the last sync did not fail;
`c14_busy_failed_sync_needed`: it cannot be dropped.
-/
import RaftLogModel.Props.C14
import RaftLogModel.Props.C02
import RaftLogModel.Proofs.BusyDropSys
import RaftLogModel.Proofs.PostponedD14
namespace RaftLog

/-- **(1)** For a live store whose channel is open (`senderAlive`, true along
every history without `drop`: `c14_busy_senderAlive`) and whose parked write
data are non-empty (`TodoOK`, an invariant: `c14_todoOK_reachable`), in ANY
worker control state with ANY queue: `drop` leaves the whole system in the
state that `workerIdle` followed by `drop` leaves it; in particular the file
system is the one `workerIdle` leaves. The worker afterwards is the idle
worker with `pc := dead`, `senderAlive := false`. -/
theorem c14_busy_drop_eq_idle_drop (y : Sys) (s : Store) (hs : y.store = some s)
    (ha : y.worker.senderAlive = true) (ht : y.worker.TodoOK) :
    y.step .drop = (y.step .workerIdle).step .drop ∧
    (y.step .drop).fs = (y.step .workerIdle).fs ∧
    (y.step .drop).store = none ∧ (y.step .drop).locked = false ∧
    (y.step .drop).worker.pc = .dead ∧
    (y.step .drop).worker = { (y.step .workerIdle).worker with pc := .dead, senderAlive := false } :=
  y.dropStore_busy_C14b s hs ha ht

/-- **(1), events.** The events of the busy `drop` are the events of the idle
run, followed by the worker's exit (if the idle run ends blocked in `recv`,
i.e. the worker did not die earlier). -/
theorem c14_busy_drop_events (y : Sys) (s : Store) (hs : y.store = some s)
    (ha : y.worker.senderAlive = true) (ht : y.worker.TodoOK) :
    y.dropStore.2 = y.workerIdle.2 ++
      (if y.workerIdle.1.worker.pc = .idle ∧ y.workerIdle.1.worker.queue = [] then [.workerExit true]
       else []) := by
  rw [(y.dropStore_busy_eqC14b s hs ha ht).2, y.workerIdle_eq hs]
  rfl

/-- The sending half of the channel exists along every history of calls,
flushes, worker steps (any outcome), idle runs and drains from a fresh store. -/
theorem c14_busy_senderAlive (cfg : Cfg) (steps : List Step) (hsteps : ∀ st ∈ steps, st.journal = true) :
    ((Sys.fresh cfg).run steps).worker.senderAlive = true :=
  Sys.fresh_run_senderAliveC14b cfg steps hsteps

/-- With no failed sync outstanding and nothing postponed, the all-ok run the
`drop` performs postpones nothing. -/
theorem c14_busy_nothing_postponed (y : Sys) (s : Store) (hs : y.store = some s) (hw : y.worker.WF)
    (hl : y.worker.lastSyncFailed = false) (hp : y.worker.postponed = []) :
    (y.step .workerIdle).worker.postponed = [] :=
  y.workerIdle_noPostponedC14b s hs hw hl hp

/-- A removal postponed by a failed sync is retried after every batch: if a write request
is in hand or queued (`willSyncD14`) — whatever `lastSyncFailed` and `postponed` are —, or
the last sync did not fail, the all-ok run the `drop` performs ends with a good last sync
and nothing postponed. `hpo` is the invariant `SysPostD14.run` gives for every
history from a fresh store (`c14_busy_postponed_invariant`). -/
theorem c14_busy_nothing_postponed_sync (y : Sys) (s : Store) (hs : y.store = some s) (hw : y.worker.WF)
    (ht : y.worker.TodoOK) (hpo : PostponedOnlyAfterFailedSyncD14 y.worker)
    (hsync : y.worker.willSyncD14 ∨ y.worker.lastSyncFailed = false) :
    (y.step .workerIdle).worker.lastSyncFailed = false ∧ (y.step .workerIdle).worker.postponed = [] :=
  y.workerIdle_cleanD14 s hs hw ht hpo hsync

/-- Along every history from a fresh store, while the store is open: removals are postponed
only while the last sync has failed, and the request that ended the batch in hand is not a
write. -/
theorem c14_busy_postponed_invariant (cfg : Cfg) (steps : List Step)
    (hs : ((Sys.fresh cfg).run steps).store ≠ none) :
    PostponedOnlyAfterFailedSyncD14 ((Sys.fresh cfg).run steps).worker :=
  (SysPostD14.fresh cfg).run steps hs

/-- **(2), in terms of the invariants.** `y` satisfies the replay and
linked-files invariants for the reference log `r` (`CSys y r`, what `run_CSys`
gives for every legal history), its worker is well-formed, the channel is open;
nothing is pending on the caller side (`pending = []`, `removed = []`: the last
caller action was a flush); the worker is in any control state with any queue;
no removal stays postponed once the worker has run to completion. Then for
every `cfg'`, with `y1 := y.step .drop`, `y2 := y1.step (.openWith cfg')`:
`y1` is `workerIdle` + `drop`; `open` returns `ok`, emits only the syncs of the chunk
files it keeps and raises only their durable marks (D15: `syncEvs y1.fs.linkedIds`,
`y1.fs.syncAll y1.fs.linkedIds`; see
`c14_busy_open_fs_unchanged_if_durable`); the reopened store has the state, index map and
chunk table of the dropped store; `CSys y2 r` holds again; and if the cache
limits of `cfg'` cover the `Append` records in the files, the reopened store
refines `r` (`Refines`, `SysRef`). -/
theorem c14_busy_restart_step (y : Sys) (r : RefLog) (cfg' : Cfg) (s : Store) (h : CSys y r)
    (hs : y.store = some s) (ht : y.worker.TodoOK) (ha : y.worker.senderAlive = true)
    (hp : s.pending = []) (hrem : s.removed = [])
    (hpostI : (y.step .workerIdle).worker.postponed = []) :
    y.step .drop = (y.step .workerIdle).step .drop ∧
    (y.step .drop).fs = (y.step .workerIdle).fs ∧
    (y.step .drop).store = none ∧ (y.step .drop).locked = false ∧
    (y.step .drop).worker.pc = .dead ∧ (y.step .drop).worker.queue = [] ∧
    ∃ s', ((y.step .drop).step (.openWith cfg')).store = some s' ∧
      ({ (y.step .drop) with cfg := cfg' } : Sys).open.1 = .ok () ∧
      ({ (y.step .drop) with cfg := cfg' } : Sys).open.2.2 = syncEvs (y.step .drop).fs.linkedIds ∧
      ((y.step .drop).step (.openWith cfg')).fs
        = (y.step .drop).fs.syncAll (y.step .drop).fs.linkedIds ∧
      s'.st = s.st ∧ s'.st = r.state ∧ s'.log = s.log ∧
      s'.closed = s.closed ∧ s'.openOffsets = s.openOffsets ∧
      s'.pending = [] ∧ s'.removed = [] ∧ s'.cfg = cfg' ∧
      J ((y.step .drop).step (.openWith cfg')) ∧
      CSys ((y.step .drop).step (.openWith cfg')) r ∧
      ((fileAppends (y.step .drop).fs).length ≤ cfg'.cacheItems →
        sumLen (fileAppends (y.step .drop).fs) ≤ cfg'.cacheCap →
        Refines s' r ∧
        SysRef ((y.step .drop).step (.openWith cfg')) r
          (cfg'.cacheItems - (fileAppends (y.step .drop).fs).length)
          (cfg'.cacheCap - sumLen (fileAppends (y.step .drop).fs))) := by
  obtain ⟨s0, hs0, hd, hinv⟩ := h.1
  rw [hs] at hs0; cases hs0
  obtain ⟨e1, e2, e3, e4, e5, _⟩ := y.dropStore_busy_C14b s hs ha ht
  have e6 : (y.step .drop).worker.queue = [] :=
    (c14_drop_quiesces y s hs (fun hdd => absurd hdd hd) ht).2.2.2.1
  -- the state after the idle run: clean, invariants hold
  have haliveI := (y.step_alive .workerIdle ⟨hd, ha⟩ rfl rfl).1
  have hCI : CSys (y.step .workerIdle) r :=
    run_CSys [Step.workerIdle] y r r h (by simp [Step.journal]) rfl (by simp [stepOps]) haliveI
  obtain ⟨sI, hsI, k1, k2, k3, k4, k5, k6⟩ := y.workerIdle_storeC14b s hs
  have hclean : (y.step .workerIdle).Clean :=
    ⟨sI, hsI, y.workerIdle_quietC14b s hs ht, by rw [k1]; exact hp, by rw [k2]; exact hrem, hpostI⟩
  obtain ⟨sI', s', c, k⟩ := restart_eq_LIFT hCI hclean cfg'
  obtain rfl : sI = sI' := Option.some.inj (hsI.symm.trans c.store)
  have hC2 := restart_CSys hCI hclean cfg'
  refine ⟨e1, e2, e3, e4, e5, e6, ?_⟩
  rw [e1, c.drop_fs]
  refine ⟨s', by rw [k.sys], by rw [k.open_eq], by rw [k.open_eq], by rw [k.sys], by rw [k.st, k3],
    by rw [k.st, k3]; exact hinv.abs.st, by rw [k.log, k4], by rw [k.closed, k5], by rw [k.openOffsets, k6],
    k.pending, k.removed, k.cfgEq, hC2.1.J, hC2, fun hN hB => ?_⟩
  obtain ⟨s'', q1, q2, _, q4, _⟩ := c02_restart_refines (y.step .workerIdle) r cfg' hCI hclean hN hB
  rw [k.sys] at q1; cases q1
  exact ⟨q2, q4⟩

/-- D15: in (2), if every linked file the `drop` leaves is durable (the normal case: the
join synced everything), `open` leaves the file system exactly as `drop` left it. -/
theorem c14_busy_open_fs_unchanged_if_durable (y : Sys) (r : RefLog) (cfg' : Cfg) (s : Store)
    (h : CSys y r) (hs : y.store = some s) (ht : y.worker.TodoOK)
    (ha : y.worker.senderAlive = true) (hp : s.pending = []) (hrem : s.removed = [])
    (hpostI : (y.step .workerIdle).worker.postponed = [])
    (hd : ∀ f ∈ (y.step .drop).fs, f.linked = true → f.durable = f.data.length) :
    ((y.step .drop).step (.openWith cfg')).fs = (y.step .drop).fs ∧
    ∀ e ∈ ({ (y.step .drop) with cfg := cfg' } : Sys).open.2.2, ∃ id, e = Ev.sync "o" id true := by
  obtain ⟨_, e2, _, _, _, _, s', _, _, g3, g4, _⟩ :=
    c14_busy_restart_step y r cfg' s h hs ht ha hp hrem hpostI
  obtain ⟨s0, hs0, hdd, _⟩ := h.1
  rw [hs] at hs0; cases hs0
  have haliveI := (y.step_alive .workerIdle ⟨hdd, ha⟩ rfl rfl).1
  have hCI : CSys (y.step .workerIdle) r :=
    run_CSys [Step.workerIdle] y r r h (by simp [Step.journal]) rfl (by simp [stepOps]) haliveI
  refine ⟨?_, by rw [g3]; exact syncEvs_isOpenSync _⟩
  rw [g4, e2]
  rw [e2] at hd
  exact c02_syncAll_durable hCI hd

/-- **C14, drop with a busy worker, then open** (hypothesis on the state the
idle run reaches). `y` is reached from a freshly opened store by a history of
calls (legal and accepted for the reference log, reaching `r`; well-formed and
small), flushes, worker steps of any outcome, `workerIdle` and `drain`; the
worker is alive, in ANY control state, with ANY queue; nothing is pending on
the caller side (`pending = []`, `removed = []`); after the worker has run to
completion no removal is postponed. Then, for every `cfg'`, with
`y1 := y.step .drop` and `y2 := y1.step (.openWith cfg')`:
* `y1` is the state `workerIdle` then `drop` reaches; no store, lock released,
  worker thread gone with nothing queued;
* `open` returns `ok`, issues only one `sync "o" id true` per kept chunk file (D15),
  `y2.fs = y1.fs.syncAll y1.fs.linkedIds` (`= y1.fs` when every linked file is durable);
* `s'.st = s.st = r.state`, `s'.log = s.log`, same chunk table;
* `J y2 ∧ CSys y2 r`: every theorem about histories from a fresh store
  continues from `y2`. -/
theorem c14_busy_drop_then_open_idle (cfg cfg' : Cfg) (steps : List Step) (r : RefLog) (s : Store)
    (hsteps : ∀ st ∈ steps, st.journal = true)
    (hlegal : RefLog.run {} (stepOps steps) = some r)
    (hwf : ∀ op ∈ stepOps steps, op.WF ∧ op.small)
    (halive : ((Sys.fresh cfg).run steps).worker.pc ≠ .dead)
    (hs : ((Sys.fresh cfg).run steps).store = some s)
    (hp : s.pending = []) (hrem : s.removed = [])
    (hpostI : (((Sys.fresh cfg).run steps).step .workerIdle).worker.postponed = []) :
    let y := (Sys.fresh cfg).run steps
    let y1 := y.step .drop
    let y2 := y1.step (.openWith cfg')
    y1 = (y.step .workerIdle).step .drop ∧ y1.fs = (y.step .workerIdle).fs ∧
    y1.store = none ∧ y1.locked = false ∧ y1.worker.pc = .dead ∧ y1.worker.queue = [] ∧
    ∃ s', y2.store = some s' ∧
      ({ y1 with cfg := cfg' } : Sys).open.1 = .ok () ∧
      ({ y1 with cfg := cfg' } : Sys).open.2.2 = syncEvs y1.fs.linkedIds ∧
      y2.fs = y1.fs.syncAll y1.fs.linkedIds ∧
      s'.st = s.st ∧ s'.st = r.state ∧ s'.log = s.log ∧
      s'.closed.map (·.offsets) ++ [s'.openOffsets] = s.closed.map (·.offsets) ++ [s.openOffsets] ∧
      s'.closed = s.closed ∧ s'.openOffsets = s.openOffsets ∧
      s'.pending = [] ∧ s'.removed = [] ∧ s'.cfg = cfg' ∧
      J y2 ∧ CSys y2 r := by
  intro y y1 y2
  have hC : CSys y r := run_CSys steps _ {} r (fresh_CSys cfg) hsteps hlegal hwf halive
  have hwf' := (SysWF.fresh cfg).run steps (by simp [hs])
  have ha := c14_busy_senderAlive cfg steps hsteps
  obtain ⟨e1, e2, e3, e4, e5, e6, s', g1, g2, g3, g4, g5, g6, g7, g8, g9, g10, g11, g12, g13, g14, _⟩ :=
    c14_busy_restart_step y r cfg' s hC hs hwf'.2 ha hp hrem hpostI
  exact ⟨e1, e2, e3, e4, e5, e6, s', g1, g2, g3, g4, g5, g6, g7, by rw [g8, g9], g8, g9, g10, g11, g12,
    g13, g14⟩

/-- **C14, drop with a busy worker, then open.** As
`c14_busy_drop_then_open_idle`, with the hypothesis on postponed removals
stated on the state `y` at the time of the `drop`: a write request is in hand or
queued (`willSyncD14`: the worker is at a write request or in the middle of a
batch, or a write request is queued — the caller's last flush is not finished;
then NOTHING is assumed about `lastSyncFailed` and `postponed`), or no sync
failure is outstanding (`lastSyncFailed = false`; e.g. the worker is already
quiet). `c14_busy_failed_sync_needed`: a quiet worker with an outstanding sync
failure and a postponed removal is a counterexample. -/
theorem c14_busy_drop_then_open (cfg cfg' : Cfg) (steps : List Step) (r : RefLog) (s : Store)
    (hsteps : ∀ st ∈ steps, st.journal = true)
    (hlegal : RefLog.run {} (stepOps steps) = some r)
    (hwf : ∀ op ∈ stepOps steps, op.WF ∧ op.small)
    (halive : ((Sys.fresh cfg).run steps).worker.pc ≠ .dead)
    (hs : ((Sys.fresh cfg).run steps).store = some s)
    (hp : s.pending = []) (hrem : s.removed = [])
    (hsync : ((Sys.fresh cfg).run steps).worker.willSyncD14 ∨
      ((Sys.fresh cfg).run steps).worker.lastSyncFailed = false) :
    let y := (Sys.fresh cfg).run steps
    let y1 := y.step .drop
    let y2 := y1.step (.openWith cfg')
    y1 = (y.step .workerIdle).step .drop ∧ y1.fs = (y.step .workerIdle).fs ∧
    y1.store = none ∧ y1.locked = false ∧ y1.worker.pc = .dead ∧ y1.worker.queue = [] ∧
    ∃ s', y2.store = some s' ∧
      ({ y1 with cfg := cfg' } : Sys).open.1 = .ok () ∧
      ({ y1 with cfg := cfg' } : Sys).open.2.2 = syncEvs y1.fs.linkedIds ∧
      y2.fs = y1.fs.syncAll y1.fs.linkedIds ∧
      s'.st = s.st ∧ s'.st = r.state ∧ s'.log = s.log ∧
      s'.closed.map (·.offsets) ++ [s'.openOffsets] = s.closed.map (·.offsets) ++ [s.openOffsets] ∧
      s'.closed = s.closed ∧ s'.openOffsets = s.openOffsets ∧
      s'.pending = [] ∧ s'.removed = [] ∧ s'.cfg = cfg' ∧
      J y2 ∧ CSys y2 r :=
  c14_busy_drop_then_open_idle cfg cfg' steps r s hsteps hlegal hwf halive hs hp hrem
    (c14_busy_nothing_postponed_sync _ s hs ((SysWF.fresh cfg).run steps (by simp [hs])).1
      ((SysWF.fresh cfg).run steps (by simp [hs])).2
      (c14_busy_postponed_invariant cfg steps (by simp [hs])) hsync).2

/-- **C14: after the busy drop nothing changes the directory, and the open may
come at any later moment.** Same hypotheses; `more` is ANY history without
`open` (worker steps of any outcome, idle runs, drains, calls, flushes, further
drops) placed between the `drop` and the `open`. It leaves the whole system — in
particular the file system — unchanged (`c14_drop_quiesces_system`), so the
`open` after it is the `open` right after the `drop`: it succeeds, emits only the
syncs of the kept chunk files (D15), and shows the same state. -/
theorem c14_after_busy_drop_nothing_changes (cfg cfg' : Cfg) (steps more : List Step) (r : RefLog)
    (s : Store)
    (hsteps : ∀ st ∈ steps, st.journal = true)
    (hlegal : RefLog.run {} (stepOps steps) = some r)
    (hwf : ∀ op ∈ stepOps steps, op.WF ∧ op.small)
    (halive : ((Sys.fresh cfg).run steps).worker.pc ≠ .dead)
    (hs : ((Sys.fresh cfg).run steps).store = some s)
    (hp : s.pending = []) (hrem : s.removed = [])
    (hsync : ((Sys.fresh cfg).run steps).worker.willSyncD14 ∨
      ((Sys.fresh cfg).run steps).worker.lastSyncFailed = false)
    (hmore : ∀ st ∈ more, st.noOpen = true) :
    let y := (Sys.fresh cfg).run steps
    let y1 := y.step .drop
    let y1' := y1.run more
    let y2' := y1'.step (.openWith cfg')
    y1' = y1 ∧ y1'.fs = y1.fs ∧ y1.fs = (y.step .workerIdle).fs ∧
    (∀ pre, pre <+: more → (y1.run pre).fs = y1.fs) ∧
    y2' = y1.step (.openWith cfg') ∧
    ∃ s', y2'.store = some s' ∧
      ({ y1' with cfg := cfg' } : Sys).open.1 = .ok () ∧
      ({ y1' with cfg := cfg' } : Sys).open.2.2 = syncEvs y1.fs.linkedIds ∧
      y2'.fs = y1.fs.syncAll y1.fs.linkedIds ∧
      s'.st = s.st ∧ s'.st = r.state ∧ s'.log = s.log ∧
      s'.closed = s.closed ∧ s'.openOffsets = s.openOffsets ∧
      s'.pending = [] ∧ s'.removed = [] ∧ s'.cfg = cfg' ∧
      J y2' ∧ CSys y2' r := by
  intro y y1 y1' y2'
  have hk : ∀ st ∈ steps, st.keepsStore = true := fun st h => Step.keepsStore_of_journal (hsteps st h)
  have hq := c14_drop_quiesces_system cfg steps more hk hmore
  have h5 : y1' = y1 := hq.2.2.2.2.1
  have hpre : ∀ pre, pre <+: more → (y1.run pre).fs = y1.fs := by
    intro pre hpre
    obtain ⟨suf, rfl⟩ := hpre
    have := c14_drop_quiesces_system cfg steps pre hk
      (fun st h => hmore st (List.mem_append_left _ h))
    exact this.2.2.2.2.2
  obtain ⟨_, e2, _, _, _, _, s', g1, g2, g3, g4, g5, g6, g7, _, g8, g9, g10, g11, g12, g13, g14⟩ :=
    c14_busy_drop_then_open cfg cfg' steps r s hsteps hlegal hwf halive hs hp hrem hsync
  have h6 : y2' = y1.step (.openWith cfg') := by show y1'.step _ = _; rw [h5]
  refine ⟨h5, by rw [h5], e2, hpre, h6, s', ?_, ?_, ?_, ?_, g5, g6, g7, g8, g9, g10, g11, g12, ?_, ?_⟩
  · rw [h6]; exact g1
  · rw [h5]; exact g2
  · rw [h5]; exact g3
  · rw [h6]; exact g4
  · rw [h6]; exact g13
  · rw [h6]; exact g14

/-- **The refinement continues after a busy drop.** If moreover the cache limits
of `cfg'` cover the `Append` records in the chunk files the `drop` leaves, the
reopened store refines the reference log `r`: every `read` returns exactly
`r`'s entries (`c01_step`, `c01_read` apply), and `SysRef` holds with the
remaining room as budget. (The counterpart of `c02_refinement_continues`.) -/
theorem c14_busy_refinement_continues (cfg cfg' : Cfg) (steps : List Step) (r : RefLog) (s : Store)
    (hsteps : ∀ st ∈ steps, st.journal = true)
    (hlegal : RefLog.run {} (stepOps steps) = some r)
    (hwf : ∀ op ∈ stepOps steps, op.WF ∧ op.small)
    (halive : ((Sys.fresh cfg).run steps).worker.pc ≠ .dead)
    (hs : ((Sys.fresh cfg).run steps).store = some s)
    (hp : s.pending = []) (hrem : s.removed = [])
    (hsync : ((Sys.fresh cfg).run steps).worker.willSyncD14 ∨
      ((Sys.fresh cfg).run steps).worker.lastSyncFailed = false)
    (hN : (fileAppends (((Sys.fresh cfg).run steps).step .drop).fs).length ≤ cfg'.cacheItems)
    (hB : sumLen (fileAppends (((Sys.fresh cfg).run steps).step .drop).fs) ≤ cfg'.cacheCap) :
    let y1 := ((Sys.fresh cfg).run steps).step .drop
    let y2 := y1.step (.openWith cfg')
    ∃ s', y2.store = some s' ∧ Refines s' r ∧
      (∀ a b, (s'.read y2.fs a b).1 = (r.read a b).map (fun e => ReadItem.ok e.1 e.2)) ∧
      s'.iter y2.fs = r.entries.map (fun e => ReadItem.ok e.1 e.2) ∧
      SysRef y2 r (cfg'.cacheItems - (fileAppends y1.fs).length)
        (cfg'.cacheCap - sumLen (fileAppends y1.fs)) := by
  intro y1 y2
  have hC : CSys _ r := run_CSys steps _ {} r (fresh_CSys cfg) hsteps hlegal hwf halive
  have hwf' := (SysWF.fresh cfg).run steps (by simp [hs])
  have ha := c14_busy_senderAlive cfg steps hsteps
  have hpostI := (c14_busy_nothing_postponed_sync _ s hs hwf'.1 hwf'.2
    (c14_busy_postponed_invariant cfg steps (by simp [hs])) hsync).2
  obtain ⟨_, _, _, _, _, _, s', g1, _, _, _, _, _, _, _, _, _, _, _, _, _, g15⟩ :=
    c14_busy_restart_step _ r cfg' s hC hs hwf'.2 ha hp hrem hpostI
  obtain ⟨href, hsys⟩ := g15 hN hB
  exact ⟨s', g1, href, fun a b => href.read _ a b, href.iter _, hsys⟩

/-- **... and so does the history: further purges, appends and flushes
complete.** After the busy drop and the open, any further history of calls,
flushes and worker steps whose calls are legal and accepted from `r` (reaching
`r2`), small, and whose appended entries fit the room the cache has left: the
final store reports `r2`'s state, every read returns exactly `r2`'s entries,
and every call along the way was accepted. (The counterpart of
`c02_history_after_restart`.) -/
theorem c14_busy_history_after_restart (cfg cfg' : Cfg) (steps more : List Step) (r r2 : RefLog)
    (s : Store)
    (hsteps : ∀ st ∈ steps, st.journal = true)
    (hlegal : RefLog.run {} (stepOps steps) = some r)
    (hwf : ∀ op ∈ stepOps steps, op.WF ∧ op.small)
    (halive : ((Sys.fresh cfg).run steps).worker.pc ≠ .dead)
    (hs : ((Sys.fresh cfg).run steps).store = some s)
    (hp : s.pending = []) (hrem : s.removed = [])
    (hsync : ((Sys.fresh cfg).run steps).worker.willSyncD14 ∨
      ((Sys.fresh cfg).run steps).worker.lastSyncFailed = false)
    (hmore : ∀ st ∈ more, st.c01 = true) (hlegal2 : r.run (stepOps more) = some r2)
    (hsmall2 : ∀ op ∈ stepOps more, op.small)
    (hN : (fileAppends (((Sys.fresh cfg).run steps).step .drop).fs).length + opsCount (stepOps more)
      ≤ cfg'.cacheItems)
    (hB : sumLen (fileAppends (((Sys.fresh cfg).run steps).step .drop).fs) + opsBytes (stepOps more)
      ≤ cfg'.cacheCap) :
    let y2 := (((Sys.fresh cfg).run steps).step .drop).step (.openWith cfg')
    (∃ s2, (y2.run more).store = some s2 ∧ s2.st = r2.state ∧
      (∀ a b, (s2.read (y2.run more).fs a b).1 = (r2.read a b).map (fun e => ReadItem.ok e.1 e.2)) ∧
      s2.iter (y2.run more).fs = r2.entries.map (fun e => ReadItem.ok e.1 e.2)) ∧
    (∀ pre op post, more = pre ++ Step.call op :: post →
      ∃ s3 seg, (y2.run pre).store = some s3 ∧ (s3.call (y2.run pre).fs.has op).1 = .ok seg) := by
  intro y2
  obtain ⟨s', _, _, _, _, href⟩ := c14_busy_refinement_continues cfg cfg' steps r s hsteps hlegal hwf
    halive hs hp hrem hsync (by omega) (by omega)
  obtain ⟨⟨s2, hs2, href2, _⟩, hcalls⟩ := run_sysRef more y2 r r2
    (href.mono (by omega) (by omega)) hmore hlegal2 hsmall2
  refine ⟨⟨s2, hs2, href2.st, fun a b => href2.read _ a b, href2.iter _⟩, ?_⟩
  intro pre op post hsplit
  obtain ⟨s3, seg, h1, h2, _⟩ := hcalls pre op post hsplit
  exact ⟨s3, seg, h1, h2⟩

/-- Chunks hold two records. A vote, three entries (three rotations), a flush
with callback 0, ONE worker step, a purge that drops three closed chunks (and
rotates), user data (another rotation), a flush with callback 1 — and no worker
step after it: at the `drop` the worker is parked at its first `write` with
thirteen requests queued (writes to five files, five `appendFile`s, the two empty
writes carrying the flushes' callbacks, the `removeChunks [0, 46, 115]`). -/
def c14BusyExample : List Step :=
  [ .call (.saveVote ⟨1, 7⟩),
    .call (.append [(⟨1, 0⟩, [1, 2, 3]), (⟨1, 1⟩, [4]), (⟨1, 2⟩, [5, 6])]),
    .flush (some 0),
    .worker .ok,
    .call (.purge ⟨1, 1⟩),
    .call (.saveUserData (some [42])),
    .flush (some 1) ]

/-- The hypotheses of `c14_busy_drop_then_open` hold for it (computed by the
model), and the worker is busy: parked at a `write`, thirteen requests queued,
three chunk files still to unlink, nothing durable yet. -/
example :
    (∀ st ∈ c14BusyExample, st.journal = true) ∧
    (RefLog.run {} (stepOps c14BusyExample)).isSome = true ∧
    (∀ op ∈ stepOps c14BusyExample, op.WF ∧ op.small) ∧
    ((Sys.fresh { maxRecords := 2 }).run c14BusyExample).worker.pc ≠ .dead ∧
    ((Sys.fresh { maxRecords := 2 }).run c14BusyExample).worker.quiet = false ∧
    ((Sys.fresh { maxRecords := 2 }).run c14BusyExample).worker.queue.length = 13 ∧
    ((Sys.fresh { maxRecords := 2 }).run c14BusyExample).worker.willSyncD14 ∧
    ((Sys.fresh { maxRecords := 2 }).run c14BusyExample).worker.lastSyncFailed = false ∧
    (∃ s, ((Sys.fresh { maxRecords := 2 }).run c14BusyExample).store = some s ∧ s.pending = [] ∧
      s.removed = [] ∧ s.closed.map Closed.id = [198, 282, 360] ∧ s.openId = 497) ∧
    (((Sys.fresh { maxRecords := 2 }).run c14BusyExample).fs.map
        (fun f => (f.id, f.data.length, f.durable, f.linked))) =
      [(0, 18, 0, true), (46, 34, 0, true), (115, 50, 0, true), (198, 50, 0, true),
       (282, 50, 0, true), (360, 66, 0, true), (497, 71, 0, true)] := by
  refine ⟨by decide, by decide, ?_, by decide +kernel⟩
  intro op hop
  simp only [c14BusyExample, stepOps, List.mem_cons, List.not_mem_nil, or_false] at hop
  rcases hop with h | h | h | h <;> subst h <;>
    simp [Op.WF, Op.small, LogId.WF, bytesWF, smallId, U64, U32]

/-- And the conclusion on this history, computed by the model: the `drop`
joins the worker, which writes and syncs everything, acknowledges both flushes
and unlinks the three purged chunks (their files are gone, everything linked is
durable); reopened with other chunk and cache limits, the store has the same
state, index map and chunk table, and the `open` changes no file. -/
example :
    cbsOf ((Sys.fresh { maxRecords := 2 }).run c14BusyExample).dropStore.2 = [(0, true), (1, true)] ∧
    unlinksOf ((Sys.fresh { maxRecords := 2 }).run c14BusyExample).dropStore.2 =
      [(0, true), (46, true), (115, true)] ∧
    ((((Sys.fresh { maxRecords := 2 }).run c14BusyExample).step .drop).fs.map
        (fun f => (f.id, f.data.length, f.durable, f.linked))) =
      [(0, 46, 46, false), (46, 69, 69, false), (115, 83, 83, false), (198, 84, 84, true),
       (282, 78, 78, true), (360, 137, 137, true), (497, 71, 71, true)] ∧
    ((((Sys.fresh { maxRecords := 2 }).run c14BusyExample).step .drop).step
        (.openWith { maxRecords := 3, cacheItems := 1 })).store.map
      (fun s => (s.st, s.log, s.closed)) =
      ((Sys.fresh { maxRecords := 2 }).run c14BusyExample).store.map (fun s => (s.st, s.log, s.closed)) ∧
    ((((Sys.fresh { maxRecords := 2 }).run c14BusyExample).step .drop).step
        (.openWith { maxRecords := 3, cacheItems := 1 })).store.map
      (fun s => (s.openOffsets, s.pending, s.removed)) =
      ((Sys.fresh { maxRecords := 2 }).run c14BusyExample).store.map
        (fun s => (s.openOffsets, s.pending, s.removed)) ∧
    ((((Sys.fresh { maxRecords := 2 }).run c14BusyExample).step .drop).step
        (.openWith { maxRecords := 3, cacheItems := 1 })).fs
      = (((Sys.fresh { maxRecords := 2 }).run c14BusyExample).step .drop).fs ∧
    (((Sys.fresh { maxRecords := 2 }).run c14BusyExample).step .drop).fs =
      (((Sys.fresh { maxRecords := 2 }).run c14BusyExample).step .workerIdle).fs ∧
    (((Sys.fresh { maxRecords := 2 }).run c14BusyExample).step .drop).worker =
      ((((Sys.fresh { maxRecords := 2 }).run c14BusyExample).step .workerIdle).step .drop).worker := by
  decide +kernel

/-- Why "a write in hand or queued, or no failed sync outstanding" is a hypothesis.
Chunks hold two records; a purge drops the chunks `0` and `51`; the `fdatasync` in front
of the `removeChunks` request fails (`eio`), so the worker postpones the removal
(`postponed = [0, 51]`, `lastSyncFailed = true`) — it carries it out right after the next
batch whose sync succeeds. But no further flush comes: the worker is idle with an empty
queue, nothing is pending on the caller side (`pending = []`, `removed = []`), and the
store is dropped. The join has nothing to write or sync, so the postponed removal is
never executed. After drop + open the state and the index map are still the same, but the
two obsolete chunks, whose files are still linked, are loaded as closed chunks. -/
def c14BusyFailedSyncExample : Sys :=
  (Sys.fresh { maxRecords := 2 }).run
    [ .call (.append [(⟨1, 0⟩, [1]), (⟨1, 1⟩, [2]), (⟨1, 2⟩, [3])]),
      .flush none, .workerIdle,
      .call (.purge ⟨1, 1⟩),
      .flush none,
      .worker .ok, .worker .ok, .worker .ok, .worker .ok, .worker .ok, .worker .eio ]

theorem c14_busy_failed_sync_needed :
    c14BusyFailedSyncExample.worker.pc = .idle ∧
    c14BusyFailedSyncExample.worker.queue = [] ∧
    ¬ c14BusyFailedSyncExample.worker.willSyncD14 ∧
    c14BusyFailedSyncExample.worker.postponed = [0, 51] ∧
    c14BusyFailedSyncExample.worker.lastSyncFailed = true ∧
    c14BusyFailedSyncExample.store.map (fun s => (s.pending, s.removed, s.closed.map Closed.id, s.openId))
      = some ([], [], [118, 185], 247) ∧
    (c14BusyFailedSyncExample.step .workerIdle).worker.postponed = [0, 51] ∧
    c14BusyFailedSyncExample.dropStore.2 = [.workerExit true] ∧
    ((c14BusyFailedSyncExample.step .drop).fs.filter (fun f => f.linked)).map (·.id) =
      [0, 51, 118, 185, 247] ∧
    ((c14BusyFailedSyncExample.step .drop).step (.openWith { maxRecords := 2 })).store.map
      (fun s => (s.closed.map Closed.id, s.openId)) = some ([0, 51, 118, 185], 247) ∧
    ((c14BusyFailedSyncExample.step .drop).step (.openWith { maxRecords := 2 })).store.map
      (fun s => (s.st, s.log)) = c14BusyFailedSyncExample.store.map (fun s => (s.st, s.log)) := by
  decide +kernel

/-- The same history continued by user data and a flush, and the `drop` while the worker
holds that flush (a history on which the chunks `0` and `51` would stay linked for ever if the
postponed removal were not retried after every batch): the worker has a write in hand, so
`c14_busy_drop_then_open` applies although `lastSyncFailed = true` and
`postponed = [0, 51]` at the `drop`. The join writes and syncs the flush, then unlinks the
two postponed chunks; after drop + open the chunk table is the store's. -/
def c14BusyPostponedExample : Sys :=
  c14BusyFailedSyncExample.run [ .call (.saveUserData (some [42])), .flush (some 1) ]

example :
    c14BusyPostponedExample.worker.pc ≠ .dead ∧
    c14BusyPostponedExample.worker.willSyncD14 ∧
    c14BusyPostponedExample.worker.postponed = [0, 51] ∧
    c14BusyPostponedExample.worker.lastSyncFailed = true ∧
    c14BusyPostponedExample.store.map (fun s => (s.pending, s.removed, s.closed.map Closed.id, s.openId))
      = some ([], [], [118, 185, 247], 352) ∧
    (c14BusyPostponedExample.step .workerIdle).worker.postponed = [] ∧
    cbsOf c14BusyPostponedExample.dropStore.2 = [(1, true)] ∧
    unlinksOf c14BusyPostponedExample.dropStore.2 = [(0, true), (51, true)] ∧
    ((c14BusyPostponedExample.step .drop).fs.filter (fun f => f.linked)).map (·.id) =
      [118, 185, 247, 352] ∧
    ((c14BusyPostponedExample.step .drop).step (.openWith { maxRecords := 2 })).store.map
      (fun s => (s.closed.map Closed.id, s.openId)) = some ([118, 185, 247], 352) ∧
    ((c14BusyPostponedExample.step .drop).step (.openWith { maxRecords := 2 })).store.map
      (fun s => (s.st, s.log)) = c14BusyPostponedExample.store.map (fun s => (s.st, s.log)) := by
  decide +kernel

end RaftLog
