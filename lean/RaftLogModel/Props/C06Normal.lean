/-
C06 normalisation — every history of well-formed calls equals a LEGAL history.

Almost every history theorem of this project assumes
`RefLog.run {} (stepOps steps) = some r` (every call is ACCEPTED by the reference
log and every purge is Raft-legal) and `∀ op ∈ stepOps steps, op.WF ∧ op.small`.
C06 says that rejected calls leave no trace. Here the two are combined:

* `normalizeC6N r steps` (Proofs/C06Normal.lean) follows the reference log from `r`
  along `steps`: a single-record call (`saveVote`, `commit`, `truncate`) the
  reference log rejects is REMOVED; a `purge` whose index is u64::MAX (refused by
  the store with `InvalidInput`, D12) is REMOVED; `append es` is REPLACED by
  `append pre`, `pre` the longest prefix of `es` whose entries the reference log
  accepts one after the other and none of which has index u64::MAX (`append []` is an
  accepted no-op for both the reference log and the store); every other step is kept.
* `c06_normalize_partial`: the normalised history is a legal history of well-formed
  small calls and reaches the SAME system, with the same acknowledged position.
* `…_any_history_partial`: the per-history theorems of C01, C02, C03, C16 with the
  legality / acceptance / smallness hypotheses removed. They stand here, not in their
  properties' files, because they rest on the normalisation. (`c11_journal_invariant`
  and `c15_accounting_exact` have no such hypotheses; they are repeated for the record.)

Why `_partial`: ONE hypothesis of the legal histories remains,
`purgesLegalC6N {} steps = true`: every purge the store does not refuse is
Raft-legal (`RefLog.legal`) for the reference log at the point where it is
issued. It cannot be normalised away: the reference log never REJECTS a purge
(`c06_never_rejected`), the store applies an illegal purge (so removing the call
changes the system, see the last `example`), and no theorem of the project covers
histories with illegal purges (`RefLog.run` returns `none` on them).
-/
import RaftLogModel.Proofs.C06Normal
import RaftLogModel.Proofs.OpDecide
import RaftLogModel.Props.C06Sys
import RaftLogModel.Props.C16Read
import RaftLogModel.Props.C03Quiet
import RaftLogModel.Props.C11Journal
import RaftLogModel.Props.C15
import RaftLogModel.Props.C15Restart
namespace RaftLog

/-- **Normalisation.** `steps`: any calls (well-formed arguments), flushes,
worker steps of any outcome, `workerIdle`, `drain`; purges legal; worker alive
at the end. With `steps' := (normalizeC6N {} steps).1` and
`r := (normalizeC6N {} steps).2`:
* `steps'` satisfies the hypotheses of the legal-history theorems (journal
  steps; `RefLog.run {} (stepOps steps') = some r`; every op well-formed and small);
* `steps'` and `steps` reach the same system from `Sys.fresh cfg`, with the same
  acknowledged position;
* the C02 invariant `CSys` holds for the final system and `r`;
* shape: `steps'` is not longer than `steps`, the non-call steps are the same in
  the same order, and step by step (`NormRelC6N`) every step of `steps` is kept,
  or is a call that is removed, or is `append (pre ++ post)` replaced by
  `append pre`. -/
theorem c06_normalize_partial (cfg : Cfg) (steps : List Step)
    (hsteps : ∀ st ∈ steps, st.journal = true) (hwf : ∀ op ∈ stepOps steps, op.WF)
    (hpurge : purgesLegalC6N {} steps = true)
    (halive : ((Sys.fresh cfg).run steps).worker.pc ≠ .dead) :
    let steps' := (normalizeC6N {} steps).1
    let r := (normalizeC6N {} steps).2
    (∀ st ∈ steps', st.journal = true) ∧
    RefLog.run {} (stepOps steps') = some r ∧
    (∀ op ∈ stepOps steps', op.WF ∧ op.small) ∧
    (Sys.fresh cfg).run steps' = (Sys.fresh cfg).run steps ∧
    ((Sys.fresh cfg).run steps').worker.pc ≠ .dead ∧
    (Sys.fresh cfg).ackRun steps' 0 = (Sys.fresh cfg).ackRun steps 0 ∧
    CSys ((Sys.fresh cfg).run steps) r ∧
    steps'.length ≤ steps.length ∧
    steps'.filter (fun st => !st.isCallC6N) = steps.filter (fun st => !st.isCallC6N) ∧
    NormRelC6N steps steps' := by
  intro steps' r
  obtain ⟨k1, k2, k3, k4, k5, k6⟩ := normalize_run_C6N steps (Sys.fresh cfg) {} (fresh_CSys cfg)
    (Sys.fresh_settled cfg) hsteps hwf hpurge halive
  exact ⟨k2, k3, k4, k1, by rw [k1]; exact halive, k6 0, k5, normalize_length_C6N steps {},
    normalize_noncalls_C6N steps {}, normalize_rel_C6N steps {}⟩

/-- The special case in which all ops are small (`purgesLegalC6N` still needed). -/
theorem c06_normalize_small_partial (cfg : Cfg) (steps : List Step)
    (hsteps : ∀ st ∈ steps, st.journal = true) (hwf : ∀ op ∈ stepOps steps, op.WF ∧ op.small)
    (hpurge : purgesLegalC6N {} steps = true)
    (halive : ((Sys.fresh cfg).run steps).worker.pc ≠ .dead) :
    ∃ steps' r, steps' = (normalizeC6N {} steps).1 ∧
      (∀ st ∈ steps', st.journal = true) ∧ RefLog.run {} (stepOps steps') = some r ∧
      (∀ op ∈ stepOps steps', op.WF ∧ op.small) ∧
      (Sys.fresh cfg).run steps' = (Sys.fresh cfg).run steps := by
  obtain ⟨k1, k2, k3, k4, _⟩ := c06_normalize_partial cfg steps hsteps
    (fun op hop => (hwf op hop).1) hpurge halive
  exact ⟨_, _, rfl, k1, k2, k3, k4⟩

/-- A history without purges satisfies the purge hypothesis. -/
theorem c06_purgesLegal_of_no_purge (steps : List Step) :
    ∀ (r : RefLog), (∀ id, Step.call (.purge id) ∉ steps) → purgesLegalC6N r steps = true := by
  induction steps with
  | nil => intro r _; rfl
  | cons st rest ih =>
    intro r h
    simp only [purgesLegalC6N, Bool.and_eq_true]
    refine ⟨?_, ih _ (fun id hm => h id (List.mem_cons_of_mem _ hm))⟩
    unfold purgeOkC6N
    split
    · rename_i id; exact absurd List.mem_cons_self (h id)
    · rfl

/-- A legal history of small ops is its own normal form. -/
theorem c06_normalize_legal_id (steps : List Step) : ∀ (r r' : RefLog),
    r.run (stepOps steps) = some r' → (∀ op ∈ stepOps steps, op.small) →
    normalizeC6N r steps = (steps, r') ∧ purgesLegalC6N r steps = true := by
  induction steps with
  | nil =>
    intro r r' h _
    simp only [stepOps, RefLog.run, Option.some.injEq] at h
    subst h; exact ⟨rfl, rfl⟩
  | cons st rest ih =>
    intro r r' h hsm
    rw [stepOps_cons] at h
    obtain ⟨r1, h1, h⟩ := RefLog.run_append_some.mp h
    have key : normStepC6N r st = (some st, r1) ∧ purgeOkC6N r st = true := by
      rcases normStep_cases_C6N r st with ⟨hc, e⟩ | ⟨es, rfl, e⟩ | ⟨op, r2, rfl, hc, _, _, e⟩ |
        ⟨id, rfl, hU, _⟩ | ⟨op, k, rfl, _, _, hk, _⟩
      · rw [stepOps_noncall_C6N hc] at h1
        cases h1
        exact ⟨e, purgeOk_noncall_C6N r hc⟩
      · obtain ⟨_, hca⟩ := RefLog.run_single.1 h1
        rw [e, acceptedPrefix_full_C6N es r r1 hca (hsm _ (mem_stepOps.2 List.mem_cons_self))]
        exact ⟨rfl, rfl⟩
      · obtain ⟨hl, hc2⟩ := RefLog.run_single.1 h1
        rw [hc] at hc2
        cases hc2
        exact ⟨e, by cases op <;> simp [purgeOkC6N, hl]⟩
      · have : smallId id := hsm _ (mem_stepOps.2 List.mem_cons_self)
        simp only [smallId] at this
        omega
      · rw [(RefLog.run_single.1 h1).2] at hk
        cases hk
    obtain ⟨i1, i2⟩ := ih r1 r' h
      (fun op hop => hsm op (mem_stepOps.2 (List.mem_cons_of_mem _ (mem_stepOps.1 hop))))
    exact ⟨by simp only [normalizeC6N, key.1, i1, consOptC6N],
      by simp only [purgesLegalC6N, key.2, key.1, i2, Bool.and_self]⟩

/-- **C01/C02, state.** With `r := (normalizeC6N {} steps).2`, the reference log reached by the
accepted calls (and accepted batch prefixes) of the history: the store reports `r`'s state, its index
keys are `r`'s entries, and the replay invariant holds. -/
theorem c01_state_any_history_partial (cfg : Cfg) (steps : List Step)
    (hsteps : ∀ st ∈ steps, st.journal = true) (hwf : ∀ op ∈ stepOps steps, op.WF)
    (hpurge : purgesLegalC6N {} steps = true)
    (halive : ((Sys.fresh cfg).run steps).worker.pc ≠ .dead) :
    ∃ s, ((Sys.fresh cfg).run steps).store = some s ∧
      s.st = (normalizeC6N {} steps).2.state ∧
      logKeys s.log = entKeys (normalizeC6N {} steps).2.entries ∧
      (normalizeC6N {} steps).2.WF ∧
      RSys ((Sys.fresh cfg).run steps) (normalizeC6N {} steps).2 := by
  obtain ⟨_, _, _, _, _, _, hC, _⟩ := c06_normalize_partial cfg steps hsteps hwf hpurge halive
  obtain ⟨s, hs, habs⟩ := hC.1.abs
  exact ⟨s, hs, habs.st, habs.log, habs.wf, hC.1⟩

/-- C11, journal invariant: `c11_journal_invariant` has no legality hypothesis. -/
theorem c11_journal_invariant_any_history (cfg : Cfg) (steps : List Step)
    (hsteps : ∀ st ∈ steps, st.journal = true) (hwf : ∀ op ∈ stepOps steps, op.WF)
    (halive : ((Sys.fresh cfg).run steps).worker.pc ≠ .dead) : J ((Sys.fresh cfg).run steps) :=
  c11_journal_invariant cfg steps hsteps hwf halive

/-- C15, cache accounting: `c15_accounting_exact` has no legality hypothesis. -/
theorem c15_accounting_exact_any_history (cfg : Cfg) (steps : List Step)
    (hsteps : ∀ st ∈ steps, st.journal = true)
    (s : Store) (hs : ((Sys.fresh cfg).run steps).store = some s) :
    s.cache.size = sumLen s.cache.items ∧ Sorted s.cache.items ∧ KeysLe s.cache.items s.st.last :=
  c15_accounting_exact cfg steps (fun st hst => Step.live_of_journal (hsteps st hst)) s hs

/-- **C16, reads.** No item of `read a b` (any `a b`) or of `iter` on the
final system is `ReadItem.panic`. -/
theorem c16_read_no_panic_any_history_partial (cfg : Cfg) (steps : List Step)
    (hsteps : ∀ st ∈ steps, st.journal = true) (hwf : ∀ op ∈ stepOps steps, op.WF)
    (hpurge : purgesLegalC6N {} steps = true)
    (halive : ((Sys.fresh cfg).run steps).worker.pc ≠ .dead) :
    ∃ s, ((Sys.fresh cfg).run steps).store = some s ∧
      (∀ a b, ReadItem.panic ∉ (s.read ((Sys.fresh cfg).run steps).fs a b).1) ∧
      ReadItem.panic ∉ s.iter ((Sys.fresh cfg).run steps).fs := by
  obtain ⟨_, _, _, _, _, _, hC, _⟩ := c06_normalize_partial cfg steps hsteps hwf hpurge halive
  exact c16_read_no_panic_of_inv hC.1

/-- **C02, clean restart.** The conclusion of `c02_clean_restart` for the
final system of any history when it is clean. -/
theorem c02_clean_restart_any_history_partial (cfg cfg' : Cfg) (steps : List Step) (s : Store)
    (hsteps : ∀ st ∈ steps, st.journal = true) (hwf : ∀ op ∈ stepOps steps, op.WF)
    (hpurge : purgesLegalC6N {} steps = true)
    (halive : ((Sys.fresh cfg).run steps).worker.pc ≠ .dead)
    (hs : ((Sys.fresh cfg).run steps).store = some s)
    (hq : ((Sys.fresh cfg).run steps).worker.quiet = true)
    (hp : s.pending = []) (hrem : s.removed = [])
    (hpost : ((Sys.fresh cfg).run steps).worker.postponed = []) :
    let r := (normalizeC6N {} steps).2
    let y := (Sys.fresh cfg).run steps
    let y1 := y.step .drop
    let y2 := y1.step (.openWith cfg')
    ∃ s', y2.store = some s' ∧
      ({ y1 with cfg := cfg' } : Sys).open.1 = .ok () ∧
      ({ y1 with cfg := cfg' } : Sys).open.2.2 = syncEvs y.fs.linkedIds ∧
      y1.fs = y.fs ∧ y2.fs = y.fs.syncAll y.fs.linkedIds ∧
      s'.st = s.st ∧ s'.st = r.state ∧ s'.log = s.log ∧
      s'.closed.map (·.offsets) ++ [s'.openOffsets] = s.closed.map (·.offsets) ++ [s.openOffsets] ∧
      s'.closed = s.closed ∧ s'.openOffsets = s.openOffsets ∧
      s'.pending = [] ∧ s'.removed = [] ∧ s'.cfg = cfg' ∧
      J y2 ∧ CSys y2 r ∧
      (∀ e ∈ ({ y1 with cfg := cfg' } : Sys).open.2.2, ∃ id, e = Ev.sync "o" id true) ∧
      ((∀ f ∈ y.fs, f.linked = true → f.durable = f.data.length) → y2.fs = y.fs) := by
  obtain ⟨k1, k2, k3, k4, _⟩ := c06_normalize_partial cfg steps hsteps hwf hpurge halive
  have := c02_clean_restart cfg cfg' (normalizeC6N {} steps).1 (normalizeC6N {} steps).2 s k1 k2 k3
    (by rw [k4]; exact halive) (by rw [k4]; exact hs) (by rw [k4]; exact hq) hp hrem
    (by rw [k4]; exact hpost)
  rw [k4] at this
  exact this

/-- **C03, crash prefix.** `steps = a ++ b` (any split; think of `a` as the
history up to a flush). For every crash image `img` of the final directory and every
configuration `cfg'`: if `openStore cfg' img` succeeds with store `s'`, there are `n`
and `r'` such that the first `n` entry-level writes `W.take n` of the NORMALISED
history are accepted and reach `r'`, `s'.st = r'.state`, the index keys of `s'.log`
are those of `r'.entries`, and — if the journal end at the end of `a` is at or below
the acknowledged position `A` of the history — `n` is at least the number of
entry-level writes of the normalised `a`. -/
theorem c03_crash_prefix_any_history_partial (cfg cfg' : Cfg) (a b : List Step)
    (hsteps : ∀ st ∈ a ++ b, st.journal = true) (hwf : ∀ op ∈ stepOps (a ++ b), op.WF)
    (hpurge : purgesLegalC6N {} (a ++ b) = true)
    (halive : ((Sys.fresh cfg).run (a ++ b)).worker.pc ≠ .dead)
    (img : Fs) (hc : CrashImage ((Sys.fresh cfg).run (a ++ b)).fs img)
    (s' : Store) (w' : Worker) (fs' : Fs) (evs : List Ev)
    (hopen : openStore cfg' img = (.ok (s', w'), fs', evs)) :
    let W := expandOps {} (stepOps (normalizeC6N {} (a ++ b)).1)
    let A := (Sys.fresh cfg).ackRun (a ++ b) 0
    ∃ n r', RefLog.run {} (W.take n) = some r' ∧ s'.st = r'.state ∧
      logKeys s'.log = entKeys r'.entries ∧
      (∀ s1, ((Sys.fresh cfg).run a).store = some s1 → s1.openEnd ≤ A →
        (expandOps {} (stepOps (normalizeC6N {} a).1)).length ≤ n) := by
  intro W A
  obtain ⟨k1, k2, k3, k4, _, k6, _⟩ := c06_normalize_partial cfg (a ++ b) hsteps hwf hpurge halive
  obtain ⟨_, ka, hsplit⟩ := normalize_prefix_C6N (fresh_CSys cfg) (Sys.fresh_settled cfg) a b hsteps
    hwf hpurge halive
  rw [hsplit] at k1 k2 k3 k4 k6
  have := c03_crash_prefix cfg cfg' (normalizeC6N {} a).1 (normalizeC6N (normalizeC6N {} a).2 b).1
    (normalizeC6N {} (a ++ b)).2 k1 k2 k3 (by rw [k4]; exact halive) img (by rw [k4]; exact hc)
    s' w' fs' evs hopen
  rw [k6, ka, ← hsplit] at this
  exact this

/-- A history with a rejected vote, a batch with an accepted prefix and a
rejected tail, a purge with index u64::MAX (refused), and a legal purge. -/
def c06NormalExample : List Step :=
  [.call (.saveVote ⟨3, 1⟩), .call (.saveVote ⟨2, 9⟩), .flush none,
   .call (.append [(⟨1, 0⟩, [1]), (⟨1, 1⟩, [2]), (⟨1, 5⟩, [3]), (⟨1, 6⟩, [4])]),
   .call (.purge ⟨1, 2 ^ 64 - 1⟩), .workerIdle, .call (.commit ⟨1, 1⟩),
   .call (.purge ⟨1, 0⟩), .call (.truncate 7), .flush (some 4)]

/-- Its normal form: the rejected vote, the refused purge and the rejected
`truncate` are gone, the batch is cut after its second entry. -/
example : normalizeC6N {} c06NormalExample =
    ([.call (.saveVote ⟨3, 1⟩), .flush none,
      .call (.append [(⟨1, 0⟩, [1]), (⟨1, 1⟩, [2])]), .workerIdle, .call (.commit ⟨1, 1⟩),
      .call (.purge ⟨1, 0⟩), .flush (some 4)],
     { vote := some ⟨3, 1⟩, last := some ⟨1, 1⟩, committed := some ⟨1, 1⟩,
       purged := some ⟨1, 0⟩, entries := [(⟨1, 1⟩, [2])] }) := by decide +kernel

/-- The hypotheses of `c06_normalize_partial` hold for it … -/
example : (∀ st ∈ c06NormalExample, st.journal = true) ∧ purgesLegalC6N {} c06NormalExample = true ∧
    ((Sys.fresh {}).run c06NormalExample).worker.pc ≠ .dead := by decide +kernel

theorem c06NormalExample_wf : ∀ op ∈ stepOps c06NormalExample, op.WF := by decide +kernel

example : ∀ op ∈ stepOps c06NormalExample, op.WF := c06NormalExample_wf

/-- … and both histories give the same store, files and worker. -/
example :
    ((Sys.fresh {}).run (normalizeC6N {} c06NormalExample).1).store =
      ((Sys.fresh {}).run c06NormalExample).store ∧
    ((Sys.fresh {}).run (normalizeC6N {} c06NormalExample).1).fs =
      ((Sys.fresh {}).run c06NormalExample).fs ∧
    ((Sys.fresh {}).run (normalizeC6N {} c06NormalExample).1).worker =
      ((Sys.fresh {}).run c06NormalExample).worker ∧
    ((Sys.fresh {}).run c06NormalExample).store.map (·.st) =
      some (normalizeC6N {} c06NormalExample).2.state := by decide +kernel

/-- Why the purge hypothesis cannot be dropped: a purge that names a live index
with another term is not Raft-legal (`RefLog.run` is `none`), the reference log
does not reject it (so the normalisation keeps it), and the store applies it —
removing the call would change the store's state. -/
example :
    let steps : List Step := [.call (.append [(⟨1, 0⟩, [1])]), .call (.purge ⟨2, 0⟩)]
    purgesLegalC6N {} steps = false ∧ (normalizeC6N {} steps).1 = steps ∧
    RefLog.run {} (stepOps steps) = none ∧
    ((Sys.fresh {}).run steps).store.map (·.st.purged) = some (some ⟨2, 0⟩) ∧
    ((Sys.fresh {}).run [.call (.append [(⟨1, 0⟩, [1])])]).store.map (·.st.purged) = some none := by
  decide +kernel

end RaftLog
