/-
C09 (checksum part) — a one-byte corruption of a record is detected.

`encRecord r = encTB r ++ natToBE 8 (crc32 (encTB r))` where `encTB r` is
`tag ‖ body`. The CRC-32 register update is a bijection for every input bit
(`uncrcBit` is the explicit inverse of `crcBit`), so substituting one byte
anywhere in a message changes its CRC-32. Hence a frame whose `tag ‖ body` part
differs from a real record's in exactly one byte, with the stored checksum
kept, is not the encoding of any record, and `decRecord` cannot accept it as a
record of the same extent.

The proofs are bit-level arguments (no SAT/native evaluation). Axioms: Audit/C09Crc.lean.
-/
import RaftLogModel.Proofs.Crc
namespace RaftLog

/-- The bit step of the CRC register is a bijection of `BitVec 32`, with
explicit inverse `uncrcBit`. -/
theorem c09_crcBit_bijective :
    (∀ c, uncrcBit (crcBit c) = c) ∧ (∀ d, crcBit (uncrcBit d) = d) ∧
    (∀ a b, crcBit a = crcBit b → a = b) :=
  ⟨uncrcBit_crcBit, crcBit_uncrcBit, crcBit_injective⟩

/-- The byte step is injective in the register and in the byte. -/
theorem c09_crcByte_injective :
    (∀ (a b : BitVec 32) (x : UInt8), crcByte a x = crcByte b x → a = b) ∧
    (∀ (c : BitVec 32) (x y : UInt8), crcByte c x = crcByte c y → x = y) :=
  ⟨fun _ _ _ h => crcByte_injective_left h, fun _ _ _ h => crcByte_injective_right h⟩

/-- Any one-byte substitution anywhere in a message changes its CRC-32. -/
theorem c09_crc32_single_byte (pre post : Bytes) (x y : UInt8) (hxy : x ≠ y) :
    crc32 (pre ++ x :: post) ≠ crc32 (pre ++ y :: post) :=
  crc32_single_byte pre post x y hxy

/-- Replace exactly one byte of the `tag ‖ body` part of `encRecord r` by a
different value and keep the 8 checksum bytes: the result is not the encoding
of ANY record. (Holds for every `r`; `Record.WF r` is not needed.) -/
theorem c09_body_byte_detected (r : Record) (pre post : Bytes) (x y : UInt8)
    (hsplit : encTB r = pre ++ x :: post) (hxy : x ≠ y) :
    ∀ r', encRecord r' ≠ (pre ++ y :: post) ++ natToBE 8 (crc32 (encTB r)) := by
  intro r' h
  obtain ⟨_, hsum⟩ := encRecord_eq_split (natToBE_length 8 _) h
  have hc := natToBE_injective 8 (crc32_lt _) (crc32_lt _) hsum
  rw [hsplit] at hc
  exact crc32_single_byte pre post x y hxy hc

/-- The mutated frame really is `encRecord r` with one byte replaced. -/
theorem c09_mutated_shape (r : Record) (pre post : Bytes) (x : UInt8)
    (hsplit : encTB r = pre ++ x :: post) :
    encRecord r = (pre ++ x :: post) ++ natToBE 8 (crc32 (encTB r)) := by
  rw [encRecord_eq, hsplit]

/-- Decoder corollary: on the mutated frame followed by any `rest`, `decRecord`
never returns a record that consumes exactly the frame (same extent as the
original record). It may report `eof`/`invalid`, or - only if the mutation hit a
length/tag/option byte so that the decoder reads a body of a *different*
extent - decode a record of another length; that last case is outside what a
checksum over the consumed bytes can exclude. -/
theorem c09_body_byte_decode_rejected (r : Record) (pre post : Bytes) (x y : UInt8)
    (hsplit : encTB r = pre ++ x :: post) (hxy : x ≠ y) (rest : Bytes) :
    ∀ r', decRecord ((pre ++ y :: post) ++ natToBE 8 (crc32 (encTB r)) ++ rest)
      ≠ .ok r' rest := by
  intro r' h
  have hc := (record_canon h).1
  exact c09_body_byte_detected r pre post x y hsplit hxy r' (List.append_cancel_right hc).symm

/-- Same, phrased on consumption: if the mutated input decodes at all, the
decoder consumed a different number of bytes than the original record has. -/
theorem c09_body_byte_decode_extent (r : Record) (pre post : Bytes) (x y : UInt8)
    (hsplit : encTB r = pre ++ x :: post) (hxy : x ≠ y) (rest rest' : Bytes) (r' : Record)
    (h : decRecord ((pre ++ y :: post) ++ natToBE 8 (crc32 (encTB r)) ++ rest) = .ok r' rest') :
    rest'.length ≠ rest.length := by
  intro hl
  have hc := (record_canon h).1
  obtain ⟨h1, h2⟩ := List.append_inj' hc hl.symm
  subst h2
  exact c09_body_byte_decode_rejected r pre post x y hsplit hxy rest r' h

/-- Companion: keep `tag ‖ body`, replace the 8 checksum bytes by any other 8
bytes: not the encoding of any record either. -/
theorem c09_sum_bytes_detected (r : Record) (sum : Bytes) (hlen : sum.length = 8)
    (hne : sum ≠ natToBE 8 (crc32 (encTB r))) :
    ∀ r', encRecord r' ≠ encTB r ++ sum := by
  intro r' h
  exact hne (encRecord_eq_split hlen h).2

/-- The reference check value of CRC-32 ("123456789" ↦ 0xCBF43926): the model
computes the standard function. -/
theorem c09_crc32_check_value :
    crc32 [0x31, 0x32, 0x33, 0x34, 0x35, 0x36, 0x37, 0x38, 0x39] = 0xCBF43926 := by
  decide +kernel

/-- A concrete instance of `c09_body_byte_detected`: `commit (1,2)`, first tag byte 0 ↦ 1. -/
example : ∀ r', encRecord r' ≠
    ([] ++ 1 :: (encTB (.commit ⟨1, 2⟩)).tail) ++ natToBE 8 (crc32 (encTB (.commit ⟨1, 2⟩))) :=
  c09_body_byte_detected (.commit ⟨1, 2⟩) [] (encTB (.commit ⟨1, 2⟩)).tail 0 1
    (by decide) (by decide)

/-- ... and the decoder indeed rejects that frame. -/
example : ∀ r', decRecord
    (([] ++ 1 :: (encTB (.commit ⟨1, 2⟩)).tail) ++ natToBE 8 (crc32 (encTB (.commit ⟨1, 2⟩))) ++ [])
      ≠ .ok r' [] :=
  c09_body_byte_decode_rejected (.commit ⟨1, 2⟩) [] (encTB (.commit ⟨1, 2⟩)).tail 0 1
    (by decide) (by decide) []

end RaftLog
