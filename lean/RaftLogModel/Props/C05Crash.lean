/-
C05 — Crash RECOVERABILITY (on top of the crash-safety development C03).

"After a crash at any moment, opening the directory succeeds without manual repair, and
the recovered store accepts further writes, flushes and a further restart with consistent
results. Recovery never panics."

Crash model: `CrashImage` (`Proofs/Crash.lean`; per linked file independently: cut between
the durable and the written length, or cut at a record boundary and followed by zeros).
Histories: calls that are legal and accepted by the reference log (well-formed, small),
flushes, worker steps of any outcome, `workerIdle`, `drain`, from a freshly opened store,
worker alive at the end — the hypotheses of `c03_crash_prefix`.

**D11 ("rotation gap").** The property is FALSE for one class
of crash images: the caller creates the next chunk file (and writes its head) BEFORE the
old chunk's tail is written and synced by the worker; a crash then can leave a NON-NEWEST
chunk file shorter than its chunk, and `open` reports "Gap between chunks" (`.err .gap`)
— forever, there is no repair path. `c05_rotation_gap_witness` is a concrete reachable
state + crash image. The theorems that say `open` SUCCEEDS therefore carry the hypothesis
`NoTornPredecessor img` (stated on the image alone), which excludes exactly that class, and
`cfg'.truncate = true` (a configuration with `truncate = false` refuses torn tails by design).

What is proved (helper files `Proofs/RecovLoop.lean` … `RecovCrashInv.lean`):

* (1) `c05_open_succeeds_partial`: `open` succeeds on every crash image without torn
  predecessor. `c05_no_torn_predecessor_when_synced`: no crash image has a torn predecessor
  once the acknowledged position has reached the start of the newest chunk;
  `c05_open_succeeds_when_acked` combines the two.
* (2) `c05_recovered_store_is_consistent`: the system `open` builds satisfies the replay,
  journal and linked-files invariants (`CSys`, `J`) — and `SysWF`, `SysCovered`, `SmallSys`,
  `Sys.Clean` — for the reference log `r'` reached by the first `n` entry-level writes
  (the `n`, `r'` of `c03_crash_prefix`, with the same lower bound). INCLUDING payloads: the
  replay invariant says that every index entry's record carries `r'`'s payload (helper:
  a payload-mirroring invariant along histories, `Proofs/RecovPayload.lean`, `RecovPayloadSys.lean`).
  Corollaries: (2a) `c05_recovered_accepts_history`, (2b) `c05_flush_is_acknowledged`,
  (2c) `c05_recovered_restart_is_identity`, `c05_recovered_cycles`.
* `c05_recovery_never_panics`: `open` never panics on ANY crash image (no hypothesis on the
  image, any configuration) — on rotation-gap images it returns the gap error.
* (3) `c05_recovery_crash_is_recoverable`: a crash at any moment of recovery (after every
  prefix of the file-system effects of `open`, including within the write of the new head).
* (4) Crash + recovery ROUNDS. `CrashInvC5b` (the history and durability invariant `HSys`, the
  ghost invariant, small journals, payload mirroring) holds for a fresh store, is kept by
  legal histories (`c05_crashInv_history`) and holds AGAIN for the recovered system
  (`c05_crashInv_recovered`), with the first `n` writes as its history. From it follow, for
  states reached through any number of crash + recovery rounds: C03 (`c05_crashInv_crash_prefix`),
  (1), (2), (3) (`c05_crashInv_recovered`, `c05_crashInv_recovery_crash`),
  `c05_crashInv_no_torn_when_acked`. `c05_two_crashes`: two rounds spelled out.
-/
import RaftLogModel.Props.C05
import RaftLogModel.Props.C03Quiet
import RaftLogModel.Props.C02
import RaftLogModel.Props.C04
import RaftLogModel.Proofs.RecovCrashInv
import RaftLogModel.Proofs.Eval
import RaftLogModel.Proofs.OpDecide
namespace RaftLog

/-- `NoTornPredecessor img`: every linked file of the image except the newest parses
cleanly (no torn record, no zero tail) and is exactly as long as the distance to the next
linked chunk id. (The length alone is not enough: a power failure may leave a file of the
full length whose tail from a record boundary on is zeros; `open` cuts such a file back and
then reports the gap.) It is necessary for `open` to get past the gap check, whatever the
configuration: `c05_rotation_gap_witness`. -/
theorem c05_noTornPredecessor_spec (img : Fs) : NoTornPredecessor img ↔
    ∀ pre a b post, img.linkedIds = pre ++ a :: b :: post →
      ∃ g, img.find a = some g ∧ (parseChunk g.data).2.1 = .clean ∧ a + g.data.length = b :=
  Iff.rfl

/-- In terms of the records of the chunks (the witnesses of the replay invariant of the
ghost store, `c03_linked_files`): with no torn predecessor, the image of every linked
chunk except the newest holds exactly the encoding of the chunk's records. -/
theorem c05_noTornPredecessor_records (cfg : Cfg) (steps : List Step) (r : RefLog)
    (hsteps : ∀ st ∈ steps, st.journal = true)
    (hlegal : RefLog.run {} (stepOps steps) = some r)
    (hwf : ∀ op ∈ stepOps steps, op.WF ∧ op.small)
    (halive : ((Sys.fresh cfg).run steps).worker.pc ≠ .dead)
    (img : Fs) (hc : CrashImage ((Sys.fresh cfg).run steps).fs img) (hnt : NoTornPredecessor img) :
    let y := (Sys.fresh cfg).run steps
    ∃ s dropped jc jo, y.store = some s ∧ RepG (s.liftC3b dropped) y.fs y.worker jc jo ∧
      img.linkedIds = jc.map (·.1.id) ++ [s.openId] ∧
      ∀ p ∈ jc, ∃ g, img.find p.1.id = some g ∧ g.data = encAll p.2 := by
  intro y
  obtain ⟨s, cs, Bh, G⟩ := (reach_CrashInv_C5b cfg steps r hsteps hlegal hwf halive).ghost
  obtain ⟨jc, jo, g, _⟩ := G.hinv.hist
  obtain ⟨stC, lC, g0, f0, I⟩ := ghost_imgHyp_C5b g G.hinv.inv.j G.live G.linked G.nodup hc hnt
  have himg := I.hyp
  refine ⟨s, cs, jc, jo, G.store, g, himg.ids, fun p hp => ?_⟩
  obtain ⟨f, hf, F⟩ := himg.files p hp
  exact ⟨f, hf, F.data⟩

/-- **(1) Recovery succeeds.** The final state is reached from a freshly opened store by a
legal history, the worker is alive; `img` is any crash image of the directory WITHOUT TORN
PREDECESSOR; `cfg'` is any configuration with `truncate = true`. Then `open` returns `ok`.
(`_partial`: the hypothesis `NoTornPredecessor` cannot be dropped, see
`c05_rotation_gap_witness`; it holds for every crash image when the acknowledged position
covers the start of the newest chunk, `c05_no_torn_predecessor_when_synced`.) -/
theorem c05_open_succeeds_partial (cfg cfg' : Cfg) (steps : List Step) (r : RefLog)
    (hsteps : ∀ st ∈ steps, st.journal = true)
    (hlegal : RefLog.run {} (stepOps steps) = some r)
    (hwf : ∀ op ∈ stepOps steps, op.WF ∧ op.small)
    (halive : ((Sys.fresh cfg).run steps).worker.pc ≠ .dead)
    (img : Fs) (hc : CrashImage ((Sys.fresh cfg).run steps).fs img)
    (htr : cfg'.truncate = true) (hnt : NoTornPredecessor img) :
    ∃ s' w' fs' evs, openStore cfg' img = (.ok (s', w'), fs', evs) := by
  obtain ⟨s', w', fs', evs, _, _, _, h, _⟩ :=
    recovered_CrashInv_C5b (reach_CrashInv_C5b cfg steps r hsteps hlegal hwf halive) hc hnt cfg' htr
  exact ⟨s', w', fs', evs, h⟩

/-- The same for `Sys.open` on the system that has the crash image as its directory. -/
theorem c05_sys_open_succeeds_partial (cfg cfg' : Cfg) (steps : List Step) (r : RefLog)
    (hsteps : ∀ st ∈ steps, st.journal = true)
    (hlegal : RefLog.run {} (stepOps steps) = some r)
    (hwf : ∀ op ∈ stepOps steps, op.WF ∧ op.small)
    (halive : ((Sys.fresh cfg).run steps).worker.pc ≠ .dead)
    (img : Fs) (hc : CrashImage ((Sys.fresh cfg).run steps).fs img)
    (htr : cfg'.truncate = true) (hnt : NoTornPredecessor img) :
    (({ fs := img, cfg := cfg' } : Sys).open).1 = .ok () := by
  obtain ⟨s', w', fs', evs, h⟩ :=
    c05_open_succeeds_partial cfg cfg' steps r hsteps hlegal hwf halive img hc htr hnt
  rw [open_eq_recovered_C5b h]

/-- **The rotation gap (D11): `NoTornPredecessor` cannot be dropped.** Chunks hold three
records. One call appends two entries: chunk 0 is full, the CALLER creates chunk 84 and
writes its head, the two `Append` records of chunk 0 are still in the worker's hands. The
history satisfies the hypotheses of `c05_open_succeeds_partial`. In the process-crash
image (and in the power-failure image) chunk 0 holds 18 of its 84 bytes and chunk 84
exists: `NoTornPredecessor` fails, and `open` returns the gap error — with every
configuration, no repair. -/
def c05GapExample : List Step := [.call (.append [(⟨1, 0⟩, [1]), (⟨1, 1⟩, [2])])]

theorem c05_rotation_gap_witness :
    (∀ st ∈ c05GapExample, st.journal = true) ∧
    (RefLog.run {} (stepOps c05GapExample)).isSome = true ∧
    (∀ op ∈ stepOps c05GapExample, op.WF ∧ op.small) ∧
    ((Sys.fresh { maxRecords := 3 }).run c05GapExample).worker.pc ≠ .dead ∧
    ((Sys.fresh { maxRecords := 3 }).run c05GapExample).fs.map
      (fun f => (f.id, f.data.length, f.durable, f.linked)) = [(0, 18, 0, true), (84, 34, 0, true)] ∧
    CrashImage ((Sys.fresh { maxRecords := 3 }).run c05GapExample).fs
      (procCrash ((Sys.fresh { maxRecords := 3 }).run c05GapExample).fs) ∧
    CrashImage ((Sys.fresh { maxRecords := 3 }).run c05GapExample).fs
      (powerCrash ((Sys.fresh { maxRecords := 3 }).run c05GapExample).fs) ∧
    ¬ NoTornPredecessor (procCrash ((Sys.fresh { maxRecords := 3 }).run c05GapExample).fs) ∧
    (openStore {} (procCrash ((Sys.fresh { maxRecords := 3 }).run c05GapExample).fs)).1 = .err .gap ∧
    (openStore { truncate := false }
      (procCrash ((Sys.fresh { maxRecords := 3 }).run c05GapExample).fs)).1 = .err .gap ∧
    (openStore {} (powerCrash ((Sys.fresh { maxRecords := 3 }).run c05GapExample).fs)).1 = .err .gap := by
  have hdur : ∀ f ∈ ((Sys.fresh { maxRecords := 3 }).run c05GapExample).fs, f.durable ≤ f.data.length := by
    decide +kernel
  refine ⟨by decide, by decide +kernel, ?_, by decide +kernel, by decide +kernel,
    procCrash_image _ hdur, powerCrash_image _ hdur, ?_, by decide +kernel⟩
  · decide
  · intro h
    have hk : (procCrash ((Sys.fresh { maxRecords := 3 }).run c05GapExample).fs).linkedIds
          = [] ++ 0 :: 84 :: [] ∧
        ((procCrash ((Sys.fresh { maxRecords := 3 }).run c05GapExample).fs).find 0).map
          (fun f => f.data.length) = some 18 := by decide +kernel
    obtain ⟨g, h1, _, h3⟩ := h [] 0 84 [] hk.1
    have hlen := hk.2
    rw [h1] at hlen
    simp only [Option.map_some, Option.some.injEq] at hlen
    omega

/-- **No torn predecessor once the newest chunk's start is acknowledged.** If the
acknowledged position `A` (`Sys.ackRun`: raised only by a successful sync of the newest
file) is at or beyond the id of the open chunk, every linked chunk file except the newest
is durable to its end, so EVERY crash image is without torn predecessor. (After a
rotation, `A` reaches the new chunk's id as soon as one flush issued after the rotation is
acknowledged; with `A ≥ openId` at every moment no crash hits the rotation gap.) -/
theorem c05_no_torn_predecessor_when_synced (cfg : Cfg) (steps : List Step) (r : RefLog) (s : Store)
    (hsteps : ∀ st ∈ steps, st.journal = true)
    (hlegal : RefLog.run {} (stepOps steps) = some r)
    (hwf : ∀ op ∈ stepOps steps, op.WF ∧ op.small)
    (halive : ((Sys.fresh cfg).run steps).worker.pc ≠ .dead)
    (hs : ((Sys.fresh cfg).run steps).store = some s)
    (hA : s.openId ≤ (Sys.fresh cfg).ackRun steps 0)
    (img : Fs) (hc : CrashImage ((Sys.fresh cfg).run steps).fs img) : NoTornPredecessor img :=
  noTorn_of_CrashInv_C5b (reach_CrashInv_C5b cfg steps r hsteps hlegal hwf halive) hs hA hc

/-- (1) without a hypothesis on the image: recovery succeeds after EVERY crash of a state
whose acknowledged position covers the start of the newest chunk. -/
theorem c05_open_succeeds_when_acked (cfg cfg' : Cfg) (steps : List Step) (r : RefLog) (s : Store)
    (hsteps : ∀ st ∈ steps, st.journal = true)
    (hlegal : RefLog.run {} (stepOps steps) = some r)
    (hwf : ∀ op ∈ stepOps steps, op.WF ∧ op.small)
    (halive : ((Sys.fresh cfg).run steps).worker.pc ≠ .dead)
    (hs : ((Sys.fresh cfg).run steps).store = some s)
    (hA : s.openId ≤ (Sys.fresh cfg).ackRun steps 0)
    (img : Fs) (hc : CrashImage ((Sys.fresh cfg).run steps).fs img) (htr : cfg'.truncate = true) :
    ∃ s' w' fs' evs, openStore cfg' img = (.ok (s', w'), fs', evs) :=
  c05_open_succeeds_partial cfg cfg' steps r hsteps hlegal hwf halive img hc htr
    (c05_no_torn_predecessor_when_synced cfg steps r s hsteps hlegal hwf halive hs hA img hc)

/-- **(2) The recovered system satisfies the invariants.** The history is split as
`pre ++ post` (any split; think of `pre` as the history up to an acknowledged flush). `img`
is a crash image of the final directory without torn predecessor, `cfg'.truncate = true`.
Let `y2` be the system `open` builds (directory as `open` left it, the recovered store,
its fresh worker, lock held). Then `open` returns `ok` and there are `n`, `r'` such that

* the first `n` entry-level writes of the history are accepted and reach `r'`;
  `s'.st = r'.state`, the index keys of `s'.log` are those of `r'.entries`; `n` covers every
  write issued before a point of the history whose journal end is acknowledged (the
  conclusions of `c03_crash_prefix`);
* `CSys y2 r'` (replay invariant `RSys` — journal invariant, refinement of `r'` on state and
  index map, record lists for every chunk file that replay to `(st, log)`, payloads: every
  index entry's `Append` record carries `r'`'s payload — and linked-files invariant `LSys`),
  `J y2`;
* `SysWF y2`, `SysCovered y2` (worker well-formed; every unsynced linked file tracked),
  `SmallSys y2` (every file holds small records: `open` will never panic later);
* `y2.Clean`: worker idle on an empty queue, nothing pending, nothing to remove.

So every theorem stated for `CSys`/`J` states continues from `y2` (below: further
histories, flush acknowledgement, clean restarts, cycles). -/
theorem c05_recovered_store_is_consistent (cfg cfg' : Cfg) (pre post : List Step) (r : RefLog)
    (hsteps : ∀ st ∈ pre ++ post, st.journal = true)
    (hlegal : RefLog.run {} (stepOps (pre ++ post)) = some r)
    (hwf : ∀ op ∈ stepOps (pre ++ post), op.WF ∧ op.small)
    (halive : ((Sys.fresh cfg).run (pre ++ post)).worker.pc ≠ .dead)
    (img : Fs) (hc : CrashImage ((Sys.fresh cfg).run (pre ++ post)).fs img)
    (htr : cfg'.truncate = true) (hnt : NoTornPredecessor img) :
    let W := expandOps {} (stepOps (pre ++ post))
    let A := (Sys.fresh cfg).ackRun (pre ++ post) 0
    let y2 := (({ fs := img, cfg := cfg' } : Sys).open).2.1
    (({ fs := img, cfg := cfg' } : Sys).open).1 = .ok () ∧
    ∃ s' n r', y2.store = some s' ∧ y2.cfg = cfg' ∧ y2.locked = true ∧
      RefLog.run {} (W.take n) = some r' ∧ s'.st = r'.state ∧
      logKeys s'.log = entKeys r'.entries ∧
      (∀ s1, ((Sys.fresh cfg).run pre).store = some s1 → s1.openEnd ≤ A →
        (expandOps {} (stepOps pre)).length ≤ n) ∧
      CSys y2 r' ∧ J y2 ∧ SysWF y2 ∧ SysCovered y2 ∧ SmallSys y2 ∧ y2.Clean ∧
      s'.cfg = cfg' ∧ s'.cache.maxItems = cfg'.cacheItems ∧ s'.cache.capacity = cfg'.cacheCap := by
  obtain ⟨s1, hs1, h⟩ := reach_CrashInv_at_C5b cfg pre post r hsteps hlegal hwf halive
  obtain ⟨s', w', fs', evs, n, r', A', hopen, hcov, R⟩ := recovered_CrashInv_C5b h hc hnt cfg' htr
  obtain ⟨B', hh, _, hS, _⟩ := R.inv
  obtain ⟨s0, hs0, _, hinv⟩ := hh.rsys
  cases hs0
  rw [open_eq_recovered_C5b hopen]
  refine ⟨rfl, s', n, r', rfl, rfl, rfl, R.run, hinv.abs.st, hinv.abs.log, ?_, hh.csys, hh.rsys.J, R.wf,
    R.covered, hS, R.clean, R.cfgEq, R.maxItems, R.capacity⟩
  intro s1' hs1' hle
  rw [hs1] at hs1'; cases hs1'
  exact hcov hle

/-- What the payload clause of `CSys y2 r'` says (from `c02_replay_spec`): whenever the
`Append` record an index entry of the recovered store points to is in the journal `open`
kept, it carries the payload the reference log `r'` holds for that id. -/
theorem c05_recovered_payloads {y2 : Sys} {r' : RefLog} (h : CSys y2 r') :
    ∃ s' jc jo, y2.store = some s' ∧
      (∀ e ∈ s'.log, ∀ p, (⟨.append e.2.id p, e.2.chunk, ⟨e.2.off, e.2.size⟩⟩ : JOp)
        ∈ flatOps jc ++ chunkOps s'.openId jo → (e.2.id, p) ∈ r'.entries) ∧
      idxRun (flatOps jc ++ chunkOps s'.openId jo) [] = some s'.log ∧
      (∀ p ∈ jc, fdata y2.fs p.1.id ++ y2.worker.inflight p.1.id = encAll p.2) ∧
      fdata y2.fs s'.openId ++ y2.worker.inflight s'.openId ++ s'.pending = encAll jo := by
  obtain ⟨s', jc, jo, hs, _, _, _, h4, h5, _, h7, _, _, _, _, h12, _⟩ := c02_replay_spec h.1
  exact ⟨s', jc, jo, hs, h12, h7, fun p hp => (h4 p hp).2.2.2, h5.2.2.2⟩

/-- **(2a) The recovered store accepts further histories.** From any system with the
invariants (`CSys y2 r'`, e.g. the recovered system): for every further history of calls
(legal and accepted from `r'`, reaching `r2`; well-formed, small), flushes, worker steps of
any outcome, `workerIdle`, `drain` with the worker alive at the end, the invariants hold
again for `r2`, the final store reports `r2`'s state and index keys, and EVERY call along
the way returns `ok`. -/
theorem c05_recovered_accepts_history (y2 : Sys) (r' r2 : RefLog) (more : List Step)
    (hC : CSys y2 r') (hmore : ∀ st ∈ more, st.journal = true)
    (hlegal2 : r'.run (stepOps more) = some r2) (hwf2 : ∀ op ∈ stepOps more, op.WF ∧ op.small)
    (halive2 : (y2.run more).worker.pc ≠ .dead) :
    CSys (y2.run more) r2 ∧ J (y2.run more) ∧
    (∃ s2, (y2.run more).store = some s2 ∧ s2.st = r2.state ∧ logKeys s2.log = entKeys r2.entries) ∧
    (∀ a op b, more = a ++ Step.call op :: b → ∃ seg, ((y2.run a).call op).1 = .ok seg) := by
  have h2 := run_CSys more y2 r' r2 hC hmore hlegal2 hwf2 halive2
  refine ⟨h2, h2.1.J, ?_, ?_⟩
  · obtain ⟨s2, hs2, _, hinv⟩ := h2.1
    exact ⟨s2, hs2, hinv.abs.st, hinv.abs.log⟩
  · intro a op b hsplit
    subst hsplit
    have halive_a := Sys.alive_prefix (fun st h => hmore st (List.mem_append_right _ h)) halive2
    rw [stepOps_append, RefLog.run_append] at hlegal2
    obtain ⟨ra, hra, hrest⟩ := Option.bind_eq_some_iff.1 hlegal2
    rw [RefLog.run_stepOps_cons] at hrest
    obtain ⟨rb, hrb, _⟩ := Option.bind_eq_some_iff.1 hrest
    obtain ⟨hl, hcb⟩ := RefLog.run_single.mp hrb
    have hCa := run_CSys a y2 r' ra hC (fun st h => hmore st (List.mem_append_left _ h)) hra
      (fun o ho => hwf2 o (by rw [stepOps_append]; exact List.mem_append_left _ ho)) halive_a
    have hopwf := hwf2 op (mem_stepOps.mpr (List.mem_append_right _ List.mem_cons_self))
    exact (c02_replay_call hCa.1 op hl hcb hopwf.2 hopwf.1).2

/-- **(2b) A flush on the recovered store is acknowledged.** For any system whose worker
is well-formed and alive (`SysWF`, e.g. the recovered system or any state reached from
it): `flush (some i)` followed by `workerIdle` (the worker runs, all outcomes ok) emits the
positive callback `Ev.cb i true`, and the worker is quiet afterwards. -/
theorem c05_flush_is_acknowledged (y : Sys) (s : Store) (i : Nat) (hs : y.store = some s)
    (hwf : SysWF y) (hd : y.worker.pc ≠ .dead) :
    Ev.cb i true ∈ ((y.step (.flush (some i))).stepEvs .workerIdle) ∧
    ((y.step (.flush (some i))).step .workerIdle).worker.quiet = true := by
  have hwf3 : SysWF (y.step (.flush (some i))) := hwf.step _
  have heq : y.step (.flush (some i)) = (y.flush (some i)).2.1 := rfl
  have hfl := Sys.flush_eq y (some i) hs hd
  have hstore : (y.step (.flush (some i))).store = some (s.flush (some i)).1 := by rw [heq, hfl]
  obtain ⟨hw, ht⟩ := hwf3 (by rw [hstore]; simp)
  have hq : i ∈ cbQueue (y.step (.flush (some i))).worker := by
    rw [heq, hfl]
    simp only
    rw [cbQueue_settle, effQ_flush]
    simp only [cbQueue, Worker.push, List.filterMap_append, List.filterMap_cons, WReq.cbId]
    simp
  -- the worker context when `workerIdle` returns (`Sys.idleEnd`): the worker is quiet, every queued callback fired
  obtain ⟨k1, k2⟩ := c04_exactly_once_no_fault ((y.step (.flush (some i))).wctx (s.flush (some i)).1) hw ht
  have k1' : ((y.step (.flush (some i))).idleEnd (s.flush (some i)).1).w.quiet = true := k1
  have k2' : cbsOf ((y.step (.flush (some i))).idleEnd (s.flush (some i)).1).evs =
      cbsOf [] ++ (cbQueue (y.step (.flush (some i))).worker).map fun i => (i, true) := k2
  constructor
  · show Ev.cb i true ∈ (y.step (.flush (some i))).workerIdle.2
    rw [Sys.workerIdle_eq _ hstore]
    apply mem_cbsOf.mp
    rw [k2']
    exact List.mem_append_right _ (List.mem_map.mpr ⟨i, hq, rfl⟩)
  · rw [Sys.step_workerIdle_eq _ hstore]
    exact k1'

/-- **(2c) A further clean restart is the identity.** From any system with the invariants
that is clean (worker quiet, nothing pending, nothing to remove — e.g. the recovered system
itself, `c05_recovered_store_is_consistent`, or any clean state of its continuation): drop +
open with any configuration returns `ok`, only syncs the chunk files it keeps (D15: the
events are `syncEvs y2.fs.linkedIds`, all of the form `sync "o" id true`; the file system is
`y2.fs.syncAll y2.fs.linkedIds`, which is `y2.fs` when every linked file was durable), and yields
the same state, index map and chunk table; the invariants hold again (`c02_restart_step`). -/
theorem c05_recovered_restart_is_identity (y2 : Sys) (r' : RefLog) (cfg'' : Cfg)
    (hC : CSys y2 r') (hclean : y2.Clean) :
    ∃ s s', y2.store = some s ∧ ((y2.step .drop).step (.openWith cfg'')).store = some s' ∧
      ({ (y2.step .drop) with cfg := cfg'' } : Sys).open.1 = .ok () ∧
      ({ (y2.step .drop) with cfg := cfg'' } : Sys).open.2.2 = syncEvs y2.fs.linkedIds ∧
      ((y2.step .drop).step (.openWith cfg'')).fs = y2.fs.syncAll y2.fs.linkedIds ∧
      s'.st = s.st ∧ s'.log = s.log ∧ s'.closed = s.closed ∧ s'.openOffsets = s.openOffsets ∧
      CSys ((y2.step .drop).step (.openWith cfg'')) r' ∧
      (∀ e ∈ ({ (y2.step .drop) with cfg := cfg'' } : Sys).open.2.2, ∃ id, e = Ev.sync "o" id true) ∧
      ((∀ f ∈ y2.fs, f.linked = true → f.durable = f.data.length) →
        ((y2.step .drop).step (.openWith cfg'')).fs = y2.fs) := by
  obtain ⟨s, s', c, k⟩ := restart_eq_LIFT hC hclean cfg''
  have hfs : ((y2.step .drop).step (.openWith cfg'')).fs = y2.fs.syncAll y2.fs.linkedIds := by rw [k.sys]
  have hev : ({ (y2.step .drop) with cfg := cfg'' } : Sys).open.2.2 = syncEvs y2.fs.linkedIds := by
    rw [k.open_eq]
  exact ⟨s, s', c.store, by rw [k.sys], by rw [k.open_eq], hev, hfs, k.st, k.log, k.closed, k.openOffsets,
    restart_CSys hC hclean cfg'', by rw [hev]; exact syncEvs_isOpenSync _,
    fun hd => by rw [hfs]; exact c02_syncAll_durable hC hd⟩

/-- Any number of further segments (history, then drop + open) that end clean, from the
recovered system: the invariants hold at the end (`cycles_CSys`). -/
theorem c05_recovered_cycles (y2 : Sys) (r' r2 : RefLog) (segs : List (List Step × Cfg))
    (hC : CSys y2 r')
    (hsegs : ∀ seg ∈ segs, ∀ st ∈ seg.1, st.journal = true)
    (hlegal2 : r'.run (cycleOps segs) = some r2)
    (hwf2 : ∀ op ∈ cycleOps segs, op.WF ∧ op.small) (hclean : CleanCycles y2 segs) :
    CSys (y2.runCycles segs) r2 :=
  cycles_CSys segs y2 r' r2 hC hsegs hlegal2 hwf2 hclean

/-- The file-system effect of one event of `open` (`openEffC5b`), and of a list of events
(`openEffsC5b`). D15: a successful `sync` makes the file durable up to its length; a failed one
changes nothing. -/
theorem c05_open_effect_spec (fs : Fs) (t : String) (id len : Nat) (bs : Bytes) :
    openEffC5b fs (.trunc t id len) = fs.truncate id len ∧
    openEffC5b fs (.sync t id true) = fs.sync id ∧
    openEffC5b fs (.sync t id false) = fs ∧
    openEffC5b fs (.unlink t id true) = fs.unlink id ∧
    openEffC5b fs (.create t id true) = fs.create id ∧
    openEffC5b fs (.write t id bs true) = fs.write id bs ∧
    (∀ evs, openEffsC5b evs fs = evs.foldl openEffC5b fs) :=
  ⟨rfl, rfl, rfl, rfl, rfl, rfl, fun _ => rfl⟩

/-- **(3) A crash at any moment of recovery is recoverable.** Hypotheses of (1). `open` on
the crash image `img` succeeds and performs the file-system events `evs` (D15: one sync of
every chunk file it keeps; truncate + sync
of a torn tail of the newest chunk; unlink of a newest file without a complete record;
create + write of the head of a new chunk); replaying `evs` on `img` gives the directory
`open` returns. For EVERY prefix of these events (`k = 0`: crash before the first effect;
after the truncation; after the unlink; after the new chunk file is created but before its
head is written; `k ≥ |evs|`: after recovery — the head of the new chunk is not yet durable,
so this covers a crash WITHIN the head write: any cut of it, or zeros) and every crash
image `X'` of the directory at that point, `open` (any configuration with `truncate`)
succeeds again and recovers the SAME state and the SAME index map. -/
theorem c05_recovery_crash_is_recoverable (cfg cfg' cfg'' : Cfg) (steps : List Step) (r : RefLog)
    (hsteps : ∀ st ∈ steps, st.journal = true)
    (hlegal : RefLog.run {} (stepOps steps) = some r)
    (hwf : ∀ op ∈ stepOps steps, op.WF ∧ op.small)
    (halive : ((Sys.fresh cfg).run steps).worker.pc ≠ .dead)
    (img : Fs) (hc : CrashImage ((Sys.fresh cfg).run steps).fs img)
    (htr : cfg'.truncate = true) (htr'' : cfg''.truncate = true) (hnt : NoTornPredecessor img) :
    ∃ s' w' fs' evs, openStore cfg' img = (.ok (s', w'), fs', evs) ∧ openEffsC5b evs img = fs' ∧
      ∀ k X', CrashImage (openEffsC5b (evs.take k) img) X' →
        ∃ s'' w'' fs'' evs'', openStore cfg'' X' = (.ok (s'', w''), fs'', evs'') ∧
          s''.st = s'.st ∧ s''.log = s'.log :=
  recovery_steps_of_CrashInv_C5b (reach_CrashInv_C5b cfg steps r hsteps hlegal hwf halive) hc hnt cfg' cfg''
    htr htr''

/-- **Recovery never panics — on ANY crash image** (no hypothesis on the image: also images
with a torn predecessor, where `open` returns the gap error; any configuration, both
`truncate` settings). Legal history from a freshly opened store, worker alive. -/
theorem c05_recovery_never_panics (cfg cfg' : Cfg) (steps : List Step) (r : RefLog)
    (hsteps : ∀ st ∈ steps, st.journal = true)
    (hlegal : RefLog.run {} (stepOps steps) = some r)
    (hwf : ∀ op ∈ stepOps steps, op.WF ∧ op.small)
    (halive : ((Sys.fresh cfg).run steps).worker.pc ≠ .dead)
    (img : Fs) (hc : CrashImage ((Sys.fresh cfg).run steps).fs img) :
    (∀ m, (openStore cfg' img).1 ≠ .panic m) ∧ (openStore cfg' img).1.isPanic = false ∧
    (({ fs := img, cfg := cfg' } : Sys).open).1.isPanic = false := by
  have h1 := crash_open_no_panic_C5b (reach_CrashInv_C5b cfg steps r hsteps hlegal hwf halive) hc cfg'
  have h2 : (openStore cfg' img).1.isPanic = false := by
    cases hr : (openStore cfg' img).1 with
    | panic m => exact absurd hr (h1 m)
    | ok _ => rfl
    | err _ => rfl
  refine ⟨h1, h2, ?_⟩
  cases hr : (({ fs := img, cfg := cfg' } : Sys).open).1 with
  | panic m => exact absurd (Sys.open_panic hr) (h1 m)
  | ok _ => rfl
  | err _ => rfl

/-- The same from the crash invariant (states reached through crash + recovery rounds). -/
theorem c05_crashInv_never_panics {y : Sys} {r : RefLog} {W : List Op} {A E K : Nat}
    (h : CrashInvC5b y r W A E K) (img : Fs) (hc : CrashImage y.fs img) (cfg' : Cfg) :
    ∀ m, (openStore cfg' img).1 ≠ .panic m :=
  crash_open_no_panic_C5b h hc cfg'

/-- What the crash invariant is: for some marker `B`, the history and durability invariant
`HSys` (replay invariant for `r`; `W` reaches `r`; every prefix of the retained journal at
or beyond the marker mirrors a prefix of `W`; every live chunk file written and durable up
to the acknowledged position `A`; `(E, K)` a tracked journal position with its write
count), the ghost invariant `GSysC3b` (the same for the store with the dropped chunks whose
files are still linked put back), `SmallSys` (small records in every file) and `TSysC5b`
(payload mirroring for the store with ALL dropped chunks put back). -/
theorem c05_crashInv_spec (y : Sys) (r : RefLog) (W : List Op) (A E K : Nat) :
    CrashInvC5b y r W A E K ↔
      ∃ B, HSys y r W B A E K ∧ GSysC3b y r W A E K ∧ SmallSys y ∧ TSysC5b y r W := Iff.rfl

/-- It holds for a freshly opened store. -/
theorem c05_crashInv_fresh (cfg : Cfg) : CrashInvC5b (Sys.fresh cfg) {} [] 0 0 0 :=
  fresh_CrashInv_C5b cfg

/-- **Kept by legal histories** (from ANY state that satisfies it): calls legal and accepted
by the reference log (well-formed, small), flushes, worker steps of any outcome,
`workerIdle`, `drain`, worker alive at the end. The writes are appended to `W`, the
acknowledged position moves as `Sys.ackRun` says. -/
theorem c05_crashInv_history (steps : List Step) (y : Sys) (r r' : RefLog) (W : List Op) (A E K : Nat)
    (h : CrashInvC5b y r W A E K) (hsteps : ∀ st ∈ steps, st.journal = true)
    (hr : r.run (stepOps steps) = some r') (hwf : ∀ op ∈ stepOps steps, op.WF ∧ op.small)
    (hnd : (y.run steps).worker.pc ≠ .dead) :
    CrashInvC5b (y.run steps) r' (W ++ expandOps r (stepOps steps)) (y.ackRun steps A) E K :=
  run_CrashInv_C5b steps y r r' W A E K h hsteps hr hwf hnd

/-- The tracked position can be moved to the current journal end / number of writes. -/
theorem c05_crashInv_retarget {y : Sys} {r : RefLog} {W : List Op} {A E K : Nat}
    (h : CrashInvC5b y r W A E K) : ∃ s, y.store = some s ∧ CrashInvC5b y r W A s.openEnd W.length :=
  h.retarget

/-- **(1) + (2) from the crash invariant, and the invariant again.** `y` satisfies the crash
invariant (a state reached through any number of histories and crash + recovery rounds),
`img` is a crash image of its directory without torn predecessor, `cfg'.truncate = true`.
Then `open` succeeds; with `y2` the system it builds there are `n`, `r'`, `A'` such that the
first `n` writes reach `r'`, `n` covers the tracked write count `K` if the tracked position
`E` is acknowledged, and `y2` satisfies the crash invariant for `r'` with the first `n`
writes as its history (hence `CSys y2 r'`, `J y2`) — and `SysWF`, `SysCovered`, `Clean`. -/
theorem c05_crashInv_recovered {y : Sys} {r : RefLog} {W : List Op} {A E K : Nat}
    (h : CrashInvC5b y r W A E K) (img : Fs) (hc : CrashImage y.fs img) (hnt : NoTornPredecessor img)
    (cfg' : Cfg) (htr : cfg'.truncate = true) :
    let y2 := (({ fs := img, cfg := cfg' } : Sys).open).2.1
    (({ fs := img, cfg := cfg' } : Sys).open).1 = .ok () ∧
    ∃ s' n r' A', y2.store = some s' ∧ RefLog.run {} (W.take n) = some r' ∧ (E ≤ A → K ≤ n) ∧
      CrashInvC5b y2 r' (W.take n) A' s'.openEnd n ∧ CSys y2 r' ∧ J y2 ∧
      SysWF y2 ∧ SysCovered y2 ∧ y2.Clean ∧ s'.cfg = cfg' := by
  obtain ⟨s', w', fs', evs, n, r', A', hopen, hcov, R⟩ := recovered_CrashInv_C5b h hc hnt cfg' htr
  rw [open_eq_recovered_C5b hopen]
  exact ⟨rfl, s', n, r', A', rfl, R.run, hcov, R.inv, R.inv.csys, R.inv.csys.1.J, R.wf, R.covered, R.clean,
    R.cfgEq⟩

/-- **C03 from the crash invariant** (no hypothesis on the image, any configuration):
whenever `open` succeeds on a crash image, the recovered state and index keys are those of
the reference log after the first `n` writes, and `n` covers the tracked write count if
the tracked position is acknowledged. -/
theorem c05_crashInv_crash_prefix {y : Sys} {r : RefLog} {W : List Op} {A E K : Nat}
    (h : CrashInvC5b y r W A E K) (img : Fs) (hc : CrashImage y.fs img) (cfg' : Cfg)
    (s' : Store) (w' : Worker) (fs' : Fs) (evs : List Ev)
    (hopen : openStore cfg' img = (.ok (s', w'), fs', evs)) :
    ∃ n r', RefLog.run {} (W.take n) = some r' ∧ s'.st = r'.state ∧
      logKeys s'.log = entKeys r'.entries ∧ (E ≤ A → K ≤ n) :=
  crash_prefix_of_CrashInv_C5b h hc cfg' hopen

theorem c05_crashInv_no_torn_when_acked {y : Sys} {r : RefLog} {W : List Op} {A E K : Nat}
    (h : CrashInvC5b y r W A E K) (s : Store) (hs : y.store = some s) (hA : s.openId ≤ A)
    (img : Fs) (hc : CrashImage y.fs img) : NoTornPredecessor img :=
  noTorn_of_CrashInv_C5b h hs hA hc

/-- (3) from the crash invariant. -/
theorem c05_crashInv_recovery_crash {y : Sys} {r : RefLog} {W : List Op} {A E K : Nat}
    (h : CrashInvC5b y r W A E K) (img : Fs) (hc : CrashImage y.fs img) (hnt : NoTornPredecessor img)
    (cfg' cfg'' : Cfg) (htr : cfg'.truncate = true) (htr'' : cfg''.truncate = true) :
    ∃ s' w' fs' evs, openStore cfg' img = (.ok (s', w'), fs', evs) ∧ openEffsC5b evs img = fs' ∧
      ∀ k X', CrashImage (openEffsC5b (evs.take k) img) X' →
        ∃ s'' w'' fs'' evs'', openStore cfg'' X' = (.ok (s'', w''), fs'', evs'') ∧
          s''.st = s'.st ∧ s''.log = s'.log :=
  recovery_steps_of_CrashInv_C5b h hc hnt cfg' cfg'' htr htr''

/-- **Two rounds, spelled out.** A legal history `steps1` from a fresh store; a crash
(image `img1` without torn predecessor); recovery with `cfg1`; a further legal history
`steps2` on the recovered store (its calls legal and accepted from the recovered reference
log `r1`, whatever prefix `r1` is); a second crash (image `img2` without torn predecessor);
recovery with `cfg2`. Then both `open`s succeed, and the state and index keys after the
second recovery are those of the reference log after a prefix of: the writes that survived
the first crash, followed by the writes of `steps2`. -/
theorem c05_two_crashes (cfg cfg1 cfg2 : Cfg) (steps1 : List Step) (r : RefLog)
    (hsteps : ∀ st ∈ steps1, st.journal = true)
    (hlegal : RefLog.run {} (stepOps steps1) = some r)
    (hwf : ∀ op ∈ stepOps steps1, op.WF ∧ op.small)
    (halive : ((Sys.fresh cfg).run steps1).worker.pc ≠ .dead)
    (img1 : Fs) (hc1 : CrashImage ((Sys.fresh cfg).run steps1).fs img1) (hnt1 : NoTornPredecessor img1)
    (htr1 : cfg1.truncate = true) (htr2 : cfg2.truncate = true) :
    let y1 := (({ fs := img1, cfg := cfg1 } : Sys).open).2.1
    let W1 := expandOps {} (stepOps steps1)
    (({ fs := img1, cfg := cfg1 } : Sys).open).1 = .ok () ∧
    ∃ n1 r1, RefLog.run {} (W1.take n1) = some r1 ∧ CSys y1 r1 ∧
      ∀ (steps2 : List Step) (r2 : RefLog), (∀ st ∈ steps2, st.journal = true) →
        r1.run (stepOps steps2) = some r2 → (∀ op ∈ stepOps steps2, op.WF ∧ op.small) →
        (y1.run steps2).worker.pc ≠ .dead →
        ∀ img2, CrashImage (y1.run steps2).fs img2 → NoTornPredecessor img2 →
          (({ fs := img2, cfg := cfg2 } : Sys).open).1 = .ok () ∧
          ∃ s2 n2 r2', (({ fs := img2, cfg := cfg2 } : Sys).open).2.1.store = some s2 ∧
            RefLog.run {} ((W1.take n1 ++ expandOps r1 (stepOps steps2)).take n2) = some r2' ∧
            s2.st = r2'.state ∧ logKeys s2.log = entKeys r2'.entries ∧
            CSys (({ fs := img2, cfg := cfg2 } : Sys).open).2.1 r2' := by
  intro y1 W1
  obtain ⟨hok1, s1, n1, r1, A1, hs1, hrun1, _, hinv1, hC1, _⟩ := c05_crashInv_recovered
    (reach_CrashInv_C5b cfg steps1 r hsteps hlegal hwf halive) img1 hc1 hnt1 cfg1 htr1
  refine ⟨hok1, n1, r1, hrun1, hC1, ?_⟩
  intro steps2 r2 hst2 hl2 hwf2 hal2 img2 hc2 hnt2
  have hinv2 := c05_crashInv_history steps2 y1 r1 r2 _ _ _ _ hinv1 hst2 hl2 hwf2 hal2
  obtain ⟨hok2, s2, n2, r2', A2, hs2, hrun2, _, _, hC2, _⟩ :=
    c05_crashInv_recovered hinv2 img2 hc2 hnt2 cfg2 htr2
  obtain ⟨s0, hs0, _, hinv⟩ := hC2.1
  rw [hs2] at hs0; cases hs0
  exact ⟨hok2, s2, n2, r2', hs2, hrun2, hinv.abs.st, hinv.abs.log, hC2⟩

/-- Chunks hold three records. Two appends fill chunk 0 and rotate to chunk 84; the flush
with callback 3 is acknowledged (`workerIdle`): chunk 0 is complete and durable, the
acknowledged position is 118 = the end of the head of chunk 84. Then a `commit` whose record
is only partly written (a short write of 5 of its 28 bytes, not synced). -/
def c05Example : List Step :=
  [ .call (.append [(⟨1, 0⟩, [1]), (⟨1, 1⟩, [2])]), .flush (some 3), .workerIdle,
    .call (.commit ⟨1, 1⟩), .flush none, .worker .ok, .worker (.short 5) ]

theorem c05Example_wf : ∀ op ∈ stepOps c05Example, op.WF ∧ op.small := by
  decide

/-- The hypotheses of the theorems hold for it, with a rotation behind it and a torn tail:
chunk 0 has 84 bytes, all durable; chunk 84 has 39 bytes written, 34 durable; the
acknowledged position 118 covers the start 84 of the newest chunk
(`c05_no_torn_predecessor_when_synced` applies). -/
example :
    (∀ st ∈ c05Example, st.journal = true) ∧
    (RefLog.run {} (stepOps c05Example)).isSome = true ∧
    (∀ op ∈ stepOps c05Example, op.WF ∧ op.small) ∧
    ((Sys.fresh { maxRecords := 3 }).run c05Example).worker.pc ≠ .dead ∧
    ((Sys.fresh { maxRecords := 3 }).run c05Example).store.map
      (fun s => (s.closed.map Closed.id, s.openId, s.openEnd)) = some ([0], 84, 146) ∧
    ((Sys.fresh { maxRecords := 3 }).run c05Example).fs.map
      (fun f => (f.id, f.data.length, f.durable, f.linked)) = [(0, 84, 84, true), (84, 39, 34, true)] ∧
    (Sys.fresh { maxRecords := 3 }).ackRun c05Example 0 = 118 := by
  exact ⟨by decide, by decide +kernel, c05Example_wf, by decide +kernel⟩

/-- Three crash images: the process crash (the torn `commit` survives as 5 bytes), the
worst power failure (chunk 84 cut to its 34 durable bytes), and a power failure that leaves
3 zero bytes after the record boundary 34. None has a torn predecessor. -/
example :
    CrashImage ((Sys.fresh { maxRecords := 3 }).run c05Example).fs
      (cutCrash ((Sys.fresh { maxRecords := 3 }).run c05Example).fs [(84, 0), (39, 0)]) ∧
    CrashImage ((Sys.fresh { maxRecords := 3 }).run c05Example).fs
      (cutCrash ((Sys.fresh { maxRecords := 3 }).run c05Example).fs [(84, 0), (34, 0)]) ∧
    CrashImage ((Sys.fresh { maxRecords := 3 }).run c05Example).fs
      (cutCrash ((Sys.fresh { maxRecords := 3 }).run c05Example).fs [(84, 0), (34, 3)]) ∧
    NoTornPredecessor (cutCrash ((Sys.fresh { maxRecords := 3 }).run c05Example).fs [(84, 0), (39, 0)]) ∧
    NoTornPredecessor (cutCrash ((Sys.fresh { maxRecords := 3 }).run c05Example).fs [(84, 0), (34, 0)]) ∧
    NoTornPredecessor (cutCrash ((Sys.fresh { maxRecords := 3 }).run c05Example).fs [(84, 0), (34, 3)]) := by
  obtain ⟨⟨s, hs, hA⟩, hl, hd, c1, c2, c3⟩ :
      (∃ s, ((Sys.fresh { maxRecords := 3 }).run c05Example).store = some s ∧
        s.openId ≤ (Sys.fresh { maxRecords := 3 }).ackRun c05Example 0) ∧
      (RefLog.run {} (stepOps c05Example)).isSome = true ∧
      ((Sys.fresh { maxRecords := 3 }).run c05Example).worker.pc ≠ .dead ∧
      cutOK ((Sys.fresh { maxRecords := 3 }).run c05Example).fs [(84, 0), (39, 0)] = true ∧
      cutOK ((Sys.fresh { maxRecords := 3 }).run c05Example).fs [(84, 0), (34, 0)] = true ∧
      cutOK ((Sys.fresh { maxRecords := 3 }).run c05Example).fs [(84, 0), (34, 3)] = true := by
    decide +kernel
  obtain ⟨r, hr⟩ := Option.isSome_iff_exists.mp hl
  have h1 := cutCrash_image _ _ c1
  have h2 := cutCrash_image _ _ c2
  have h3 := cutCrash_image _ _ c3
  have key := fun img hc => c05_no_torn_predecessor_when_synced { maxRecords := 3 } c05Example r s
    (by decide) hr c05Example_wf hd hs hA img hc
  exact ⟨h1, h2, h3, key _ h1, key _ h2, key _ h3⟩

/-- `open` on each of them (default configuration): after the process crash and after the
zero-tail failure the torn tail of chunk 84 is cut off and a fresh chunk 118 is created;
after the worst power failure chunk 84 is reused. In all three cases the recovered state and
index keys are those of the reference log after the first two entry-level writes (the two
appends — the acknowledged ones; the `commit` is lost). -/
example :
    (openStore {} (cutCrash ((Sys.fresh { maxRecords := 3 }).run c05Example).fs [(84, 0), (39, 0)])).2.1.map
      (fun f => (f.id, f.data.length, f.durable, f.linked))
      = [(0, 84, 84, true), (84, 34, 34, true), (118, 34, 0, true)] ∧
    (openStore {} (cutCrash ((Sys.fresh { maxRecords := 3 }).run c05Example).fs [(84, 0), (34, 3)])).2.1.map
      (fun f => (f.id, f.data.length, f.durable, f.linked))
      = [(0, 84, 84, true), (84, 34, 34, true), (118, 34, 0, true)] ∧
    (openStore {} (cutCrash ((Sys.fresh { maxRecords := 3 }).run c05Example).fs [(84, 0), (34, 0)])).2.1.map
      (fun f => (f.id, f.data.length, f.durable, f.linked))
      = [(0, 84, 84, true), (84, 34, 34, true)] := by
  decide +kernel

example :
    c03View (openStore {} (cutCrash ((Sys.fresh { maxRecords := 3 }).run c05Example).fs
        [(84, 0), (39, 0)])).1
      = some (⟨none, some ⟨1, 1⟩, none, none, none⟩, [(0, ⟨1, 0⟩), (1, ⟨1, 1⟩)]) ∧
    c03View (openStore {} (cutCrash ((Sys.fresh { maxRecords := 3 }).run c05Example).fs
        [(84, 0), (34, 3)])).1
      = some (⟨none, some ⟨1, 1⟩, none, none, none⟩, [(0, ⟨1, 0⟩), (1, ⟨1, 1⟩)]) ∧
    c03View (openStore {} (cutCrash ((Sys.fresh { maxRecords := 3 }).run c05Example).fs
        [(84, 0), (34, 0)])).1
      = some (⟨none, some ⟨1, 1⟩, none, none, none⟩, [(0, ⟨1, 0⟩), (1, ⟨1, 1⟩)]) ∧
    (RefLog.run {} ((expandOps {} (stepOps c05Example)).take 2)).map
        (fun r' => (r'.state, entKeys r'.entries))
      = some (⟨none, some ⟨1, 1⟩, none, none, none⟩, [(0, ⟨1, 0⟩), (1, ⟨1, 1⟩)]) := by
  decide +kernel

/-- The recovered system (process-crash image). -/
def c05Recovered : Sys :=
  (({ fs := cutCrash ((Sys.fresh { maxRecords := 3 }).run c05Example).fs [(84, 0), (39, 0)],
      cfg := {} } : Sys).open).2.1

/-- (2) on the example, computed by the model: the recovered store accepts a further
append (its payload is read back together with the recovered entries), a flush with
callback 9 is acknowledged, and drop + open afterwards changes nothing. -/
example :
    (c05Recovered.call (.append [(⟨1, 2⟩, [7])])).1.isOk = true ∧
    ((c05Recovered.run [.call (.append [(⟨1, 2⟩, [7])])]).store.map
      (fun s => (s.read (c05Recovered.run [.call (.append [(⟨1, 2⟩, [7])])]).fs 0 10).1))
      = some [ReadItem.ok ⟨1, 0⟩ [1], ReadItem.ok ⟨1, 1⟩ [2], ReadItem.ok ⟨1, 2⟩ [7]] ∧
    Ev.cb 9 true ∈ (c05Recovered.run [.call (.append [(⟨1, 2⟩, [7])]), .flush (some 9)]).stepEvs
      .workerIdle ∧
    (((c05Recovered.run [.call (.append [(⟨1, 2⟩, [7])]), .flush (some 9), .workerIdle]).step
        .drop).step (.openWith {})).store.map (fun s => (s.st, s.log, s.closed, s.openOffsets))
      = (c05Recovered.run [.call (.append [(⟨1, 2⟩, [7])]), .flush (some 9), .workerIdle]).store.map
        (fun s => (s.st, s.log, s.closed, s.openOffsets)) := by
  decide +kernel

/-- (3) on the example: `open` on the process-crash image performs six events (D15: with the
syncs of the kept chunks 0 and 84 — chunk 84 twice, after the cut and as a kept chunk); a crash
after the truncation, after the creation of chunk 118 (its file still empty), or within
the write of its head (5 of 34 bytes) is recovered to the same state and index keys. -/
example :
    (openStore {} (cutCrash ((Sys.fresh { maxRecords := 3 }).run c05Example).fs [(84, 0), (39, 0)])).2.2.map
      (fun e => match e with
        | .trunc _ id len => (0, id, len) | .sync _ id _ => (1, id, 0) | .create _ id _ => (2, id, 0)
        | .write _ id bs _ => (3, id, bs.length) | _ => (9, 0, 0))
      = [(1, 0, 0), (0, 84, 34), (1, 84, 0), (1, 84, 0), (2, 118, 0), (3, 118, 34)] ∧
    c03View (openStore {} (procCrash (openEffsC5b
      ((openStore {} (cutCrash ((Sys.fresh { maxRecords := 3 }).run c05Example).fs [(84, 0), (39, 0)])).2.2.take 2)
      (cutCrash ((Sys.fresh { maxRecords := 3 }).run c05Example).fs [(84, 0), (39, 0)])))).1
      = some (⟨none, some ⟨1, 1⟩, none, none, none⟩, [(0, ⟨1, 0⟩), (1, ⟨1, 1⟩)]) ∧
    c03View (openStore {} (procCrash (openEffsC5b
      ((openStore {} (cutCrash ((Sys.fresh { maxRecords := 3 }).run c05Example).fs [(84, 0), (39, 0)])).2.2.take 5)
      (cutCrash ((Sys.fresh { maxRecords := 3 }).run c05Example).fs [(84, 0), (39, 0)])))).1
      = some (⟨none, some ⟨1, 1⟩, none, none, none⟩, [(0, ⟨1, 0⟩), (1, ⟨1, 1⟩)]) ∧
    c03View (openStore {} (cutCrash
      (openStore {} (cutCrash ((Sys.fresh { maxRecords := 3 }).run c05Example).fs [(84, 0), (39, 0)])).2.1
      [(84, 0), (34, 0), (5, 0)])).1
      = some (⟨none, some ⟨1, 1⟩, none, none, none⟩, [(0, ⟨1, 0⟩), (1, ⟨1, 1⟩)]) := by
  decide +kernel

/-- (4) on the example: a second round. On the recovered store a further append is
journalled, flushed and partly written (4 of its 33 bytes; the head of chunk 118 is not
durable yet); after a second crash — process crash or worst power failure (chunk 118 is
cut to nothing and recreated) — `open` succeeds again and reports the two surviving
entries. -/
def c05Round2 : List Step :=
  [.call (.append [(⟨1, 2⟩, [7])]), .flush none, .worker .ok, .worker (.short 4)]

example :
    (c05Recovered.run c05Round2).fs.map (fun f => (f.id, f.data.length, f.durable, f.linked))
      = [(0, 84, 84, true), (84, 34, 34, true), (118, 38, 0, true)] ∧
    c03View (openStore {} (procCrash (c05Recovered.run c05Round2).fs)).1
      = some (⟨none, some ⟨1, 1⟩, none, none, none⟩, [(0, ⟨1, 0⟩), (1, ⟨1, 1⟩)]) ∧
    (openStore {} (procCrash (c05Recovered.run c05Round2).fs)).2.1.map
      (fun f => (f.id, f.data.length, f.durable, f.linked))
      = [(0, 84, 84, true), (84, 34, 34, true), (118, 34, 34, true), (152, 34, 0, true)] ∧
    c03View (openStore {} (powerCrash (c05Recovered.run c05Round2).fs)).1
      = some (⟨none, some ⟨1, 1⟩, none, none, none⟩, [(0, ⟨1, 0⟩), (1, ⟨1, 1⟩)]) ∧
    (openStore {} (powerCrash (c05Recovered.run c05Round2).fs)).2.1.map
      (fun f => (f.id, f.data.length, f.durable, f.linked))
      = [(0, 84, 84, true), (84, 34, 34, true), (118, 34, 0, true)] := by
  decide +kernel

end RaftLog
