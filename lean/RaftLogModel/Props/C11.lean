/-
C11 — The on-disk journal is an exact, gap-free record of accepted writes.

Proved here: file-name theorems (all u64 ids; imported), the segment returned
by a write is the place its record was journalled at, and the rotation rule for
one `try_close_full_chunk` (afterwards the open chunk is below both limits, or
holds only its head record, or the next file was in the way; along whole
histories: Props/C11Full.lean). The byte-level journal invariant (file bytes ‖ bytes in flight
in the worker ‖ pending buffer = head ‖ one record per accepted write in call
order; files abut; exact files and on-disk size at quiescence) is
`Props/C11Journal.lean` (invariant `J`, proved for every history of calls,
flushes, drains and worker steps of any outcome while the worker is alive).
-/
import RaftLogModel.Props.C11Names
import RaftLogModel.Props.C11Journal
import RaftLogModel.Proofs.StoreBasic
namespace RaftLog

/-- The segment returned by an accepted record is `(journal end before the
call, encoded size)`. -/
theorem c11_segment_is_record_place (s : Store) (fsHas : Nat → Bool) (r : Record) (seg : Seg)
    (s' : Store) (effs : List Eff) (h : s.appendAndApply fsHas r = (.ok seg, s', effs)) :
    seg = ⟨s.openEnd, (encRecord r).length⟩ := by
  revert h
  refine Store.appendAndApply_elim (s.appendAndApply fsHas r) rfl ?_ ?_ ?_ ?_
  · exact fun _ _ h => nomatch h
  · exact fun _ _ h => nomatch h
  · exact fun _ _ _ h => nomatch h
  · exact fun _ _ _ _ _ _ =>
      ⟨fun _ h => (by cases h; rfl), (fun _ _ h => nomatch h), fun _ _ h => (by cases h; rfl)⟩

/-- Rotation rule: after `try_close_full_chunk` the open chunk is not full,
or it is a fresh chunk holding only its head record (or the creation of the
next file failed). -/
theorem c11_rotation (s : Store) (fsHas : Nat → Bool) :
    let x := s.tryCloseFull fsHas
    x.2.1.isOpenFull = false ∨ x.2.1.openOffsets.length = 2 ∨ x.1 = .err .exists := by
  rcases s.tryCloseFull_outcomes fsHas with ⟨hf, e⟩ | ⟨_, _, e⟩ | ⟨_, _, e⟩ <;> simp only [e]
  · exact .inl hf
  · exact .inr (.inr trivial)
  · exact .inr (.inl rfl)

/-- The new chunk's id is the journal end, its head record is the state at
that moment, and the old chunk is closed with that state. -/
theorem c11_new_chunk_abuts (s : Store) (fsHas : Nat → Bool) (hf : s.isOpenFull = true)
    (he : fsHas s.openEnd = false) :
    let x := s.tryCloseFull fsHas
    x.2.1.openId = s.openEnd ∧
    x.2.1.closed = s.closed ++ [⟨s.openOffsets, s.st⟩] ∧
    x.2.2.take 2 = [Eff.create s.openEnd, Eff.writeHead s.openEnd (encRecord (.state s.st))] := by
  rcases s.tryCloseFull_outcomes fsHas with ⟨hf', _⟩ | ⟨_, he', _⟩ | ⟨_, _, e⟩
  · rw [hf] at hf'; cases hf'
  · rw [he] at he'; cases he'
  · simp only [e]
    exact ⟨rfl, rfl, by unfold rotateEffs; split <;> rfl⟩

end RaftLog
