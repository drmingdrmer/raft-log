/-
C04 at the SYSTEM level, for every history — callback accounting.

"Each callback is invoked at most once, exactly once when no I/O error occurs, and
callbacks fire in the order the flushes were requested."  `Props/C04.lean` proves this on
the worker machine started in an arbitrary state; here it is lifted to whole histories of
the system: every cfg, EVERY `steps : List Step` (no legality, no journal, no alive
hypothesis; drops, reopenings with any cfg, dead workers, flushes without a store
included).

* `requestedC4S y steps` — the ids `i` of the steps `.flush (some i)` taken while a store
  is open, in order;
* `resolvedC4S evs` — the ids of the `Ev.cb i _` and `Ev.cbDropped i` events, in event order;
* `cbQueue w` — the callbacks the worker still holds (batch in hand, then queue).

What the model does (and why theorem 1 is `_partial`): the list equality
`resolved ++ cbQueue = requested` is FALSE in general.  `WCtx.die` (a failed `write` or
`unlink` kills the worker thread) reports the dropped callbacks in ASCENDING ID order
(`insertNat`), not in request order: see the counterexample below (flush 9, flush 7,
the write fails: events `cbDropped 7, cbDropped 9`).  That is the only reordering: for every
history `requested = p ++ cbQueue` (what is still queued is exactly the tail of the requests, in
request order) and `resolved` is a permutation of the prefix `p`; the list equality is exact when
the requested ids are ascending (e.g. a script numbering its flushes), whatever dies, or when no
step kills the worker (in particular without any `.worker .eio` step; failed syncs do not kill
the worker).
-/
import RaftLogModel.Proofs.C04Order
namespace RaftLog

/-- **Accounting, every history.** What is still queued at the end is exactly the tail of
the requests, in request order; the resolved callbacks are the earlier requests, up to the
order in which a dying worker reports its drops; hence `resolved ++ queued` is a
permutation of `requested`. -/
theorem c04_sys_callback_accounting_partial (cfg : Cfg) (steps : List Step) :
    (∃ p, requestedC4S (Sys.fresh cfg) steps = p ++ cbQueue ((Sys.fresh cfg).run steps).worker ∧
      (resolvedC4S (Sys.runEvsAll (Sys.fresh cfg) steps)).Perm p) ∧
    (resolvedC4S (Sys.runEvsAll (Sys.fresh cfg) steps) ++
        cbQueue ((Sys.fresh cfg).run steps).worker).Perm (requestedC4S (Sys.fresh cfg) steps) := by
  obtain ⟨p, h1, h2, _⟩ := Sys.run_splitC4S steps (Sys.fresh cfg) (InvC4S.fresh cfg)
  rw [Sys.fresh_cbQueueC4S, List.nil_append] at h1
  refine ⟨⟨p, h1, h2⟩, ?_⟩
  rw [h1]
  exact h2.append_right _

/-- **Accounting, exact**, when the requested callback ids are ascending. -/
theorem c04_sys_callback_accounting_ascending (cfg : Cfg) (steps : List Step)
    (hasc : (requestedC4S (Sys.fresh cfg) steps).Pairwise (· ≤ ·)) :
    resolvedC4S (Sys.runEvsAll (Sys.fresh cfg) steps) ++ cbQueue ((Sys.fresh cfg).run steps).worker =
      requestedC4S (Sys.fresh cfg) steps := by
  have h := (Sys.run_acctC4S steps (Sys.fresh cfg) (InvC4S.fresh cfg)).2.1
  rw [Sys.fresh_cbQueueC4S, List.nil_append] at h
  exact h hasc

/-- **Accounting, exact**, when no step kills the worker thread. -/
theorem c04_sys_callback_accounting_no_death (cfg : Cfg) (steps : List Step)
    (hnd : (Sys.fresh cfg).noDeathC4S steps) :
    resolvedC4S (Sys.runEvsAll (Sys.fresh cfg) steps) ++ cbQueue ((Sys.fresh cfg).run steps).worker =
      requestedC4S (Sys.fresh cfg) steps := by
  have h := (Sys.run_acctC4S steps (Sys.fresh cfg) (InvC4S.fresh cfg)).2.2
  rw [Sys.fresh_cbQueueC4S, List.nil_append] at h
  exact h hnd

theorem noEio_of_neC4S {st : Step} (h : st ≠ .worker .eio) : st.noEio = true := by
  cases st with
  | worker out => cases out <;> first | rfl | exact absurd rfl h
  | _ => rfl

/-- **Accounting, exact**, when no `write`/`fdatasync`/`unlink` of the worker fails
(`.worker .eio` never occurs; short writes allowed). -/
theorem c04_sys_callback_accounting_no_eio (cfg : Cfg) (steps : List Step)
    (hok : ∀ st ∈ steps, st ≠ .worker .eio) :
    resolvedC4S (Sys.runEvsAll (Sys.fresh cfg) steps) ++ cbQueue ((Sys.fresh cfg).run steps).worker =
      requestedC4S (Sys.fresh cfg) steps :=
  c04_sys_callback_accounting_no_death cfg steps
    (Sys.run_nofaultC4S steps _ (InvC4S.fresh cfg) (NFInvC4S.fresh cfg)
      (fun st hst => noEio_of_neC4S (hok st hst))).2.2

/-- The list equality `resolved ++ cbQueue = requested` is false in general: two flushes with callbacks 9 then 7,
the worker collects both, its `write` fails; `die` reports 7 before 9. -/
def c04OrderCounterexample : List Step :=
  [.call (.append [(⟨1, 0⟩, [1])]), .flush (some 9), .flush (some 7), .worker .ok, .worker .eio]

example :
    requestedC4S (Sys.fresh {}) c04OrderCounterexample = [9, 7] ∧
    resolvedC4S (Sys.runEvsAll (Sys.fresh {}) c04OrderCounterexample) = [7, 9] ∧
    cbQueue ((Sys.fresh {}).run c04OrderCounterexample).worker = [] ∧
    resolvedC4S (Sys.runEvsAll (Sys.fresh {}) c04OrderCounterexample) ++
        cbQueue ((Sys.fresh {}).run c04OrderCounterexample).worker ≠
      requestedC4S (Sys.fresh {}) c04OrderCounterexample := by
  decide +kernel

/-- **At most once.** If the requested callback ids are distinct, no callback is
resolved (invoked or dropped) twice and none is both resolved and still queued. -/
theorem c04_sys_at_most_once (cfg : Cfg) (steps : List Step)
    (hnd : (requestedC4S (Sys.fresh cfg) steps).Nodup) :
    (resolvedC4S (Sys.runEvsAll (Sys.fresh cfg) steps)).Nodup ∧
    (cbQueue ((Sys.fresh cfg).run steps).worker).Nodup ∧
    ∀ i ∈ resolvedC4S (Sys.runEvsAll (Sys.fresh cfg) steps),
      i ∉ cbQueue ((Sys.fresh cfg).run steps).worker := by
  have h := (c04_sys_callback_accounting_partial cfg steps).2.nodup_iff.mpr hnd
  rw [List.nodup_append] at h
  exact ⟨h.1, h.2.1, fun i hi hq => h.2.2 i hi i hq rfl⟩

/-- **Request order.** For every history: the callbacks that are invoked (`Ev.cb`)
come, in event order, in the order their flushes were requested (a sublist of the
requests); the callbacks still queued are the last requests; and — when the requested ids
are ascending, or no step kills the worker — the resolved ids (invoked or dropped) are, in
event order, a prefix of the requests. (Without one of these two hypotheses the prefix
claim is false: `c04OrderCounterexample`.) -/
theorem c04_sys_request_order_partial (cfg : Cfg) (steps : List Step) :
    ((cbsOf (Sys.runEvsAll (Sys.fresh cfg) steps)).map Prod.fst).Sublist (requestedC4S (Sys.fresh cfg) steps) ∧
    cbQueue ((Sys.fresh cfg).run steps).worker <:+ requestedC4S (Sys.fresh cfg) steps ∧
    ((requestedC4S (Sys.fresh cfg) steps).Pairwise (· ≤ ·) ∨ (Sys.fresh cfg).noDeathC4S steps →
      resolvedC4S (Sys.runEvsAll (Sys.fresh cfg) steps) <+: requestedC4S (Sys.fresh cfg) steps) := by
  obtain ⟨p, h1, _, h3⟩ := Sys.run_splitC4S steps (Sys.fresh cfg) (InvC4S.fresh cfg)
  rw [Sys.fresh_cbQueueC4S, List.nil_append] at h1
  refine ⟨?_, ⟨p, h1.symm⟩, ?_⟩
  · rw [h1]; exact h3.trans (List.sublist_append_left _ _)
  · rintro (h | h)
    · exact ⟨_, c04_sys_callback_accounting_ascending cfg steps h⟩
    · exact ⟨_, c04_sys_callback_accounting_no_death cfg steps h⟩

/-- As an exact prefix claim, under the hypothesis that makes it true. -/
theorem c04_sys_request_order (cfg : Cfg) (steps : List Step)
    (hok : ∀ st ∈ steps, st ≠ .worker .eio) :
    resolvedC4S (Sys.runEvsAll (Sys.fresh cfg) steps) <+: requestedC4S (Sys.fresh cfg) steps :=
  ⟨_, c04_sys_callback_accounting_no_eio cfg steps hok⟩

/-- **Exactly once when no I/O error occurs.** No `.worker .eio` step (short writes
allowed; drops, reopenings, any cfg), and the history ends with `workerIdle` or `drop`:
nothing is left queued; every requested callback is invoked exactly once, positively, in
request order; no callback is dropped and none is acknowledged negatively. -/
theorem c04_sys_exactly_once_no_fault (cfg : Cfg) (steps : List Step) (last : Step)
    (hok : ∀ st ∈ steps, st ≠ .worker .eio) (hlast : last = .workerIdle ∨ last = .drop) :
    cbQueue ((Sys.fresh cfg).run (steps ++ [last])).worker = [] ∧
    cbsOf (Sys.runEvsAll (Sys.fresh cfg) (steps ++ [last])) =
      (requestedC4S (Sys.fresh cfg) (steps ++ [last])).map (fun i => (i, true)) ∧
    resolvedC4S (Sys.runEvsAll (Sys.fresh cfg) (steps ++ [last])) =
      requestedC4S (Sys.fresh cfg) (steps ++ [last]) ∧
    (∀ i, Ev.cbDropped i ∉ Sys.runEvsAll (Sys.fresh cfg) (steps ++ [last])) ∧
    (∀ i, Ev.cb i false ∉ Sys.runEvsAll (Sys.fresh cfg) (steps ++ [last])) := by
  have hall : ∀ st ∈ steps ++ [last], st.noEio = true := by
    intro st hst
    rcases List.mem_append.mp hst with h | h
    · exact noEio_of_neC4S (hok st h)
    · rw [List.mem_singleton] at h
      rcases hlast with e | e <;> rw [h, e] <;> rfl
  obtain ⟨_, hgood, hnd⟩ := Sys.run_nofaultC4S (steps ++ [last]) _ (InvC4S.fresh cfg) (NFInvC4S.fresh cfg) hall
  have hq : cbQueue ((Sys.fresh cfg).run (steps ++ [last])).worker = [] := by
    rw [Sys.run_snoc]
    rcases hlast with e | e <;> rw [e]
    · exact Sys.idle_quietC4S ((InvC4S.fresh cfg).run steps)
    · exact Sys.drop_quietC4S ((InvC4S.fresh cfg).run steps)
  have hacct := c04_sys_callback_accounting_no_death cfg (steps ++ [last]) hnd
  rw [hq, List.append_nil] at hacct
  have hcbs : cbsOf (Sys.runEvsAll (Sys.fresh cfg) (steps ++ [last])) =
      (requestedC4S (Sys.fresh cfg) (steps ++ [last])).map (fun i => (i, true)) := by
    rw [← hacct]; exact hgood
  refine ⟨hq, hcbs, hacct, ?_, ?_⟩
  · intro i hi
    have := mem_droppedC4S.mpr hi
    rw [hgood.dropped] at this
    cases this
  · intro i hi
    have := mem_cbsOf.mpr hi
    rw [hcbs] at this
    simp at this

/-- Two flushes (callbacks 7 and 9), appends, worker steps; the `fdatasync` of the first
batch fails: 7 is acknowledged negatively (resolved), 9 is in the batch in hand. -/
def c04OrderDemo : List Step :=
  [.call (.append [(⟨1, 0⟩, [1, 2, 3])]), .flush (some 7), .worker .ok, .worker .ok, .worker .eio,
   .call (.append [(⟨1, 1⟩, [4])]), .flush (some 9), .worker .ok]

example :
    requestedC4S (Sys.fresh {}) c04OrderDemo = [7, 9] ∧
    resolvedC4S (Sys.runEvsAll (Sys.fresh {}) c04OrderDemo) = [7] ∧
    cbsOf (Sys.runEvsAll (Sys.fresh {}) c04OrderDemo) = [(7, false)] ∧
    cbQueue ((Sys.fresh {}).run c04OrderDemo).worker = [9] := by
  decide +kernel

/-- The same, then: a third flush (3) joins the batch, the `write` fails and kills the
worker (9 and 3 are dropped, reported as 3, 9); a flush on the dead worker (5) is dropped at
once; `drop`; a flush without a store (6) registers nothing; reopen; two flushes (8, 2) are
queued. -/
def c04OrderDemo2 : List Step :=
  c04OrderDemo ++ [.flush (some 3), .worker .eio, .flush (some 5), .drop, .flush (some 6),
    .openWith {}, .flush (some 8), .flush (some 2)]

example :
    requestedC4S (Sys.fresh {}) c04OrderDemo2 = [7, 9, 3, 5, 8, 2] ∧
    resolvedC4S (Sys.runEvsAll (Sys.fresh {}) c04OrderDemo2) = [7, 3, 9, 5] ∧
    cbsOf (Sys.runEvsAll (Sys.fresh {}) c04OrderDemo2) = [(7, false)] ∧
    droppedC4S (Sys.runEvsAll (Sys.fresh {}) c04OrderDemo2) = [3, 9, 5] ∧
    cbQueue ((Sys.fresh {}).run c04OrderDemo2).worker = [8, 2] := by
  decide +kernel

/-- No fault: both callbacks are acknowledged positively, in order, after `workerIdle`
(hypotheses of `c04_sys_exactly_once_no_fault` hold). -/
example :
    (∀ st ∈ [Step.call (.append [(⟨1, 0⟩, [1, 2, 3])]), .flush (some 7), .worker .ok, .flush (some 9),
        .call (.append [(⟨1, 1⟩, [4])]), .worker (.short 1)], st ≠ .worker .eio) ∧
    cbsOf (Sys.runEvsAll (Sys.fresh {}) ([.call (.append [(⟨1, 0⟩, [1, 2, 3])]), .flush (some 7), .worker .ok,
        .flush (some 9), .call (.append [(⟨1, 1⟩, [4])]), .worker (.short 1)] ++ [.workerIdle])) =
      [(7, true), (9, true)] := by
  decide +kernel

end RaftLog
