/-
C15, middle clause, at the level of the API CALL and of reachable SYSTEM states.

"Whenever either [the item count or the byte size] exceeds its configured
limit after a write, every resident entry lies above the evictable boundary in
force at that write, i.e. only entries the store must keep pinned are over the
limit."

Props/C15.lean proves this for ONE `Cache.insert`. Here it is proved for

* the store returned by ANY `append es` call: accepted, or refused at its k-th entry
  after k entries were inserted (state refusal: `nonConsecutive`/`logIdReversal`/overflow
  panic; or a failed chunk rotation `create_new` AFTER the k-th entry was inserted),
  with any number of chunk rotations in between;
* the other five ops: they never add a resident entry; no caller-side call moves the
  boundary or the limits;
* every reachable system state right after an `append` call, for every history of live
  steps (as in Props/C15.lean), with the limits read off the configuration, and for
  histories with clean restarts in the sense of Props/C15Restart.lean.

"The call inserted at least one entry" is stated as: `st.last` of the returned
store differs from the one before the call (`c15_append_call_inserted_iff`:
equivalent to "the returned store differs at all"; if the first entry of the
batch is accepted by the state it holds, if it is refused the store is
returned untouched).
-/
import RaftLogModel.Proofs.CacheCall
import RaftLogModel.Proofs.Eval
import RaftLogModel.Props.C15
import RaftLogModel.Props.C15Restart
namespace RaftLog

/-- **The store after `append es` is the old one, or only pinned entries
exceed the limits.** For every store satisfying the cache invariant and every
batch: either NOTHING was inserted and the returned store is `s` itself, or
`last` grew strictly and, if a limit is exceeded in the returned store, every
resident id is above the boundary (which is the boundary in force before the
call: `c15_call_boundary_unchanged`). -/
theorem c15_append_call_unchanged_or_only_pinned (s : Store) (fsHas : Nat → Bool)
    (es : List (LogId × Bytes)) (hinv : CacheInv s) :
    (s.call fsHas (.append es)).2.1 = s ∨
    (optLt s.st.last (s.call fsHas (.append es)).2.1.st.last = true ∧
     ((s.call fsHas (.append es)).2.1.cache.items.length > (s.call fsHas (.append es)).2.1.cache.maxItems ∨
        (s.call fsHas (.append es)).2.1.cache.size > (s.call fsHas (.append es)).2.1.cache.capacity →
      KeysGt (s.call fsHas (.append es)).2.1.cache.items
        (s.call fsHas (.append es)).2.1.cache.lastEvictable)) := by
  rcases call_append_C15b fsHas es hinv with h | h
  · exact Or.inl h
  · exact Or.inr ⟨h.last_lt, h.pinned⟩

/-- "Inserted" = "`last` changed" = "the returned store differs". -/
theorem c15_append_call_inserted_iff (s : Store) (fsHas : Nat → Bool)
    (es : List (LogId × Bytes)) (hinv : CacheInv s) :
    (s.call fsHas (.append es)).2.1.st.last ≠ s.st.last ↔ (s.call fsHas (.append es)).2.1 ≠ s := by
  constructor
  · intro h e; rw [e] at h; exact h rfl
  · intro h
    rcases call_append_C15b fsHas es hinv with h1 | h1
    · exact absurd h1 h
    · exact h1.last_ne

/-- **C15 at call level.** If the `append es` call inserted at least one entry
(accepted, or refused at a later entry, with rotations in between) and a limit
is exceeded in the returned store, every resident id lies above the boundary. -/
theorem c15_append_call_only_pinned (s : Store) (fsHas : Nat → Bool) (es : List (LogId × Bytes))
    (hinv : CacheInv s)
    (hins : (s.call fsHas (.append es)).2.1.st.last ≠ s.st.last)
    (hover : (s.call fsHas (.append es)).2.1.cache.items.length >
               (s.call fsHas (.append es)).2.1.cache.maxItems ∨
             (s.call fsHas (.append es)).2.1.cache.size >
               (s.call fsHas (.append es)).2.1.cache.capacity) :
    KeysGt (s.call fsHas (.append es)).2.1.cache.items
      (s.call fsHas (.append es)).2.1.cache.lastEvictable := by
  rcases c15_append_call_unchanged_or_only_pinned s fsHas es hinv with h | h
  · rw [h] at hins; exact absurd rfl hins
  · exact h.2 hover

/-- The same with "the first entry of the batch is accepted by the state" as
the condition (the open chunk has a record, as in every reachable store;
otherwise the call panics before touching anything). D12: the first entry's
index must not be u64::MAX (`hidx`) — such an entry is refused with
`InvalidInput` before the state sees it, and nothing is inserted. -/
theorem c15_append_call_first_accepted_only_pinned (s : Store) (fsHas : Nat → Bool) (id : LogId)
    (p : Bytes) (rest : List (LogId × Bytes)) (st' : RState) (hinv : CacheInv s)
    (hseg : lastSegment s.openOffsets ≠ none)
    (hacc : s.st.apply (.append id p) = .ok st')
    (hidx : id.index + 1 ≠ U64)
    (hover : (s.call fsHas (.append ((id, p) :: rest))).2.1.cache.items.length >
               (s.call fsHas (.append ((id, p) :: rest))).2.1.cache.maxItems ∨
             (s.call fsHas (.append ((id, p) :: rest))).2.1.cache.size >
               (s.call fsHas (.append ((id, p) :: rest))).2.1.cache.capacity) :
    KeysGt (s.call fsHas (.append ((id, p) :: rest))).2.1.cache.items
        (s.call fsHas (.append ((id, p) :: rest))).2.1.cache.lastEvictable ∧
    (s.call fsHas (.append ((id, p) :: rest))).2.1.st.last ≠ s.st.last := by
  obtain ⟨seg, hseg⟩ := Option.ne_none_iff_exists'.mp hseg
  have key : InsertedC15b s (s.call fsHas (.append ((id, p) :: rest))).2.1 := by
    rw [s.call_append fsHas _ hseg]
    exact appendBatch_first_acc_C15b fsHas id p rest s _ [] st' hinv hacc hidx
  exact ⟨key.pinned hover, key.last_ne⟩

/-- If the first entry is refused by the state (or the batch is empty) the
call returns the store untouched: nothing was inserted. -/
theorem c15_append_call_first_refused_unchanged (s : Store) (fsHas : Nat → Bool) (id : LogId)
    (p : Bytes) (rest : List (LogId × Bytes))
    (hrej : ∀ st', s.st.apply (.append id p) ≠ .ok st') :
    (s.call fsHas (.append ((id, p) :: rest))).2.1 = s ∧ (s.call fsHas (.append [])).2.1 = s := by
  constructor
  · simp only [Store.call]
    split
    · rfl
    · exact appendBatch_first_rej_C15b fsHas id p rest s _ [] hrej
  · simp only [Store.call]
    split <;> rfl

/-- **No caller-side call moves the boundary or the limits** (a chunk rotation
on the caller side only SENDS `appendFile` to the worker; the boundary is
published by the worker's `sync` and by `open`). Hence "the boundary in force
at that write" is the `lastEvictable` of the returned store. -/
theorem c15_call_boundary_unchanged (s : Store) (fsHas : Nat → Bool) (op : Op) (hinv : CacheInv s) :
    (s.call fsHas op).2.1.cache.lastEvictable = s.cache.lastEvictable ∧
    (s.call fsHas op).2.1.cache.maxItems = s.cache.maxItems ∧
    (s.call fsHas op).2.1.cache.capacity = s.cache.capacity :=
  call_boundary_limits_C15b fsHas op hinv

/-- **Only `append` inserts.** After any of the five other ops the resident
entries are a sublist of (in particular a subset of) those before, and the
boundary is unchanged. -/
theorem c15_nonappend_cache_subset (s : Store) (fsHas : Nat → Bool) (op : Op) (hinv : CacheInv s)
    (hop : ∀ es, op ≠ .append es) :
    (s.call fsHas op).2.1.cache.items.Sublist s.cache.items ∧
    (∀ e ∈ (s.call fsHas op).2.1.cache.items, e ∈ s.cache.items) ∧
    (s.call fsHas op).2.1.cache.lastEvictable = s.cache.lastEvictable := by
  have hop' : op.nonAppendC15b = true := by
    cases op with
    | append es => exact absurd rfl (hop es)
    | _ => rfl
  have h := call_nonappend_C15b fsHas op hinv.ok hop'
  exact ⟨h.sub, fun e he => h.sub.subset he, h.boundary⟩

/-- Vote, commit and user-data calls leave the whole cache as it is. -/
theorem c15_meta_cache_unchanged (s : Store) (fsHas : Nat → Bool) :
    (∀ v, (s.call fsHas (.saveVote v)).2.1.cache = s.cache) ∧
    (∀ id, (s.call fsHas (.commit id)).2.1.cache = s.cache) ∧
    (∀ d, (s.call fsHas (.saveUserData d)).2.1.cache = s.cache) :=
  ⟨fun v => call_meta_cache_C15b s fsHas _ (Or.inl ⟨v, rfl⟩),
   fun id => call_meta_cache_C15b s fsHas _ (Or.inr (Or.inl ⟨id, rfl⟩)),
   fun d => call_meta_cache_C15b s fsHas _ (Or.inr (Or.inr ⟨d, rfl⟩))⟩


/-- From the invariant: one `append` call step of the system. -/
theorem c15_sys_step_append_only_pinned (y : Sys) (hinv : SysCacheInv y) (es : List (LogId × Bytes))
    (s s' : Store) (hs : y.store = some s) (hs' : (y.step (.call (.append es))).store = some s')
    (hins : s'.st.last ≠ s.st.last)
    (hover : s'.cache.items.length > s'.cache.maxItems ∨ s'.cache.size > s'.cache.capacity) :
    KeysGt s'.cache.items s'.cache.lastEvictable ∧
    s'.cache.lastEvictable = s.cache.lastEvictable ∧
    s'.cache.maxItems = s.cache.maxItems ∧ s'.cache.capacity = s.cache.capacity := by
  rw [show (y.step (.call _)).store = _ from y.call_store _, hs] at hs'
  injection hs' with hs'
  subst hs'
  exact ⟨c15_append_call_only_pinned s _ es (hinv s hs) hins hover,
    c15_call_boundary_unchanged s _ _ (hinv s hs)⟩

/-- **The limits in force are the configured ones** in every state reachable
from a fresh store by live steps. -/
theorem c15_sys_limits_configured (cfg : Cfg) (steps : List Step) (hl : ∀ st ∈ steps, st.live = true)
    (s : Store) (hs : ((Sys.fresh cfg).run steps).store = some s) :
    s.cache.maxItems = cfg.cacheItems ∧ s.cache.capacity = cfg.cacheCap :=
  run_limits_C15b _ cfg steps hl (fresh_cacheInv cfg) (fresh_limits_C15b cfg) s hs

/-- **C15 for reachable states.** For every configuration, every history
`steps` of live steps (public calls accepted or rejected with any arguments,
flushes, drains, worker steps with arbitrary outcomes — every timing of the
boundary update) from a store opened on an empty directory, and every batch
`es`: let `s` be the store after `steps` and `s'` the store after the further
call `append es`. If the call inserted at least one entry and the item count
exceeds `cfg.cacheItems` or the byte size exceeds `cfg.cacheCap`, then every
resident id lies above the boundary, and this boundary is the one in force
before the call. -/
theorem c15_sys_append_only_pinned (cfg : Cfg) (steps : List Step)
    (hl : ∀ st ∈ steps, st.live = true) (es : List (LogId × Bytes)) (s s' : Store)
    (hs : ((Sys.fresh cfg).run steps).store = some s)
    (hs' : ((Sys.fresh cfg).run (steps ++ [.call (.append es)])).store = some s')
    (hins : s'.st.last ≠ s.st.last)
    (hover : s'.cache.items.length > cfg.cacheItems ∨ s'.cache.size > cfg.cacheCap) :
    KeysGt s'.cache.items s'.cache.lastEvictable ∧
    s'.cache.lastEvictable = s.cache.lastEvictable := by
  have hinv := run_cacheInv _ steps hl (fresh_cacheInv cfg)
  have hlim := c15_sys_limits_configured cfg steps hl s hs
  rw [Sys.run_snoc] at hs'
  have hb := c15_call_boundary_unchanged s ((Sys.fresh cfg).run steps).fs.has (.append es) (hinv s hs)
  have hs'' := hs'
  rw [show (Sys.step _ (.call _)).store = _ from Sys.call_store _ _, hs] at hs''
  injection hs'' with hs''
  have hover' : s'.cache.items.length > s'.cache.maxItems ∨ s'.cache.size > s'.cache.capacity := by
    rw [← hs'', hb.2.1, hb.2.2, hlim.1, hlim.2, hs'']; exact hover
  obtain ⟨h1, h2, _⟩ := c15_sys_step_append_only_pinned _ hinv es s s' hs hs' hins hover'
  exact ⟨h1, h2⟩

/-- The store after an `append` call step of the system is the store returned
by `Store.call` on the store before (with the file system's `has` as the
`create_new` oracle); in particular a store after implies a store before. -/
theorem c15_sys_step_append_store (y : Sys) (es : List (LogId × Bytes)) (s' : Store)
    (hs' : (y.step (.call (.append es))).store = some s') :
    ∃ s, y.store = some s ∧ s' = (s.call y.fs.has (.append es)).2.1 := by
  rw [show (y.step (.call _)).store = _ from y.call_store _] at hs'
  obtain ⟨s, hs, e⟩ := Option.map_eq_some_iff.mp hs'
  exact ⟨s, hs, e.symm⟩

/-- **C15 for reachable states, histories with restarts** (the notion of
Props/C15Restart.lean: any number of clean cycles of legal, accepted,
well-formed, small calls, flushes, worker steps, `workerIdle`, `drain`, each
followed by drop + reopen with its own configuration; then a final history
`last` of ARBITRARY live steps). The limits are those of the cache of the store
(they are fixed by the last `open`; no live step changes them:
`c15_call_boundary_unchanged`, `SameItems`). -/
theorem c15_sys_append_only_pinned_with_restarts (cfg : Cfg) (segs : List (List Step × Cfg))
    (last : List Step) (r : RefLog)
    (hsegs : ∀ seg ∈ segs, ∀ st ∈ seg.1, st.journal = true)
    (hlegal : RefLog.run {} (cycleOps segs) = some r)
    (hwf : ∀ op ∈ cycleOps segs, op.WF ∧ op.small)
    (hclean : CleanCycles (Sys.fresh cfg) segs)
    (hlast : ∀ st ∈ last, st.live = true)
    (es : List (LogId × Bytes)) (s s' : Store)
    (hs : (((Sys.fresh cfg).runCycles segs).run last).store = some s)
    (hs' : (((Sys.fresh cfg).runCycles segs).run (last ++ [.call (.append es)])).store = some s')
    (hins : s'.st.last ≠ s.st.last)
    (hover : s'.cache.items.length > s'.cache.maxItems ∨ s'.cache.size > s'.cache.capacity) :
    KeysGt s'.cache.items s'.cache.lastEvictable ∧
    s'.cache.lastEvictable = s.cache.lastEvictable ∧
    s'.cache.maxItems = s.cache.maxItems ∧ s'.cache.capacity = s.cache.capacity := by
  obtain ⟨h1, _⟩ := cycles_cacheInv segs (Sys.fresh cfg) {} r (fresh_CSys cfg) (fresh_cacheInv cfg)
    hsegs hlegal hwf hclean
  have hinv := run_cacheInv _ last hlast h1
  rw [Sys.run_snoc] at hs'
  exact c15_sys_step_append_only_pinned _ hinv es s s' hs hs' hins hover

/-- One cache slot, three records per chunk. -/
def c15bCfg : Cfg := { maxRecords := 3, cacheItems := 1 }

/-- Four entries (the chunk rotates after the second and after the fourth: the
head record counts), a flush, and the worker run to idle: it syncs the closed
chunks and publishes the boundary `(1,3)`. -/
def c15bPre : List Step :=
  [ .call (.append [(⟨1,0⟩,[1]), (⟨1,1⟩,[2]), (⟨1,2⟩,[3]), (⟨1,3⟩,[4])]), .flush none, .workerIdle ]

/-- A batch whose third entry is not consecutive. -/
def c15bBatch : List (LogId × Bytes) := [(⟨1,4⟩,[5]), (⟨1,5⟩,[6]), (⟨1,7⟩,[7])]

/-- What the model computes. Before the batch: four resident entries (all
inserted while no boundary was published, so none could be evicted), boundary
`(1,3)`. The call returns `Err(nonConsecutive)`; its first two entries were
inserted (and the chunk rotated once more in between); the four old entries —
at or below the boundary — were evicted; the two new ones are resident:
2 items > `maxItems = 1`, both above the boundary `(1,3)`, which is the one in
force before the call. -/
example :
    (∀ st ∈ c15bPre, st.live = true) ∧
    (((Sys.fresh c15bCfg).run c15bPre).call (.append c15bBatch)).1 = .err .nonConsecutive ∧
    ((Sys.fresh c15bCfg).run c15bPre).store.map
        (fun s => (s.cache.items.map (·.1), s.cache.lastEvictable, s.st.last, s.closed.length)) =
      some ([⟨1,0⟩, ⟨1,1⟩, ⟨1,2⟩, ⟨1,3⟩], some ⟨1,3⟩, some ⟨1,3⟩, 2) ∧
    ((Sys.fresh c15bCfg).run (c15bPre ++ [.call (.append c15bBatch)])).store.map
        (fun s => (s.cache.items, s.cache.size, s.cache.maxItems, s.cache.lastEvictable, s.st.last)) =
      some ([(⟨1,4⟩, [5]), (⟨1,5⟩, [6])], 2, 1, some ⟨1,3⟩, some ⟨1,5⟩) ∧
    ((Sys.fresh c15bCfg).run (c15bPre ++ [.call (.append c15bBatch)])).store.map
        (fun s => s.closed.length) = some 3 := by
  refine ⟨by decide, ?_, ?_, ?_⟩ <;> decide +kernel

/-- The hypotheses of `c15_sys_append_only_pinned` are satisfiable with the
limit EXCEEDED, and its conclusion is the meaningful one: on this history the
partially refused batch inserted (`last` moved), the item count is over the
configured limit, and the theorem yields that only pinned entries are resident. -/
example : ∃ s s', ((Sys.fresh c15bCfg).run c15bPre).store = some s ∧
    ((Sys.fresh c15bCfg).run (c15bPre ++ [.call (.append c15bBatch)])).store = some s' ∧
    s'.st.last ≠ s.st.last ∧ s'.cache.items.length > c15bCfg.cacheItems ∧
    s'.cache.items ≠ [] ∧ s'.cache.lastEvictable ≠ none ∧
    KeysGt s'.cache.items s'.cache.lastEvictable := by
  have run : ∃ s, ((Sys.fresh c15bCfg).run c15bPre).store = some s ∧
      ∃ s', ((Sys.fresh c15bCfg).run (c15bPre ++ [.call (.append c15bBatch)])).store = some s' ∧
        s'.st.last ≠ s.st.last ∧ s'.cache.items.length > c15bCfg.cacheItems ∧
        s'.cache.items ≠ [] ∧ s'.cache.lastEvictable ≠ none := by
    decide +kernel
  obtain ⟨s, hs, s', hs', h1, h2, h3, h4⟩ := run
  exact ⟨s, s', hs, hs', h1, h2, h3, h4,
    (c15_sys_append_only_pinned c15bCfg c15bPre (by decide) c15bBatch s s' hs hs' h1 (Or.inl h2)).1⟩

/-- Eviction that brings the cache back WITHIN the limit: after the batch
above, a flush and an idle worker the boundary is `(1,5)`; the next batch
`[(1,6),(1,8)]` is refused at its second entry, its first entry was inserted,
both older entries were evicted, one item is resident (not over the limit). -/
example :
    let pre2 := c15bPre ++ [.call (.append c15bBatch), .flush none, .workerIdle]
    (∀ st ∈ pre2, st.live = true) ∧
    (((Sys.fresh c15bCfg).run pre2).call (.append [(⟨1,6⟩,[8]), (⟨1,8⟩,[9])])).1 =
      .err .nonConsecutive ∧
    ((Sys.fresh c15bCfg).run pre2).store.map
        (fun s => (s.cache.items.map (·.1), s.cache.lastEvictable, s.st.last)) =
      some ([⟨1,4⟩, ⟨1,5⟩], some ⟨1,5⟩, some ⟨1,5⟩) ∧
    ((Sys.fresh c15bCfg).run (pre2 ++ [.call (.append [(⟨1,6⟩,[8]), (⟨1,8⟩,[9])])])).store.map
        (fun s => (s.cache.items, s.cache.size, s.cache.maxItems, s.cache.lastEvictable, s.st.last)) =
      some ([(⟨1,6⟩, [8])], 1, 1, some ⟨1,5⟩, some ⟨1,6⟩) := by
  decide +kernel

/-- A call that reports an error although its (only accepted) entry IS
resident: the chunk is full after the first entry and `create_new` of the next
chunk file fails (`fsHas = fun _ => true`). `last` moved, so the call counts
as "inserted" and `c15_append_call_only_pinned` applies: over the limit
(`cacheItems = 0`), no boundary published, the entry is pinned. -/
example :
    (Sys.fresh { maxRecords := 2, cacheItems := 0 }).store.map (fun s =>
      let r := s.call (fun _ => true) (.append [(⟨1,0⟩,[1]), (⟨1,1⟩,[2])])
      (r.2.1.cache.items, r.2.1.cache.maxItems, r.2.1.cache.lastEvictable, r.2.1.st.last)) =
    some ([(⟨1,0⟩, [1])], 0, none, some ⟨1,0⟩) ∧
    (Sys.fresh { maxRecords := 2, cacheItems := 0 }).store.map (fun s =>
      ((s.call (fun _ => true) (.append [(⟨1,0⟩,[1]), (⟨1,1⟩,[2])])).1, s.st.last)) =
    some (.err .exists, none) := by
  decide +kernel

/-- A batch refused at its FIRST entry returns the store untouched (the other
disjunct of `c15_append_call_unchanged_or_only_pinned`). -/
example : ∃ s, ((Sys.fresh c15bCfg).run c15bPre).store = some s ∧
    (s.call ((Sys.fresh c15bCfg).run c15bPre).fs.has (.append [(⟨1,9⟩,[0])])).1 = .err .nonConsecutive ∧
    (s.call ((Sys.fresh c15bCfg).run c15bPre).fs.has (.append [(⟨1,9⟩,[0])])).2.1 = s := by
  decide +kernel

end RaftLog
