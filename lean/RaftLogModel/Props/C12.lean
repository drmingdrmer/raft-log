/-
C12 — Record codec round-trips and decoding is total.
-/
import RaftLogModel.Proofs.Codec
namespace RaftLog

/-- Encoding any record the Rust types can hold and decoding the bytes (with
anything after them) gives back the record and leaves exactly what followed:
the decoder consumes exactly `|encRecord r|` bytes and never looks past them. -/
theorem c12_roundtrip (r : Record) (rest : Bytes) (h : r.WF) :
    decRecord (encRecord r ++ rest) = .ok r rest :=
  record_rt r rest h

/-- The decoder consumed exactly the encoder's byte count. -/
theorem c12_consumed (r : Record) (rest : Bytes) (h : r.WF) :
    ∃ rest', decRecord (encRecord r ++ rest) = .ok r rest' ∧
      rest'.length + (encRecord r).length = (encRecord r ++ rest).length := by
  refine ⟨rest, record_rt r rest h, ?_⟩
  simp; omega

/-- Whenever decoding yields a record, the input is that record's encoding followed by
the unread rest, so re-encoding gives the consumed bytes back and nothing past the
record is read. (Totality: `c12_total`.) -/
theorem c12_canonical (bs : Bytes) (r : Record) (rest : Bytes)
    (h : decRecord bs = .ok r rest) : bs = encRecord r ++ rest ∧ r.WF :=
  record_canon h

/-- Every strict prefix of an encoding is reported as `UnexpectedEof`. -/
theorem c12_prefix_eof (r : Record) (bs t : Bytes) (h : r.WF) (ht : t ≠ [])
    (e : bs ++ t = encRecord r) : decRecord bs = .eof :=
  record_pfx r bs t h ht e

/-- The three outcomes are exhaustive: a decode is a record, an `eof`, or an
`invalid` — there is no fourth (panicking) outcome in the model; the harness
checks the implementation under `catch_unwind` against this trichotomy. -/
theorem c12_total (bs : Bytes) :
    (∃ r rest, decRecord bs = .ok r rest) ∨ decRecord bs = .eof ∨ decRecord bs = .invalid := by
  cases h : decRecord bs with
  | ok r rest => exact Or.inl ⟨r, rest, rfl⟩
  | eof => exact Or.inr (Or.inl rfl)
  | invalid => exact Or.inr (Or.inr rfl)

/-- Non-vacuity: a concrete well-formed record of each interesting shape. -/
example : (Record.append ⟨3, 7⟩ [1, 2, 3]).WF := by
  simp [Record.WF, LogId.WF, bytesWF, U64, U32]
example : (Record.state ⟨some ⟨1, 2⟩, none, some ⟨2, 3⟩, none, some [9]⟩).WF := by
  simp [Record.WF, RState.WF, optWF, LogId.WF, bytesWF, U64, U32]

end RaftLog
