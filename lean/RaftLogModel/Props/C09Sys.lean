/-
C09 at the SYSTEM level.

`Props/C09.lean` states what `parseChunk` / `Chunk::open` / the `open` loop do with a damaged
record and with a gap, under hypotheses about the directory (`Loads`, "the file is
`encAll rs`"). Here those hypotheses are discharged for the directories that the system
itself produces: histories from `Sys.fresh cfg` ending clean (exactly the hypotheses of
`c02_clean_restart`), and every system reachable through histories, clean restarts and crash
recoveries (`ReachLIFT`) that is clean.

(A) `c09_sys_missing_middle_chunk` (+ `_inv`, `_reach`): a linked chunk file that is neither
    the oldest nor the newest is removed (`Fs.rmC9S`, the Driver's `fsop rm`): `open` with any
    configuration returns the error `gap`; the chunk files before the gap are synced (D15: `open` syncs the chunks it keeps),
    nothing is written, truncated, unlinked or created.

(B) `c09_sys_value_byte_altered` (+ `_inv`, `_reach`): in any linked chunk file (oldest,
    middle or newest), one VALUE byte (`ValuePos`: a byte of a `u64` field, of a payload or
    user-data body, or of the stored checksum) of any complete record is overwritten with a
    different value (`Fs.setByteC9S`, the Driver's `fsop set`): `open` with any configuration
    (`truncate` on or off) returns the error `invalid`; the chunk files before the damaged one
    are synced (D15), nothing is written, truncated, unlinked or created. LAYOUT bytes (record
    tag, state version, `Option` tags, length prefixes) are excluded on purpose: findings D5/D6.
    Chunk and decoder level: `c09_chunk_value_byte_invalid`, `c09_value_byte_decode_invalid`.

Helpers: `Proofs/C09Sys.lean`, `Proofs/C09SysCodec.lean`.
-/
import RaftLogModel.Proofs.C09Sys
import RaftLogModel.Props.LiftRestart
namespace RaftLog

/-- What "the file `m` is removed" means here: the entry is deleted from the directory,
`fs.filter (fun f => f.id != m)` — the expression the Driver's `fsop rm m` evaluates (the model's
`Fs.unlink` only clears the `linked` flag of an entry that an open handle keeps alive; for
`open`, which looks only at linked ids, both give the same id list, but `rm` also makes
`find` fail). -/
theorem c09_sys_rm_spec (fs : Fs) (m : Nat) : fs.rmC9S m = fs.filter (fun f => f.id != m) := rfl

/-- (A), invariant form: `y` satisfies the C02 invariant `CSys y r` (replay invariant and
linked-files invariant) and is clean. -/
theorem c09_sys_missing_middle_chunk_inv {y : Sys} {r : RefLog} (h : CSys y r) (hc : y.Clean)
    (cfg' : Cfg) (pre post : List Nat) (m : Nat) (hsplit : y.fs.linkedIds = pre ++ m :: post)
    (hpre : pre ≠ []) (hpost : post ≠ []) :
    openStore cfg' (y.fs.rmC9S m) = (.err .gap, (y.fs.rmC9S m).syncAll pre, syncEvs pre) :=
  sys_rm_middleC9S h hc cfg' hsplit hpre hpost

/-- **C09 (A), a missing middle chunk, system level.** `y` is reached from a freshly opened
store by a history as in `c02_clean_restart` (journal steps; calls legal for the reference
log, well-formed and small; at the end the worker is alive and quiet, nothing pending,
no removal outstanding). Dropping the store does not change the files (`(y.step .drop).fs =
y.fs`). Let `m` be a linked chunk id that is neither the first nor the last one
(`y.fs.linkedIds = pre ++ m :: post`, `pre, post ≠ []`) and remove that file (`fsop rm`:
`Fs.rmC9S`, see `c09_sys_rm_spec`). Then `open` with ANY configuration `cfg'`
* returns the error `gap` (not `ok`, not a panic, no other error),
* leaves every file's bytes, length, link and existence as they were: the resulting file
  system is the damaged one with the chunks `pre` before the gap synced (D15), and
* emits exactly one `sync "o" id true` per chunk of `pre`: no write, truncate, unlink or
  create event. -/
theorem c09_sys_missing_middle_chunk (cfg cfg' : Cfg) (steps : List Step) (r : RefLog) (s : Store)
    (hsteps : ∀ st ∈ steps, st.journal = true)
    (hlegal : RefLog.run {} (stepOps steps) = some r)
    (hwf : ∀ op ∈ stepOps steps, op.WF ∧ op.small)
    (halive : ((Sys.fresh cfg).run steps).worker.pc ≠ .dead)
    (hs : ((Sys.fresh cfg).run steps).store = some s)
    (hq : ((Sys.fresh cfg).run steps).worker.quiet = true)
    (hp : s.pending = []) (hrem : s.removed = [])
    (hpost : ((Sys.fresh cfg).run steps).worker.postponed = [])
    (pre post : List Nat) (m : Nat) :
    let y := (Sys.fresh cfg).run steps
    let fs := (y.step .drop).fs
    fs.linkedIds = pre ++ m :: post → pre ≠ [] → post ≠ [] →
    fs = y.fs ∧
    openStore cfg' (fs.rmC9S m) = (.err .gap, (fs.rmC9S m).syncAll pre, syncEvs pre) ∧
    (∀ e ∈ syncEvs pre, ∃ id, e = Ev.sync "o" id true) ∧
    (∀ i, (((fs.rmC9S m).syncAll pre).find i).map (fun f => (f.data, f.linked))
        = ((fs.rmC9S m).find i).map (fun f => (f.data, f.linked))) := by
  intro y fs hsplit hpre hpost'
  have hC : CSys y r := run_CSys steps _ {} r (fresh_CSys cfg) hsteps hlegal hwf halive
  have hc : y.Clean := ⟨s, hs, hq, hp, hrem, hpost⟩
  have hfs' : fs = y.fs := hc.drop_fs hC
  rw [hfs'] at hsplit ⊢
  exact ⟨rfl, sys_rm_middleC9S hC hc cfg' hsplit hpre hpost', syncEvs_isOpenSync pre,
    Fs.find_syncAll_map _ (fun _ => rfl) _ pre⟩

/-- (A) for every reachable system (`ReachLIFT`: histories, clean restarts and crash
recoveries in any order) that is clean. -/
theorem c09_sys_missing_middle_chunk_reach {y : Sys} (h : ReachLIFT y) (hc : y.Clean)
    (cfg' : Cfg) (pre post : List Nat) (m : Nat) (hsplit : y.fs.linkedIds = pre ++ m :: post)
    (hpre : pre ≠ []) (hpost : post ≠ []) :
    openStore cfg' (y.fs.rmC9S m) = (.err .gap, (y.fs.rmC9S m).syncAll pre, syncEvs pre) :=
  let ⟨_, hC⟩ := h.csys
  sys_rm_middleC9S hC hc cfg' hsplit hpre hpost


/-- What `ValuePos` is: position `i` of the frame `encRecord r` is marked in the value/layout
mask `valueMaskC9S r` = 4 tag bytes (layout) ‖ body mask (`maskBodyC9S`: log ids/votes are 16
value bytes; `Vec<u8>` is 4 layout bytes then value bytes; `Option` is a layout byte then the
inner mask; the state starts with a layout version byte) ‖ 8 checksum bytes (value). -/
theorem c09_valuePos_spec (r : Record) (i : Nat) :
    ValuePos r i ↔ (List.replicate 4 false ++ maskBodyC9S r ++ List.replicate 8 true).getD i false = true :=
  Iff.rfl

/-- For an `append` record every byte of the log id (positions 4..19), every payload byte
(from 24) and every checksum byte is a value position; only the tag (0..3) and the payload
length prefix (20..23) are layout. -/
theorem c09_valuePos_append (id : LogId) (p : Bytes) (i : Nat) :
    ValuePos (.append id p) i ↔ (4 ≤ i ∧ i < 20) ∨ (24 ≤ i ∧ i < 24 + p.length + 8) := by
  simp only [ValuePos, valueMaskC9S, maskTBC9S, maskBodyC9S, maskLogIdC9S, maskBytesC9S,
    List.append_assoc, getD_replicate_appendC9S, getD_replicateC9S, Bool.false_eq_true, false_and,
    false_or, true_and]
  omega

/-- Decoder level: a value byte of a complete well-formed record is replaced by a different
value; whatever follows, the decoder reads the same extent and reports `invalid` (not `eof`,
not a record), and the damaged frame is not all zeros. -/
theorem c09_value_byte_decode_invalid (r : Record) (hr : r.WF) (i : Nat) (v : UInt8)
    (hpos : ValuePos r i) (hv : (encRecord r).getD i 0 ≠ v) (rest : Bytes) :
    decRecord ((encRecord r).set i v ++ rest) = .invalid ∧
    allZero ((encRecord r).set i v ++ rest) = false :=
  ⟨decRecord_value_byteC9S r hr i v hpos hv rest,
    allZero_value_byteC9S r i v hpos hv rest⟩

/-- Chunk level: the file holds the well-formed records `rs0`, the complete record `r`, then
any bytes; byte `|encAll rs0| + i` (value position `i` of `r`'s frame) is overwritten with a
different value. The iteration stops at `r` with `invalid`, and `Chunk::open` returns the
error `invalid` for both settings of `truncate`. -/
theorem c09_chunk_value_byte_invalid (cfg : Cfg) (id : Nat) {rs0 : List Record} (h0 : AllWF rs0)
    (r : Record) (hr : r.WF) (rest : Bytes) (i : Nat) (v : UInt8) (hpos : ValuePos r i)
    (hv : (encRecord r).getD i 0 ≠ v) :
    parseChunk ((encAll rs0 ++ (encRecord r ++ rest)).set ((encAll rs0).length + i) v)
      = (rs0.map (fun r => (r, (encRecord r).length)), .invalid, (encRecord r).set i v ++ rest) ∧
    openChunk cfg id ((encAll rs0 ++ (encRecord r ++ rest)).set ((encAll rs0).length + i) v)
      = .error .invalid :=
  openChunk_value_byteC9S cfg id h0 r hr rest i v hpos hv

/-- What "byte `pos` of file `c` is overwritten with `v`" means; the Driver's `fsop set`
applies the same update (its own copy). -/
theorem c09_sys_setByte_spec (fs : Fs) (c pos : Nat) (v : UInt8) :
    fs.setByteC9S c pos v = fs.update c fun f =>
      if pos < f.data.length then { f with data := f.data.set pos v } else f := rfl

/-- (B), invariant form: `y` satisfies `CSys y rl` and is clean; `c` is any linked chunk id
(`pre` / `post` may be empty: oldest / newest chunk). The file of `c` is exactly the encoding
of a non-empty list `rs` of well-formed records (the list the parser reads from it), and for
EVERY record `r` of it (`rs = rs0 ++ r :: rs1`), every value position `i` of its frame and
every other byte value `v`: `open` with any `cfg'` on the directory with that one byte
overwritten returns `invalid`, having only synced the chunks `pre` before `c`. -/
theorem c09_sys_value_byte_altered_inv {y : Sys} {rl : RefLog} (h : CSys y rl) (hc : y.Clean)
    (cfg' : Cfg) (pre post : List Nat) (c : Nat) (hsplit : y.fs.linkedIds = pre ++ c :: post) :
    ∃ f rs, y.fs.find c = some f ∧ f.linked = true ∧ f.data = encAll rs ∧ AllWF rs ∧ rs ≠ [] ∧
      (parseChunk f.data).1.map (·.1) = rs ∧
      ∀ rs0 r rs1 i v, rs = rs0 ++ r :: rs1 → ValuePos r i → (encRecord r).getD i 0 ≠ v →
        let fs' := y.fs.setByteC9S c ((encAll rs0).length + i) v
        fs'.find c = some { f with data := f.data.set ((encAll rs0).length + i) v } ∧
        openStore cfg' fs' = (.err .invalid, fs'.syncAll pre, syncEvs pre) := by
  obtain ⟨f, rs, k1, k2, k3, k4, k5, k6⟩ :=
    sys_chunk_recordsC9S h hc (c := c) (by rw [hsplit]; simp)
  refine ⟨f, rs, k1, k2, k3, k4, k5, k6, ?_⟩
  intro rs0 r rs1 i v hrs hpos hv
  subst hrs
  have h0 : AllWF rs0 := fun x hx => k4 x (by simp [hx])
  have hr : r.WF := k4 r (by simp)
  have hdata : f.data = encAll rs0 ++ (encRecord r ++ encAll rs1) := by
    rw [k3, encAll_append, encAll_cons]
  refine ⟨?_, sys_value_byteC9S h hc cfg' hsplit k1 h0 r hr _ hdata i v hpos hv⟩
  apply Fs.find_setByte_selfC9S _ k1
  have := hpos.ltC9S
  rw [hdata]; simp only [List.length_append]; omega

/-- **C09 (B), a value byte altered, system level.** `y` is reached from a freshly opened
store by a history as in `c02_clean_restart`; the store is dropped (files unchanged). Let `c`
be ANY linked chunk id (`fs.linkedIds = pre ++ c :: post`). Its file `f` is exactly `encAll rs`
for the non-empty list `rs` of well-formed records that the parser reads from it. Take any
record `r` of it (`rs = rs0 ++ r :: rs1`), any VALUE position `i` of its frame (`ValuePos r i`:
`u64` field bytes, payload / user-data bytes, checksum bytes; for `append` see
`c09_valuePos_append`) and any byte `v` different from the one stored there, and overwrite
byte `|encAll rs0| + i` of the file (`fsop set`). Then `open` with ANY configuration `cfg'`
(`truncate` on or off)
* returns the error `invalid` (the checksum-mismatch kind; not `ok`, not `eof`, no panic),
* leaves every file's bytes, length, link and existence as they were — in particular nothing
  is truncated, also when `c` is the newest chunk and `truncate` is on: the resulting file
  system is the damaged one with the chunks `pre` before `c` synced (D15),
* emits exactly one `sync "o" id true` per chunk of `pre`. -/
theorem c09_sys_value_byte_altered (cfg cfg' : Cfg) (steps : List Step) (rl : RefLog) (s : Store)
    (hsteps : ∀ st ∈ steps, st.journal = true)
    (hlegal : RefLog.run {} (stepOps steps) = some rl)
    (hwf : ∀ op ∈ stepOps steps, op.WF ∧ op.small)
    (halive : ((Sys.fresh cfg).run steps).worker.pc ≠ .dead)
    (hs : ((Sys.fresh cfg).run steps).store = some s)
    (hq : ((Sys.fresh cfg).run steps).worker.quiet = true)
    (hp : s.pending = []) (hrem : s.removed = [])
    (hpost : ((Sys.fresh cfg).run steps).worker.postponed = [])
    (pre post : List Nat) (c : Nat) :
    let y := (Sys.fresh cfg).run steps
    let fs := (y.step .drop).fs
    fs.linkedIds = pre ++ c :: post →
    fs = y.fs ∧
    ∃ f rs, fs.find c = some f ∧ f.linked = true ∧ f.data = encAll rs ∧ AllWF rs ∧ rs ≠ [] ∧
      (parseChunk f.data).1.map (·.1) = rs ∧
      ∀ rs0 r rs1 i v, rs = rs0 ++ r :: rs1 → ValuePos r i → (encRecord r).getD i 0 ≠ v →
        let fs' := fs.setByteC9S c ((encAll rs0).length + i) v
        fs'.find c = some { f with data := f.data.set ((encAll rs0).length + i) v } ∧
        openStore cfg' fs' = (.err .invalid, fs'.syncAll pre, syncEvs pre) ∧
        (∀ e ∈ syncEvs pre, ∃ id, e = Ev.sync "o" id true) ∧
        (∀ j, ((fs'.syncAll pre).find j).map (fun g => (g.data, g.linked))
            = (fs'.find j).map (fun g => (g.data, g.linked))) := by
  intro y fs hsplit
  have hC : CSys y rl := run_CSys steps _ {} rl (fresh_CSys cfg) hsteps hlegal hwf halive
  have hc : y.Clean := ⟨s, hs, hq, hp, hrem, hpost⟩
  have hfs' : fs = y.fs := hc.drop_fs hC
  rw [hfs'] at hsplit ⊢
  obtain ⟨f, rs, k1, k2, k3, k4, k5, k6, k7⟩ :=
    c09_sys_value_byte_altered_inv hC hc cfg' pre post c hsplit
  refine ⟨rfl, f, rs, k1, k2, k3, k4, k5, k6, ?_⟩
  intro rs0 r rs1 i v hrs hpos hv
  obtain ⟨m1, m2⟩ := k7 rs0 r rs1 i v hrs hpos hv
  exact ⟨m1, m2, syncEvs_isOpenSync pre, Fs.find_syncAll_map _ (fun _ => rfl) _ pre⟩

/-- (B) for every reachable system (`ReachLIFT`) that is clean. -/
theorem c09_sys_value_byte_altered_reach {y : Sys} (h : ReachLIFT y) (hc : y.Clean)
    (cfg' : Cfg) (pre post : List Nat) (c : Nat) (hsplit : y.fs.linkedIds = pre ++ c :: post) :
    ∃ f rs, y.fs.find c = some f ∧ f.linked = true ∧ f.data = encAll rs ∧ AllWF rs ∧ rs ≠ [] ∧
      (parseChunk f.data).1.map (·.1) = rs ∧
      ∀ rs0 r rs1 i v, rs = rs0 ++ r :: rs1 → ValuePos r i → (encRecord r).getD i 0 ≠ v →
        let fs' := y.fs.setByteC9S c ((encAll rs0).length + i) v
        fs'.find c = some { f with data := f.data.set ((encAll rs0).length + i) v } ∧
        openStore cfg' fs' = (.err .invalid, fs'.syncAll pre, syncEvs pre) :=
  let ⟨_, hC⟩ := h.csys
  c09_sys_value_byte_altered_inv hC hc cfg' pre post c hsplit

/-- The history `c02Example` (it satisfies the hypotheses of `c02_clean_restart`, see
`Props/C02.lean`) ends with seven linked chunk files. -/
example : ((Sys.fresh { maxRecords := 2 }).run c02Example).fs.linkedIds
    = [115, 198] ++ 282 :: [361, 444, 522, 659] := by decide +kernel

/-- ... and with chunk file `282` removed, `open` (here with other limits and
`truncate = false`) reports the gap after syncing `115` and `198`; computed by the model,
as the theorem says. -/
example :
    openStore { maxRecords := 3, truncate := false }
      (((Sys.fresh { maxRecords := 2 }).run c02Example).fs.rmC9S 282)
    = (.err .gap, (((Sys.fresh { maxRecords := 2 }).run c02Example).fs.rmC9S 282).syncAll [115, 198],
        [.sync "o" 115 true, .sync "o" 198 true]) := by
  decide +kernel

/-- Chunk `282` of that directory holds a `State` record (50 bytes) and
`TruncateAfter (1,1)` (29 bytes). -/
example : (((Sys.fresh { maxRecords := 2 }).run c02Example).fs.find 282).map
      (fun f => (parseChunk f.data).1.map (·.1))
    = some ([.state { vote := some ⟨1, 7⟩, last := some ⟨1, 2⟩ }] ++
        Record.truncateAfter (some ⟨1, 1⟩) :: []) := by decide +kernel

/-- Position 12 of `TruncateAfter (some (1,1))` (last byte of the term) is a value position,
position 4 (the `Option` tag) and position 0 (record tag) are not. -/
example : ValuePos (.truncateAfter (some ⟨1, 1⟩)) 12 ∧ ¬ ValuePos (.truncateAfter (some ⟨1, 1⟩)) 4 ∧
    ¬ ValuePos (.truncateAfter (some ⟨1, 1⟩)) 0 ∧
    (encRecord (.truncateAfter (some ⟨1, 1⟩))).getD 12 0 ≠ 9 := by decide +kernel

/-- The term of that record changed 1 ↦ 9 (byte 50 + 12 of middle chunk `282`): `open`
(with `truncate = false`, and with the default `truncate = true`) reports `invalid` after
syncing `115` and `198`; computed by the model, as the theorem says. -/
example :
    openStore { truncate := false }
      (((Sys.fresh { maxRecords := 2 }).run c02Example).fs.setByteC9S 282 (50 + 12) 9)
    = (.err .invalid,
        (((Sys.fresh { maxRecords := 2 }).run c02Example).fs.setByteC9S 282 (50 + 12) 9).syncAll [115, 198],
        [.sync "o" 115 true, .sync "o" 198 true]) ∧
    (openStore {}
      (((Sys.fresh { maxRecords := 2 }).run c02Example).fs.setByteC9S 282 (50 + 12) 9)).1
      = .err .invalid := by
  decide +kernel

/-- The user-data byte `42` of the `State` record that heads the NEWEST chunk `659` changed to
`43` (frame position 62): `invalid` also with `truncate = true`; nothing is cut. -/
example :
    (openStore {}
      (((Sys.fresh { maxRecords := 2 }).run c02Example).fs.setByteC9S 659 62 43)).1 = .err .invalid ∧
    (openStore {}
      (((Sys.fresh { maxRecords := 2 }).run c02Example).fs.setByteC9S 659 62 43)).2.1
      = (((Sys.fresh { maxRecords := 2 }).run c02Example).fs.setByteC9S 659 62 43).syncAll
          [115, 198, 282, 361, 444, 522] := by
  decide +kernel

/-- Why layout bytes are excluded (finding D5): position 61 of the same frame is the last
byte of the user-data length prefix — not a value position; overwriting it (1 ↦ 43) makes the
decoder run into the end of the file, and with `truncate = true` the open does NOT fail. -/
example :
    ¬ ValuePos (.state { vote := some ⟨1, 7⟩, last := some ⟨2, 2⟩, purged := some ⟨1, 0⟩,
                         userData := some [42] }) 61 ∧
    ValuePos (.state { vote := some ⟨1, 7⟩, last := some ⟨2, 2⟩, purged := some ⟨1, 0⟩,
                       userData := some [42] }) 62 ∧
    (openStore {}
      (((Sys.fresh { maxRecords := 2 }).run c02Example).fs.setByteC9S 659 61 43)).1.isOk = true := by
  decide +kernel

/-- An instance of the decoder-level statement. -/
example : decRecord ((encRecord (.append ⟨3, 4⟩ [7, 8])).set 25 0 ++ [1, 2, 3]) = .invalid :=
  (c09_value_byte_decode_invalid (.append ⟨3, 4⟩ [7, 8])
    (by simp [Record.WF, LogId.WF, bytesWF, U64, U32]) 25 0
    ((c09_valuePos_append _ _ _).mpr (Or.inr (by simp))) (by decide +kernel) [1, 2, 3]).1

end RaftLog
