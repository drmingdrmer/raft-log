/-
LIFT — the history theorems of C15, C08, C04 and C11 for systems reached through CLEAN
RESTARTS and CRASH RECOVERY, in any order.

Most property theorems are stated for histories from `Sys.fresh cfg`. Here they are stated
from the crash invariant `CrashInvC5b y r W A E K` (Proofs/RecovCrashInv.lean, `c05_crashInv_spec`: history and
durability invariant `HSys`, ghost invariant `GSysC3b`, small journals, payload mirroring),
which holds for a freshly opened store (`c05_crashInv_fresh`), is kept by every legal history
(`c05_crashInv_history`), holds again for the system `open` builds on a crash image without
torn predecessor (`c05_crashInv_recovered`) and — the threading lemma
`lift_crashInv_clean_restart` — holds again, for the SAME reference log, write history,
acknowledged and tracked position, after a CLEAN RESTART (drop + open with any configuration)
of a clean system. So every theorem stated from `CrashInvC5b` holds for arbitrary mixtures of
histories, clean restarts and crash recoveries: `ReachLIFT`, `lift_reach_invariant`. The bundle
`LiftInv` (crash invariant ∧ `SysPostD14` ∧ `SysCacheInv`) and its closure properties are in
Proofs/LiftRestartInv.lean.

D15 (`open` syncs the chunk files it keeps): after drop + open every linked file is durable to
its end, so the restarted system is `SysCovered`; `lift_restart_syncs_old_chunks` runs the
history in which that matters (the `fdatasync` of an OLDER chunk file fails, the worker goes
back to `recv` with that file still in its list: the system is clean).
-/
import RaftLogModel.Proofs.LiftRestartInv
import RaftLogModel.Proofs.OpDecide
import RaftLogModel.Props.C05Crash
import RaftLogModel.Props.C08Sys
import RaftLogModel.Props.C04Sys
import RaftLogModel.Proofs.LiftRestartRef
import RaftLogModel.Props.C15Call
namespace RaftLog

theorem lift_oldSynced_spec (y : Sys) : y.OldSyncedLIFT ↔
    ∀ s, y.store = some s → ∀ f ∈ y.fs, f.durable < f.data.length → f.linked = true →
      f.id = s.openId := Iff.rfl

/-- **The threading lemma.** `y` satisfies the crash invariant, is clean (worker blocked on
an empty queue, nothing pending, nothing to remove in store or worker). Then drop + open with ANY
configuration `cfg'` (also `truncate = false`, any chunk and cache limits) yields a system
that satisfies the crash invariant AGAIN — for the same reference log `r`, the same write
history `W`, the same acknowledged position `A` and the same tracked position `(E, K)`. -/
theorem lift_crashInv_clean_restart {y : Sys} {r : RefLog} {W : List Op} {A E K : Nat}
    (h : CrashInvC5b y r W A E K) (hc : y.Clean) (cfg' : Cfg) :
    CrashInvC5b ((y.step .drop).step (.openWith cfg')) r W A E K :=
  crashInv_clean_restart_LIFT h hc cfg'

theorem lift_inv_spec (y : Sys) (r : RefLog) (W : List Op) (A E K : Nat) :
    LiftInv y r W A E K ↔ CrashInvC5b y r W A E K ∧ SysPostD14 y ∧ SysCacheInv y := Iff.rfl

/-- **C15 after recovery, from the crash invariant.** `y` satisfies the crash invariant (a
state reached through histories, clean restarts and crash recoveries), `img` is a crash
image of its directory without torn predecessor, `cfg'.truncate = true` (any cache limits:
entries may be evicted while the journal is replayed). The store `open` builds satisfies the
cache invariant: the byte counter is the sum of the resident payload sizes, the resident keys
are strictly increasing, none lies above `last`. -/
theorem c15_accounting_exact_after_recovery_of_crashInv {y : Sys} {r : RefLog} {W : List Op}
    {A E K : Nat} (h : CrashInvC5b y r W A E K) (img : Fs) (hc : CrashImage y.fs img)
    (hnt : NoTornPredecessor img) (cfg' : Cfg) (htr : cfg'.truncate = true) :
    let y2 := (({ fs := img, cfg := cfg' } : Sys).open).2.1
    SysCacheInv y2 ∧
    ∃ s', y2.store = some s' ∧ s'.cache.size = sumLen s'.cache.items ∧ Sorted s'.cache.items ∧
      KeysLe s'.cache.items s'.st.last := by
  obtain ⟨_, s', n, r', A', hs', _, _, hli, _⟩ := lift_inv_recovered h img hc hnt cfg' htr
  exact ⟨hli.cache, s', hs', hli.cache.run_exact [] (fun _ h => nomatch h) s' hs'⟩

/-- ... and along every continuation: `more` is any list of live steps (calls accepted or
rejected with any arguments, flushes, worker steps of any outcome — the worker may die —,
`workerIdle`, `drain`). -/
theorem c15_accounting_exact_after_recovery_history_of_crashInv {y : Sys} {r : RefLog}
    {W : List Op} {A E K : Nat} (h : CrashInvC5b y r W A E K) (img : Fs) (hc : CrashImage y.fs img)
    (hnt : NoTornPredecessor img) (cfg' : Cfg) (htr : cfg'.truncate = true)
    (more : List Step) (hlive : ∀ st ∈ more, st.live = true) (s : Store)
    (hs : ((({ fs := img, cfg := cfg' } : Sys).open).2.1.run more).store = some s) :
    s.cache.size = sumLen s.cache.items ∧ Sorted s.cache.items ∧ KeysLe s.cache.items s.st.last :=
  (c15_accounting_exact_after_recovery_of_crashInv h img hc hnt cfg' htr).1.run_exact more hlive s hs

/-- **C15 after recovery** — the recovered system of `c05_recovered_store_is_consistent`: a
legal history from a freshly opened store (worker alive), a crash image `img` of the final
directory without torn predecessor, `cfg'.truncate = true`. The recovered store's cache
accounting is exact. -/
theorem c15_accounting_exact_after_recovery (cfg cfg' : Cfg) (steps : List Step) (r : RefLog)
    (hsteps : ∀ st ∈ steps, st.journal = true)
    (hlegal : RefLog.run {} (stepOps steps) = some r)
    (hwf : ∀ op ∈ stepOps steps, op.WF ∧ op.small)
    (halive : ((Sys.fresh cfg).run steps).worker.pc ≠ .dead)
    (img : Fs) (hc : CrashImage ((Sys.fresh cfg).run steps).fs img)
    (htr : cfg'.truncate = true) (hnt : NoTornPredecessor img) :
    let y2 := (({ fs := img, cfg := cfg' } : Sys).open).2.1
    ∃ s', y2.store = some s' ∧ s'.cache.size = sumLen s'.cache.items ∧ Sorted s'.cache.items ∧
      KeysLe s'.cache.items s'.st.last := by
  have h0 := c05_crashInv_history steps (Sys.fresh cfg) {} r [] 0 0 0 (c05_crashInv_fresh cfg) hsteps
    hlegal hwf halive
  exact (c15_accounting_exact_after_recovery_of_crashInv h0 img hc hnt cfg' htr).2

/-- **C15 after recovery, every continuation history** (any live steps). -/
theorem c15_accounting_exact_after_recovery_history (cfg cfg' : Cfg) (steps : List Step) (r : RefLog)
    (hsteps : ∀ st ∈ steps, st.journal = true)
    (hlegal : RefLog.run {} (stepOps steps) = some r)
    (hwf : ∀ op ∈ stepOps steps, op.WF ∧ op.small)
    (halive : ((Sys.fresh cfg).run steps).worker.pc ≠ .dead)
    (img : Fs) (hc : CrashImage ((Sys.fresh cfg).run steps).fs img)
    (htr : cfg'.truncate = true) (hnt : NoTornPredecessor img)
    (more : List Step) (hlive : ∀ st ∈ more, st.live = true) (s : Store)
    (hs : ((({ fs := img, cfg := cfg' } : Sys).open).2.1.run more).store = some s) :
    s.cache.size = sumLen s.cache.items ∧ Sorted s.cache.items ∧ KeysLe s.cache.items s.st.last := by
  have h0 := c05_crashInv_history steps (Sys.fresh cfg) {} r [] 0 0 0 (c05_crashInv_fresh cfg) hsteps
    hlegal hwf halive
  exact c15_accounting_exact_after_recovery_history_of_crashInv h0 img hc hnt cfg' htr more hlive s hs

/-- `c15_sys_step_append_only_pinned` applies to the recovered system and to every state of a
continuation by live steps: right after an `append` call that inserted an entry, if either
limit is exceeded, every resident id lies above the boundary in force. -/
theorem c15_append_only_pinned_after_recovery {y : Sys} {r : RefLog} {W : List Op} {A E K : Nat}
    (h : CrashInvC5b y r W A E K) (img : Fs) (hc : CrashImage y.fs img) (hnt : NoTornPredecessor img)
    (cfg' : Cfg) (htr : cfg'.truncate = true) (more : List Step) (hlive : ∀ st ∈ more, st.live = true)
    (es : List (LogId × Bytes)) (s s' : Store)
    (hs : ((({ fs := img, cfg := cfg' } : Sys).open).2.1.run more).store = some s)
    (hs' : (((({ fs := img, cfg := cfg' } : Sys).open).2.1.run more).step (.call (.append es))).store
      = some s')
    (hins : s'.st.last ≠ s.st.last)
    (hover : s'.cache.items.length > s'.cache.maxItems ∨ s'.cache.size > s'.cache.capacity) :
    KeysGt s'.cache.items s'.cache.lastEvictable ∧
    s'.cache.lastEvictable = s.cache.lastEvictable ∧
    s'.cache.maxItems = s.cache.maxItems ∧ s'.cache.capacity = s.cache.capacity := by
  have h1 := (c15_accounting_exact_after_recovery_of_crashInv h img hc hnt cfg' htr).1
  exact c15_sys_step_append_only_pinned _ (run_cacheInv _ more hlive h1) es s s' hs hs' hins hover

/-- **(a) The files that remain form a gap-free suffix of the journal that starts with a
state snapshot** — `c08_remaining_files_gap_free_suffix` for every system that satisfies the
crash invariant. -/
theorem c08_gap_free_suffix_of_crashInv {y : Sys} {r : RefLog} {W : List Op} {A E K : Nat}
    (h : CrashInvC5b y r W A E K) :
    ∃ s dropped jc jo, y.store = some s ∧
      y.fs.linkedIds = dropped.map Closed.id ++ (s.closed.map Closed.id ++ [s.openId]) ∧
      y.worker.toRemove ++ s.removed = dropped.map Closed.id ∧
      RepG (s.liftC3b dropped) y.fs y.worker jc jo ∧
      (liveChunksC3 (s.liftC3b dropped) jc jo).map (·.1.id) = y.fs.linkedIds ∧
      (liveChunksC3 (s.liftC3b dropped) jc jo).map (·.1)
        = dropped ++ s.closed ++ [⟨s.openOffsets, s.st⟩] ∧
      AbutC3 (liveChunksC3 (s.liftC3b dropped) jc jo) ∧
      ∀ p ∈ liveChunksC3 (s.liftC3b dropped) jc jo, AllWF p.2 ∧ (∃ st rest, p.2 = .state st :: rest) ∧
        offsetsFrom p.1.id (recSizes p.2) = p.1.offsets ∧ ∃ t, fdata y.fs p.1.id ++ t = encAll p.2 := by
  obtain ⟨s, p⟩ := h.store_LIFT
  obtain ⟨_, _, hg⟩ := p.ghost
  obtain ⟨dropped, jc, jo, k⟩ := hg.gap_free_suffix_C8s p.linked
  exact ⟨s, dropped, jc, jo, p.store, k⟩

/-- **(a) Files are unlinked oldest first** (`c08_unlinks_oldest_first`). -/
theorem c08_unlinks_oldest_first_of_crashInv {y : Sys} {r : RefLog} {W : List Op} {A E K : Nat}
    (h : CrashInvC5b y r W A E K) (out : Outcome)
    (halive : (y.step (.worker out)).worker.pc ≠ .dead) :
    ((y.step (.worker out)).worker.toRemove = y.worker.toRemove ∧
      (y.step (.worker out)).fs.linkedIds = y.fs.linkedIds) ∨
    (∃ i, y.worker.toRemove = i :: (y.step (.worker out)).worker.toRemove ∧
      y.fs.linkedIds = i :: (y.step (.worker out)).fs.linkedIds ∧
      Ev.unlink "w" i true ∈ y.stepEvs (.worker out)) := by
  obtain ⟨s, p⟩ := h.store_LIFT
  obtain ⟨_, _, hg⟩ := p.ghost
  exact unlinks_oldest_first_C8s p.store hg p.linked out halive

/-- **(a) Every index entry points into a linked chunk file**
(`c08_index_entries_in_linked_chunks`). -/
theorem c08_index_entries_in_linked_chunks_of_crashInv {y : Sys} {r : RefLog} {W : List Op}
    {A E K : Nat} (h : CrashInvC5b y r W A E K) :
    ∃ s, y.store = some s ∧ ∀ e ∈ s.log, e.2.chunk ∈ y.fs.linkedIds ∧ y.fs.has e.2.chunk = true := by
  obtain ⟨s, p⟩ := h.store_LIFT
  obtain ⟨_, _, hg⟩ := p.ghost
  exact ⟨s, p.store, hg.index_in_linked_C8s p.linked⟩

/-- **(b) A file is unlinked only after the purge that made it obsolete is durable**
(`c08_unlink_only_after_purge_durable`), with `W` the write history and `A` the acknowledged
position of the crash invariant. -/
theorem c08_unlink_only_after_purge_durable_of_crashInv {y : Sys} {r : RefLog} {W : List Op}
    {A E K : Nat} (h : CrashInvC5b y r W A E K) (out : Outcome) (c : Nat)
    (hev : Ev.unlink "w" c true ∈ y.stepEvs (.worker out)) :
    ∃ s cl dropped' m k, y.store = some s ∧ cl.id = c ∧
      y.fs.linkedIds = c :: (dropped'.map Closed.id ++ (s.closed.map Closed.id ++ [s.openId])) ∧
      y.worker.toRemove ++ s.removed = c :: dropped'.map Closed.id ∧
      (∃ rest, y.worker.pc = .unlinking (c :: rest)) ∧ y.worker.lastSyncFailed = false ∧
      lastOff cl.offsets < m ∧ m ≤ A ∧ A ≤ s.openEnd ∧
      k ≤ W.length ∧
      (∀ n, k ≤ n → n ≤ W.length → ∀ r', RefLog.run {} (W.take n) = some r' →
        optLe cl.state.last r'.purged = true) ∧
      (∃ jc jo N0 Q, RepG (s.liftC3b (cl :: dropped')) y.fs y.worker jc jo ∧
        W.length = N0 + cntW (allOps (s.liftC3b (cl :: dropped')) jc jo) ∧
        Q <+: allOps (s.liftC3b (cl :: dropped')) jc jo ∧ cl.id + sizeSum Q = m ∧ N0 + cntW Q = k) ∧
      (∀ offs ∈ (s.liftC3b dropped').chunks,
        min (lastOff offs - offs.headD 0) (m - offs.headD 0) ≤ (fdata y.fs (offs.headD 0)).length ∧
        ∀ f, y.fs.find (offs.headD 0) = some f →
          min (lastOff offs - offs.headD 0) (m - offs.headD 0) ≤ f.durable) ∧
      (∀ e ∈ s.log, optLt cl.state.last (some e.2.id) = true ∧ e.2.chunk ≠ c) := by
  obtain ⟨s, p⟩ := h.store_LIFT
  obtain ⟨_, _, hg⟩ := p.ghost
  obtain ⟨cl, dropped', m, k, q⟩ :=
    unlink_only_after_purge_durable_C8s p.store hg p.linked p.wf out c hev
  exact ⟨s, cl, dropped', m, k, p.store, q⟩

theorem quiet_linked_LIFT {y : Sys} {r : RefLog} {W : List Op} {A E K : Nat}
    (h : CrashInvC5b y r W A E K) {s : Store} (hs : y.store = some s)
    (hrem : s.removed = []) (htr : y.worker.toRemove = []) :
    y.fs.linkedIds = s.closed.map Closed.id ++ [s.openId] := by
  obtain ⟨s0, p⟩ := h.store_LIFT
  obtain rfl := Option.some.inj (p.store.symm.trans hs)
  obtain ⟨_, hi⟩ := p.hist
  rw [← Store.chunkIds_eq]
  exact p.linked.linkedIds_eq hi.inv.j hrem htr

theorem crashInv_flush_idle_LIFT {y : Sys} {r : RefLog} {W : List Op} {A E K : Nat}
    (h : CrashInvC5b y r W A E K) (cb : Option Nat)
    (halive : ((y.step (.flush cb)).step .workerIdle).worker.pc ≠ .dead) :
    CrashInvC5b ((y.step (.flush cb)).step .workerIdle) r W
      (y.ackRun [.flush cb, .workerIdle] A) E K := by
  have := run_CrashInv_C5b [.flush cb, .workerIdle] y r r W A E K h (by simp [Step.journal])
    (by simp [stepOps, RefLog.run]) (by simp [stepOps]) halive
  have e : y.run [.flush cb, .workerIdle] = (y.step (.flush cb)).step .workerIdle := rfl
  rw [e] at this
  -- no call among the two steps: the write history grows by `[]`
  simpa [stepOps, expandOps] using this

/-- **(c) Once a purge has been flushed and the worker is idle, the dropped chunks are gone**
(`c08_flushed_idle_gone_always`) — from the crash invariant and `SysPostD14` (removals are
postponed only while the last sync has failed; part of `LiftInv`, kept by EVERY step
including drop and open). -/
theorem c08_flushed_idle_gone_of_crashInv {y : Sys} {r : RefLog} {W : List Op} {A E K : Nat}
    (h : CrashInvC5b y r W A E K) (hpo : SysPostD14 y) (cb : Option Nat)
    (halive : ((y.step (.flush cb)).step .workerIdle).worker.pc ≠ .dead) :
    let y' := (y.step (.flush cb)).step .workerIdle
    ∃ s, y'.store = some s ∧ s.removed = [] ∧ y'.worker.toRemove = [] ∧
      y'.worker.lastSyncFailed = false ∧ y'.worker.postponed = [] ∧
      y'.fs.linkedIds = s.closed.map Closed.id ++ [s.openId] := by
  have hfin := crashInv_flush_idle_LIFT h cb halive
  obtain ⟨s0, p⟩ := h.store_LIFT
  obtain ⟨s, hs, hrem, htr, hl, hp⟩ :=
    flushed_idle_C8s p.store (fun _ => ⟨p.wf, p.todo⟩) hpo cb halive
  exact ⟨s, hs, hrem, htr, hl, hp, quiet_linked_LIFT hfin hs hrem htr⟩

/-- **The linked files of a clean system are exactly the live chunks** (closed ++ open), in
order; consecutive chunks abut; every chunk starts with a `State` record and every file is a
byte prefix of the encoding of its chunk's well-formed records. -/
theorem c08_clean_files_are_live_chunks_of_crashInv {y : Sys} {r : RefLog} {W : List Op}
    {A E K : Nat} (h : CrashInvC5b y r W A E K) (hc : y.Clean) :
    ∃ s jc jo, y.store = some s ∧ y.fs.linkedIds = s.closed.map Closed.id ++ [s.openId] ∧
      RepG s y.fs y.worker jc jo ∧
      (liveChunksC3 s jc jo).map (·.1.id) = y.fs.linkedIds ∧
      (liveChunksC3 s jc jo).map (·.1) = s.closed ++ [⟨s.openOffsets, s.st⟩] ∧
      AbutC3 (liveChunksC3 s jc jo) ∧
      ∀ p ∈ liveChunksC3 s jc jo, AllWF p.2 ∧ (∃ st rest, p.2 = .state st :: rest) ∧
        offsetsFrom p.1.id (recSizes p.2) = p.1.offsets ∧ ∃ t, fdata y.fs p.1.id ++ t = encAll p.2 := by
  obtain ⟨s, dropped, jc, jo, hs, k1, k2, k3, k4, k5, k6, k7⟩ := c08_gap_free_suffix_of_crashInv h
  obtain ⟨_, _, htr⟩ := hc.idle h.alive_LIFT
  obtain ⟨s0, hs0, _, _, hrem, _⟩ := hc
  rw [hs0] at hs; cases hs
  rw [htr, hrem] at k2
  obtain rfl := List.map_eq_nil_iff.mp k2.symm
  simp only [List.map_nil, List.nil_append, Store.liftC3b_nil] at k1 k3 k4 k5 k6 k7
  exact ⟨_, jc, jo, hs0, k1, k3, k4, k5, k6, k7⟩

/-- **C08 after a clean restart**: the restarted system satisfies the crash invariant again
(so all of (a), (b), (c) above hold for it and for every continuation), and its linked files
are exactly the live chunks. -/
theorem c08_restarted_files_are_live_chunks {y : Sys} {r : RefLog} {W : List Op} {A E K : Nat}
    (h : CrashInvC5b y r W A E K) (hpo : SysPostD14 y) (hc : y.Clean) (cfg' : Cfg) :
    let y2 := (y.step .drop).step (.openWith cfg')
    CrashInvC5b y2 r W A E K ∧ SysPostD14 y2 ∧
    ∃ s jc jo, y2.store = some s ∧ y2.fs.linkedIds = s.closed.map Closed.id ++ [s.openId] ∧
      RepG s y2.fs y2.worker jc jo ∧
      (liveChunksC3 s jc jo).map (·.1.id) = y2.fs.linkedIds ∧
      (liveChunksC3 s jc jo).map (·.1) = s.closed ++ [⟨s.openOffsets, s.st⟩] ∧
      AbutC3 (liveChunksC3 s jc jo) ∧
      ∀ p ∈ liveChunksC3 s jc jo, AllWF p.2 ∧ (∃ st rest, p.2 = .state st :: rest) ∧
        offsetsFrom p.1.id (recSizes p.2) = p.1.offsets ∧ ∃ t, fdata y2.fs p.1.id ++ t = encAll p.2 := by
  intro y2
  have h1 := crashInv_clean_restart_LIFT h hc cfg'
  exact ⟨h1, (hpo.step _).step _,
    c08_clean_files_are_live_chunks_of_crashInv h1 (hc.restart_LIFT h.csys cfg')⟩

/-- **C08 after crash recovery**: the recovered system satisfies the crash invariant again,
and its linked files are exactly the live chunks. -/
theorem c08_recovered_files_are_live_chunks {y : Sys} {r : RefLog} {W : List Op} {A E K : Nat}
    (h : CrashInvC5b y r W A E K) (img : Fs) (hc : CrashImage y.fs img) (hnt : NoTornPredecessor img)
    (cfg' : Cfg) (htr : cfg'.truncate = true) :
    let y2 := (({ fs := img, cfg := cfg' } : Sys).open).2.1
    SysPostD14 y2 ∧
    ∃ n r' A' s jc jo, y2.store = some s ∧ CrashInvC5b y2 r' (W.take n) A' s.openEnd n ∧
      y2.fs.linkedIds = s.closed.map Closed.id ++ [s.openId] ∧
      RepG s y2.fs y2.worker jc jo ∧
      (liveChunksC3 s jc jo).map (·.1.id) = y2.fs.linkedIds ∧
      (liveChunksC3 s jc jo).map (·.1) = s.closed ++ [⟨s.openOffsets, s.st⟩] ∧
      AbutC3 (liveChunksC3 s jc jo) ∧
      ∀ p ∈ liveChunksC3 s jc jo, AllWF p.2 ∧ (∃ st rest, p.2 = .state st :: rest) ∧
        offsetsFrom p.1.id (recSizes p.2) = p.1.offsets ∧ ∃ t, fdata y2.fs p.1.id ++ t = encAll p.2 := by
  intro y2
  obtain ⟨_, s', n, r', A', hs', _, _, hli, hcl, _⟩ := lift_inv_recovered h img hc hnt cfg' htr
  obtain ⟨s, jc, jo, hs, k⟩ := c08_clean_files_are_live_chunks_of_crashInv hli.crash hcl
  have : s = s' := by
    have e : y2.store = some s := hs
    rw [hs'] at e
    exact (Option.some.inj e).symm
  subst this
  exact ⟨hli.post, n, r', A', s, jc, jo, hs, hli.crash, k⟩

theorem lift_clean_holds_no_request {y : Sys} (hc : y.Clean) (hd : y.worker.pc ≠ .dead) :
    y.worker.reqs = [] := by
  obtain ⟨hpc, hqe, _⟩ := hc.idle hd
  simp [Worker.reqs, Worker.rest, hpc, hqe, WPc.batchW, WPc.inHand]

/-- **A positive callback means written and synced — for histories that start from a
recovered (or restarted, or any) system satisfying the crash invariant.** The continuation
`pre ++ [flush (some i)] ++ mid ++ [st] ++ post` consists of legal journal steps (calls legal
and accepted from `r`, well-formed, small), the worker is alive at the end; no request the
worker holds at the start carries callback `i` (a recovered or restarted worker holds none:
`lift_clean_holds_no_request`) and no other flush before `st` uses callback `i`; the worker
emits `Ev.cb i true` during step `st`. Let `E1` be the journal end when that flush was issued
(`s1.openEnd`). Then at the END of the history every live chunk file is written up to `E1`
or to the chunk's end, and that much of the file is durable. -/
theorem c04_positive_callback_means_durable_of_crashInv {y : Sys} {r : RefLog} {W : List Op}
    {A E K : Nat} (h : CrashInvC5b y r W A E K) (pre mid post : List Step) (i : Nat) (st : Step)
    (r' : RefLog) (s1 : Store)
    (hsteps : ∀ x ∈ pre ++ [.flush (some i)] ++ mid ++ [st] ++ post, x.journal = true)
    (hlegal : r.run (stepOps (pre ++ [.flush (some i)] ++ mid ++ [st] ++ post)) = some r')
    (hwf : ∀ op ∈ stepOps (pre ++ [.flush (some i)] ++ mid ++ [st] ++ post), op.WF ∧ op.small)
    (halive : (y.run (pre ++ [.flush (some i)] ++ mid ++ [st] ++ post)).worker.pc ≠ .dead)
    (halive2 : (y.run (pre ++ [.flush (some i)] ++ mid)).worker.pc ≠ .dead)
    (hheld : ∀ q ∈ y.worker.reqs, q.cbId ≠ some i)
    (hfresh : ∀ x ∈ pre ++ mid, x ≠ .flush (some i))
    (hs1 : (y.run pre).store = some s1)
    (hcb : Ev.cb i true ∈ (y.run (pre ++ [.flush (some i)] ++ mid)).stepEvs st) :
    let y' := y.run (pre ++ [.flush (some i)] ++ mid ++ [st] ++ post)
    ∃ s, y'.store = some s ∧ s1.openEnd ≤ s.openEnd ∧
      (∀ offs ∈ s.chunks,
        min (lastOff offs - offs.headD 0) (s1.openEnd - offs.headD 0) ≤ (fdata y'.fs (offs.headD 0)).length) ∧
      (∀ offs ∈ s.chunks, ∀ f, y'.fs.find (offs.headD 0) = some f →
        min (lastOff offs - offs.headD 0) (s1.openEnd - offs.headD 0) ≤ f.durable) := by
  obtain ⟨hpre, hmid, _⟩ := flush_split_LIFT _ pre mid post _ st hsteps halive
  obtain ⟨s, p⟩ := h.store_LIFT
  have hA := acked_flush_from y A pre mid post i st s1 (fun _ => ⟨p.wf, p.todo⟩)
    (p.hist.elim fun _ hi => hi.inv.j.wok)
    (by rw [p.store]; rfl) (fun q hq hi => hheld q hq hi) hpre hmid hfresh hs1 halive2 hcb
  obtain ⟨s', p'⟩ := (c05_crashInv_history _ y r r' W A E K h hsteps hlegal hwf halive).store_LIFT
  obtain ⟨_, hi⟩ := p'.hist
  exact ⟨s', p'.store, hi.dur.upto hA⟩

/-- **Reachable systems.** A freshly opened store; a history of journal steps (calls, flushes,
worker steps of any outcome, `workerIdle`, `drain`) whose calls are legal and accepted — for
`r`, ANY reference log the system refines (`CSys y r`; acceptance depends only on the state
and the entry keys, `run_keys_LIFT`), well-formed and small — with the worker alive at the
end; a clean restart (drop + open with any configuration) of a clean system; a crash (any
crash image without torn predecessor) followed by recovery with `truncate = true`. In any order, any number of times. -/
inductive ReachLIFT : Sys → Prop
  | fresh (cfg : Cfg) : ReachLIFT (Sys.fresh cfg)
  | hist {y : Sys} (steps : List Step) (r r' : RefLog) : ReachLIFT y →
      (∀ st ∈ steps, st.journal = true) → CSys y r → r.run (stepOps steps) = some r' →
      (∀ op ∈ stepOps steps, op.WF ∧ op.small) → (y.run steps).worker.pc ≠ .dead →
      ReachLIFT (y.run steps)
  | restart {y : Sys} (cfg' : Cfg) : ReachLIFT y → y.Clean →
      ReachLIFT ((y.step .drop).step (.openWith cfg'))
  | recover {y : Sys} (img : Fs) (cfg' : Cfg) : ReachLIFT y → CrashImage y.fs img →
      NoTornPredecessor img → cfg'.truncate = true →
      ReachLIFT (({ fs := img, cfg := cfg' } : Sys).open).2.1

theorem lift_csys_keys {y : Sys} {r1 r2 : RefLog} (h1 : CSys y r1) (h2 : CSys y r2) :
    RefKeysEqLIFT r1 r2 := by
  obtain ⟨⟨s1, hs1, _, hi1⟩, _⟩ := h1
  obtain ⟨⟨s2, hs2, _, hi2⟩, _⟩ := h2
  rw [hs1] at hs2; cases hs2
  exact ⟨by rw [← hi1.abs.st, ← hi2.abs.st], by rw [← hi1.abs.log, ← hi2.abs.log]⟩

/-- **Every reachable system satisfies the bundle** — the crash invariant (for some reference
log, write history, acknowledged and tracked position), `SysPostD14` and the cache invariant.
So every `_of_crashInv` theorem of this file and every `c05_crashInv_*` theorem of
`Props/C05Crash.lean` applies to it. -/
theorem lift_reach_invariant {y : Sys} (h : ReachLIFT y) : ∃ r W A E K, LiftInv y r W A E K := by
  induction h with
  | fresh cfg => exact ⟨{}, [], 0, 0, 0, lift_inv_fresh cfg⟩
  | @hist y steps r r' _ hst hC hr hwf hnd ih =>
    obtain ⟨r0, W, A, E, K, h0⟩ := ih
    obtain ⟨r0', hr0, _⟩ := run_keys_LIFT (stepOps steps) (lift_csys_keys hC h0.crash.csys) r' hr
    exact ⟨r0', _, _, E, K, lift_inv_history steps y r0 r0' W A E K h0 hst hr0 hwf hnd⟩
  | @restart y cfg' _ hc ih =>
    obtain ⟨r0, W, A, E, K, h0⟩ := ih
    exact ⟨r0, W, A, E, K, (lift_inv_restart h0 hc cfg').1⟩
  | @recover y img cfg' _ hc hnt htr ih =>
    obtain ⟨r0, W, A, E, K, h0⟩ := ih
    obtain ⟨_, s', n, r', A', _, _, _, hli, _⟩ := lift_inv_recovered h0.crash img hc hnt cfg' htr
    exact ⟨r', _, A', _, n, hli⟩

/-- **C11 for every reachable system**: the journal invariant `J` holds, the system refines
a reference log (`CSys`: replay invariant — record lists for every chunk file that replay to
the state and the index map, payloads — and linked-files invariant), every file holds small
records (`open` never panics later), and the cache accounting is exact. -/
theorem c11_journal_invariant_reach {y : Sys} (h : ReachLIFT y) :
    J y ∧ (∃ r, CSys y r) ∧ SmallSys y ∧ SysWF y ∧ SysCovered y ∧ SysCacheInv y := by
  obtain ⟨r, W, A, E, K, hL⟩ := lift_reach_invariant h
  have hc := hL.crash.csys
  obtain ⟨s, p⟩ := hL.crash.store_LIFT
  exact ⟨hc.1.J, ⟨r, hc⟩, hL.crash.smallSys, fun _ => ⟨p.wf, p.todo⟩, p.covered, hL.cache⟩

theorem ReachLIFT.csys {y : Sys} (h : ReachLIFT y) : ∃ r, CSys y r := (c11_journal_invariant_reach h).2.1

/-- C15 for every reachable system and every continuation by live steps. -/
theorem c15_accounting_exact_reach {y : Sys} (h : ReachLIFT y) (more : List Step)
    (hlive : ∀ st ∈ more, st.live = true) (s : Store) (hs : (y.run more).store = some s) :
    s.cache.size = sumLen s.cache.items ∧ Sorted s.cache.items ∧ KeysLe s.cache.items s.st.last :=
  let ⟨_, _, _, _, _, hcache⟩ := c11_journal_invariant_reach h
  hcache.run_exact more hlive s hs

/-- C08 (c) for every reachable system: after `flush cb`, `workerIdle` (worker alive) nothing
is left to unlink and the linked files are exactly the live chunks. -/
theorem c08_flushed_idle_gone_reach {y : Sys} (h : ReachLIFT y) (cb : Option Nat)
    (halive : ((y.step (.flush cb)).step .workerIdle).worker.pc ≠ .dead) :
    let y' := (y.step (.flush cb)).step .workerIdle
    ∃ s, y'.store = some s ∧ s.removed = [] ∧ y'.worker.toRemove = [] ∧
      y'.worker.lastSyncFailed = false ∧ y'.worker.postponed = [] ∧
      y'.fs.linkedIds = s.closed.map Closed.id ++ [s.openId] := by
  obtain ⟨_, _, _, _, _, hL⟩ := lift_reach_invariant h
  exact c08_flushed_idle_gone_of_crashInv hL.crash hL.post cb halive

/-- C04 for every reachable system: the continuation's calls are legal and accepted from `r`,
any reference log the system refines. -/
theorem c04_positive_callback_means_durable_reach {y : Sys} (h : ReachLIFT y) (r : RefLog)
    (hC : CSys y r) (pre mid post : List Step) (i : Nat) (st : Step) (r' : RefLog) (s1 : Store)
    (hsteps : ∀ x ∈ pre ++ [.flush (some i)] ++ mid ++ [st] ++ post, x.journal = true)
    (hlegal : r.run (stepOps (pre ++ [.flush (some i)] ++ mid ++ [st] ++ post)) = some r')
    (hwf : ∀ op ∈ stepOps (pre ++ [.flush (some i)] ++ mid ++ [st] ++ post), op.WF ∧ op.small)
    (halive : (y.run (pre ++ [.flush (some i)] ++ mid ++ [st] ++ post)).worker.pc ≠ .dead)
    (halive2 : (y.run (pre ++ [.flush (some i)] ++ mid)).worker.pc ≠ .dead)
    (hheld : ∀ q ∈ y.worker.reqs, q.cbId ≠ some i)
    (hfresh : ∀ x ∈ pre ++ mid, x ≠ .flush (some i))
    (hs1 : (y.run pre).store = some s1)
    (hcb : Ev.cb i true ∈ (y.run (pre ++ [.flush (some i)] ++ mid)).stepEvs st) :
    let y' := y.run (pre ++ [.flush (some i)] ++ mid ++ [st] ++ post)
    ∃ s, y'.store = some s ∧ s1.openEnd ≤ s.openEnd ∧
      (∀ offs ∈ s.chunks,
        min (lastOff offs - offs.headD 0) (s1.openEnd - offs.headD 0) ≤ (fdata y'.fs (offs.headD 0)).length) ∧
      (∀ offs ∈ s.chunks, ∀ f, y'.fs.find (offs.headD 0) = some f →
        min (lastOff offs - offs.headD 0) (s1.openEnd - offs.headD 0) ≤ f.durable) := by
  obtain ⟨r0, W, A, E, K, hL⟩ := lift_reach_invariant h
  obtain ⟨r0', hr0, _⟩ := run_keys_LIFT _ (lift_csys_keys hC hL.crash.csys) r' hlegal
  exact c04_positive_callback_means_durable_of_crashInv hL.crash pre mid post i st r0' s1 hsteps hr0 hwf
    halive halive2 hheld hfresh hs1 hcb

/-- The worker steps after the flush: `.ok` (no event), `.ok` the write, `.eio` the `fdatasync`
of the older chunk file 0 fails, `.ok` (no event), `.eio` it fails again and callback 3 is
negative. -/
def liftUnsyncedExample : List Step :=
  [ .call (.append [(⟨1, 0⟩, [1]), (⟨1, 1⟩, [2])]), .flush (some 3),
    .worker .ok, .worker .ok, .worker .eio, .worker .ok, .worker .eio ]

def liftUnsyncedRestarted : Sys :=
  (((Sys.fresh { maxRecords := 3 }).run liftUnsyncedExample).step .drop).step
    (.openWith { maxRecords := 3 })

def liftUnsyncedMore : List Step := [.call (.commit ⟨1, 1⟩), .flush (some 4), .workerIdle]

/-- What `lift_restart_syncs_old_chunks` takes from running the model, in one evaluation: its
computed conjuncts and the side conditions of the invariant theorems along the run — first for
the history with the failed syncs, then for the restarted system and its continuation. -/
theorem liftUnsynced_eval :
    ((∀ st ∈ liftUnsyncedExample, st.journal = true) ∧
    (∀ op ∈ stepOps liftUnsyncedExample, op.WF ∧ op.small) ∧
    ((Sys.fresh { maxRecords := 3 }).run (liftUnsyncedExample.take 6)).stepEvs (.worker .eio)
      = [.sync "w" 0 false, .cb 3 false] ∧
    ((Sys.fresh { maxRecords := 3 }).run liftUnsyncedExample).worker.pc = .idle ∧
    ((Sys.fresh { maxRecords := 3 }).run liftUnsyncedExample).cleanB = true ∧
    ((Sys.fresh { maxRecords := 3 }).run liftUnsyncedExample).worker.files.map FileEnt.id = [0, 84] ∧
    ((Sys.fresh { maxRecords := 3 }).run liftUnsyncedExample).worker.lastSyncFailed = true ∧
    ((Sys.fresh { maxRecords := 3 }).run liftUnsyncedExample).fs.map
      (fun f => (f.id, f.data.length, f.durable, f.linked)) = [(0, 84, 0, true), (84, 34, 0, true)] ∧
    (((Sys.fresh { maxRecords := 3 }).run liftUnsyncedExample).fs.find 0).map
      (fun f => (decide (f.durable < f.data.length), f.linked)) = some (true, true) ∧
    (((Sys.fresh { maxRecords := 3 }).run liftUnsyncedExample).store.map Store.openId == some 0) = false ∧
    ((Sys.fresh { maxRecords := 3 }).run liftUnsyncedExample).store.isSome = true ∧
    ((RefLog.run {} (stepOps liftUnsyncedExample)).bind
      (fun r => r.run (stepOps liftUnsyncedMore))).isSome = true) ∧
    ({ (((Sys.fresh { maxRecords := 3 }).run liftUnsyncedExample).step .drop) with
        cfg := { maxRecords := 3 } } : Sys).open.2.2 = [.sync "o" 0 true, .sync "o" 84 true] ∧
    liftUnsyncedRestarted.worker.files.map FileEnt.id = [84] ∧
    liftUnsyncedRestarted.fs.map
      (fun f => (f.id, f.data.length, f.durable, f.linked)) = [(0, 84, 84, true), (84, 34, 34, true)] ∧
    Ev.cb 4 true ∈ (liftUnsyncedRestarted.run [.call (.commit ⟨1, 1⟩), .flush (some 4)]).stepEvs
      .workerIdle ∧
    (liftUnsyncedRestarted.run liftUnsyncedMore).fs.map
      (fun f => (f.id, f.data.length, f.durable, f.linked)) = [(0, 84, 84, true), (84, 62, 62, true)] ∧
    c03View (openStore {} (powerCrash (liftUnsyncedRestarted.run liftUnsyncedMore).fs)).1
      = some (⟨none, some ⟨1, 1⟩, some ⟨1, 1⟩, none, none⟩, [(0, ⟨1, 0⟩), (1, ⟨1, 1⟩)]) ∧
    (∀ st ∈ liftUnsyncedMore, st.journal = true) ∧
    (∀ op ∈ stepOps liftUnsyncedMore, op.WF ∧ op.small) ∧
    (liftUnsyncedRestarted.run liftUnsyncedMore).worker.pc ≠ .dead ∧
    (liftUnsyncedRestarted.run liftUnsyncedMore).store.map Store.openId = some 84 ∧
    liftUnsyncedRestarted.ackRun liftUnsyncedMore
      ((Sys.fresh { maxRecords := 3 }).ackRun liftUnsyncedExample 0) = 146 :=
  and_of_decide of_decide_eq_true (by decide +kernel)

/-- **D15 (`open` syncs the chunk files it keeps): a clean restart syncs the older chunk
files.** The `fdatasync` of the OLDER chunk
file 0 fails twice, the worker goes back to `recv` with files `[0, 84]` in its list and
nothing durable; the system is clean and
satisfies the crash invariant, but NOT `OldSyncedLIFT`. Drop + open emits
`sync "o" 0 true, sync "o" 84 true`: both files are durable to their ends, the restarted
system is `SysCovered` and satisfies the crash invariant again
(`lift_crashInv_clean_restart`, which does not ask for `OldSyncedLIFT`). The later flush is acknowledged with a
positive callback and that callback is sound: the final directory is durable to the end of
every file, after the worst power failure `open` reports the acknowledged state, and EVERY
crash image of the final directory opens (any configuration with `truncate`). -/
theorem lift_restart_syncs_old_chunks :
    (∀ st ∈ liftUnsyncedExample, st.journal = true) ∧
    (RefLog.run {} (stepOps liftUnsyncedExample)).isSome = true ∧
    (∀ op ∈ stepOps liftUnsyncedExample, op.WF ∧ op.small) ∧
    ((Sys.fresh { maxRecords := 3 }).run (liftUnsyncedExample.take 6)).stepEvs (.worker .eio)
      = [.sync "w" 0 false, .cb 3 false] ∧
    ((Sys.fresh { maxRecords := 3 }).run liftUnsyncedExample).worker.pc = .idle ∧
    (∃ r W A, CrashInvC5b ((Sys.fresh { maxRecords := 3 }).run liftUnsyncedExample) r W A 0 0) ∧
    ((Sys.fresh { maxRecords := 3 }).run liftUnsyncedExample).Clean ∧
    ((Sys.fresh { maxRecords := 3 }).run liftUnsyncedExample).worker.files.map FileEnt.id = [0, 84] ∧
    ((Sys.fresh { maxRecords := 3 }).run liftUnsyncedExample).worker.lastSyncFailed = true ∧
    ((Sys.fresh { maxRecords := 3 }).run liftUnsyncedExample).fs.map
      (fun f => (f.id, f.data.length, f.durable, f.linked)) = [(0, 84, 0, true), (84, 34, 0, true)] ∧
    ¬ ((Sys.fresh { maxRecords := 3 }).run liftUnsyncedExample).OldSyncedLIFT ∧
    ({ (((Sys.fresh { maxRecords := 3 }).run liftUnsyncedExample).step .drop) with
        cfg := { maxRecords := 3 } } : Sys).open.2.2 = [.sync "o" 0 true, .sync "o" 84 true] ∧
    liftUnsyncedRestarted.worker.files.map FileEnt.id = [84] ∧
    liftUnsyncedRestarted.fs.map
      (fun f => (f.id, f.data.length, f.durable, f.linked)) = [(0, 84, 84, true), (84, 34, 34, true)] ∧
    SysCovered liftUnsyncedRestarted ∧
    (∃ r W A, CrashInvC5b liftUnsyncedRestarted r W A 0 0) ∧
    Ev.cb 4 true ∈ (liftUnsyncedRestarted.run [.call (.commit ⟨1, 1⟩), .flush (some 4)]).stepEvs
      .workerIdle ∧
    (liftUnsyncedRestarted.run liftUnsyncedMore).fs.map
      (fun f => (f.id, f.data.length, f.durable, f.linked)) = [(0, 84, 84, true), (84, 62, 62, true)] ∧
    c03View (openStore {} (powerCrash (liftUnsyncedRestarted.run liftUnsyncedMore).fs)).1
      = some (⟨none, some ⟨1, 1⟩, some ⟨1, 1⟩, none, none⟩, [(0, ⟨1, 0⟩), (1, ⟨1, 1⟩)]) ∧
    (∀ img cfg', CrashImage (liftUnsyncedRestarted.run liftUnsyncedMore).fs img →
      cfg'.truncate = true → (({ fs := img, cfg := cfg' } : Sys).open).1 = .ok ()) := by
  obtain ⟨⟨hjournal, hwf, hevs, hidle, hcleanB, hfiles, hfailed, hfs, hunsynced, hnotopen, hsome,
      hlegal⟩,
    hopenEvs, hfilesR, hfsR, hcb, hfsEnd, hview, hjournal', hwf', halive', hopenId, hack⟩ :=
    liftUnsynced_eval
  have hclean := Sys.clean_of_cleanB hcleanB
  obtain ⟨r2, hr2⟩ := Option.isSome_iff_exists.mp hlegal
  obtain ⟨r, hr, hr2⟩ := Option.bind_eq_some_iff.mp hr2
  -- tracked position `E K = 0 0`: that of the fresh store
  have h0 := c05_crashInv_history liftUnsyncedExample (Sys.fresh { maxRecords := 3 }) {} r []
    0 0 0 (c05_crashInv_fresh _) hjournal hr hwf (by rw [hidle]; decide)
  have h2 : CrashInvC5b liftUnsyncedRestarted r _ _ 0 0 :=
    lift_crashInv_clean_restart h0 hclean { maxRecords := 3 }
  have h3 := c05_crashInv_history liftUnsyncedMore liftUnsyncedRestarted r r2 _ _ 0 0 h2 hjournal'
    hr2 hwf' halive'
  -- `hopenEvs`: the `{ y with cfg := _ }` of a goal is a `let`, that of a stored statement a `have`
  refine ⟨hjournal, by rw [hr]; rfl, hwf, hevs, hidle, ⟨r, _, _, h0⟩, hclean, hfiles, hfailed, hfs,
    not_oldSynced_of_file_LIFT _ 0 hunsynced hnotopen hsome, by simpa only using hopenEvs, hfilesR,
    hfsR, h2.covered_LIFT, ⟨r, _, _, h2⟩, hcb, hfsEnd, hview, ?_⟩
  intro img cfg' hc htr
  obtain ⟨s, hs, hopenId⟩ := Option.map_eq_some_iff.mp hopenId
  -- the open chunk 84 starts below the acknowledged position 146: no torn predecessor
  have hnt := noTorn_of_CrashInv_C5b h3 hs (by rw [hopenId, hack]; decide) hc
  exact (c05_crashInv_recovered h3 img hc hnt cfg' htr).1

theorem lift_c05Example_wf : ∀ op ∈ stepOps c05Example, op.WF ∧ op.small :=
  c05Example_wf

/-- `c05Recovered`, restarted cleanly with other limits (chunks of three records, room for ONE
cache entry). -/
def liftRestarted : Sys :=
  (c05Recovered.step .drop).step (.openWith { maxRecords := 3, cacheItems := 1 })

/-- ... then `c05Round2` (an append, flushed and partly written), a process crash and a second
recovery. -/
def liftReachExample : Sys :=
  (({ fs := procCrash (liftRestarted.run c05Round2).fs, cfg := {} } : Sys).open).2.1

/-- The side conditions of the invariant theorems along the run `c05Example`, crash, recovery
(`c05Recovered`), clean restart (`liftRestarted`), `c05Round2`, crash: one evaluation.
`cutCrash _ [(84, 0), (39, 0)]` is the crash image of `c05Recovered`: both files at their
written lengths 84 and 39, nothing zero-filled. -/
theorem liftExample_eval :
    (∀ st ∈ c05Example, st.journal = true) ∧
    (RefLog.run {} (stepOps c05Example)).isSome = true ∧
    ((Sys.fresh { maxRecords := 3 }).run c05Example).worker.pc ≠ .dead ∧
    cutOK ((Sys.fresh { maxRecords := 3 }).run c05Example).fs [(84, 0), (39, 0)] = true ∧
    noTornB_LIFT (cutCrash ((Sys.fresh { maxRecords := 3 }).run c05Example).fs [(84, 0), (39, 0)])
      = true ∧
    c05Recovered.store.map (fun s => s.st.last) = some (some ⟨1, 1⟩) ∧
    liftRestarted.store.map (fun s => s.st.last) = some (some ⟨1, 1⟩) ∧
    (∀ st ∈ c05Round2, st.journal = true) ∧
    (∀ op ∈ stepOps c05Round2, op.WF ∧ op.small) ∧
    (liftRestarted.run c05Round2).worker.pc ≠ .dead ∧
    (∀ f ∈ (liftRestarted.run c05Round2).fs, f.durable ≤ f.data.length) ∧
    noTornB_LIFT (procCrash (liftRestarted.run c05Round2).fs) = true := by
  decide +kernel

theorem lift_c05Example_inv :
    ∃ r, RefLog.run {} (stepOps c05Example) = some r ∧
      CrashInvC5b ((Sys.fresh { maxRecords := 3 }).run c05Example) r
        ([] ++ expandOps {} (stepOps c05Example)) ((Sys.fresh { maxRecords := 3 }).ackRun c05Example 0) 0 0 ∧
      CrashImage ((Sys.fresh { maxRecords := 3 }).run c05Example).fs
        (cutCrash ((Sys.fresh { maxRecords := 3 }).run c05Example).fs [(84, 0), (39, 0)]) ∧
      NoTornPredecessor (cutCrash ((Sys.fresh { maxRecords := 3 }).run c05Example).fs [(84, 0), (39, 0)]) := by
  obtain ⟨hj, hsome, halive, hcut, hnt, _⟩ := liftExample_eval
  obtain ⟨r, hr⟩ := Option.isSome_iff_exists.mp hsome
  exact ⟨r, hr, c05_crashInv_history c05Example (Sys.fresh { maxRecords := 3 }) {} r [] 0 0 0
    (c05_crashInv_fresh _) hj hr lift_c05Example_wf halive, cutCrash_image _ _ hcut,
    noTorn_of_noTornB_LIFT hnt⟩

-- `rw [c05Recovered]`, not `unfold`: the kernel compares a constant with its unfolded body
-- (a projection of `open`) only by evaluating `open`.
example :
    (∃ s', c05Recovered.store = some s' ∧ s'.cache.size = sumLen s'.cache.items ∧
      Sorted s'.cache.items ∧ KeysLe s'.cache.items s'.st.last) ∧
    c05Recovered.store.map (fun s => (s.cache.items, s.cache.size, s.st.last))
      = some ([(⟨1, 0⟩, [1]), (⟨1, 1⟩, [2])], 2, some ⟨1, 1⟩) := by
  obtain ⟨r, hr, h, hc, hnt⟩ := lift_c05Example_inv
  refine ⟨?_, by decide +kernel⟩
  rw [c05Recovered]
  exact (c15_accounting_exact_after_recovery_of_crashInv h _ hc hnt {} rfl).2


theorem lift_csys_last {y : Sys} {r : RefLog} (h : CSys y r) (l : Option LogId)
    (hl : y.store.map (fun s => s.st.last) = some l) : r.last = l := by
  obtain ⟨⟨s, hs, _, hi⟩, _⟩ := h
  rw [hs] at hl
  simp only [Option.map_some, Option.some.injEq] at hl
  rw [← hl, hi.abs.st]
  rfl

theorem lift_c05Recovered_inv :
    ∃ r' W A E K, LiftInv c05Recovered r' W A E K ∧ r'.last = some ⟨1, 1⟩ ∧ c05Recovered.Clean ∧
      c05Recovered.OldSyncedLIFT := by
  obtain ⟨r, hr, h, hc, hnt⟩ := lift_c05Example_inv
  obtain ⟨_, _, _, _, _, hl, _⟩ := liftExample_eval
  rw [c05Recovered] at hl ⊢
  obtain ⟨_, s', n, r', A', hs', _, _, hli, hcl, hold, _⟩ := lift_inv_recovered h _ hc hnt {} rfl
  exact ⟨r', _, A', _, n, hli, lift_csys_last hli.crash.csys _ hl, hcl, hold⟩

/-- C04 and C08 after recovery on the example: on `c05Recovered` (crash invariant: theorem) a
further append, `flush (some 9)`, `workerIdle` satisfy the hypotheses of
`c04_positive_callback_means_durable_of_crashInv` (`pre` = the append, `mid = []`,
`st = workerIdle`, `post = []`) and of `c08_flushed_idle_gone_of_crashInv`; the recovered
system's linked files are the live chunks 0, 84, 118; at the end chunk 118 (head + the new
entry, 67 bytes) is durable to its end. -/
example :
    ∃ r' W A E K r2, CrashInvC5b c05Recovered r' W A E K ∧ SysPostD14 c05Recovered ∧
      r'.run (stepOps ([.call (.append [(⟨1, 2⟩, [7])])] ++ [.flush (some 9)] ++ [] ++ [.workerIdle] ++ []))
        = some r2 ∧
      (∀ x ∈ ([.call (.append [(⟨1, 2⟩, [7])])] ++ [.flush (some 9)] ++ [] ++ [.workerIdle] ++ [] : List Step),
        x.journal = true) ∧
      (c05Recovered.run ([.call (.append [(⟨1, 2⟩, [7])])] ++ [.flush (some 9)] ++ [] ++ [.workerIdle] ++ [])).worker.pc
        ≠ .dead ∧
      c05Recovered.worker.reqs = [] ∧
      Ev.cb 9 true ∈ (c05Recovered.run ([.call (.append [(⟨1, 2⟩, [7])])] ++ [.flush (some 9)] ++ [])).stepEvs
        .workerIdle ∧
      c05Recovered.fs.linkedIds = [0, 84, 118] ∧
      c05Recovered.store.map (fun s => (s.closed.map Closed.id, s.openId)) = some ([0, 84], 118) ∧
      (c05Recovered.run ([.call (.append [(⟨1, 2⟩, [7])])] ++ [.flush (some 9)] ++ [] ++ [.workerIdle] ++ [])).fs.map
        (fun f => (f.id, f.data.length, f.durable, f.linked))
        = [(0, 84, 84, true), (84, 34, 34, true), (118, 67, 67, true)] := by
  obtain ⟨r', W, A, E, K, hli, hlast, _⟩ := lift_c05Recovered_inv
  obtain ⟨r2, hr2⟩ := run_append_one_LIFT r' ⟨1, 1⟩ ⟨1, 2⟩ [7] hlast (by decide) (by decide)
  exact ⟨r', W, A, E, K, r2, hli.crash, hli.post, hr2, by decide +kernel⟩

theorem lift_reach_c05Recovered : ReachLIFT c05Recovered := by
  obtain ⟨hj, _, halive, _⟩ := liftExample_eval
  obtain ⟨r, hr, h, hc, hnt⟩ := lift_c05Example_inv
  rw [c05Recovered]
  exact ReachLIFT.recover _ {} (ReachLIFT.hist c05Example {} r (ReachLIFT.fresh _) hj (fresh_CSys _)
    hr lift_c05Example_wf halive) hc hnt rfl

theorem lift_reach_restarted : ReachLIFT liftRestarted := by
  obtain ⟨_, _, _, _, _, _, _, hcl, _⟩ := lift_c05Recovered_inv
  exact ReachLIFT.restart _ lift_reach_c05Recovered hcl

/-- **`ReachLIFT` is inhabited by a run that uses every constructor**: fresh store, history
`c05Example`, crash + recovery, clean restart with other limits, history `c05Round2`, second
crash + recovery. -/
theorem lift_reach_example : ReachLIFT liftReachExample := by
  obtain ⟨_, _, _, _, _, _, hl, hj, hwf, halive, hdur, hnt⟩ := liftExample_eval
  obtain ⟨r0, W, A, E, K, hli⟩ := lift_reach_invariant lift_reach_restarted
  obtain ⟨r2, hr2⟩ := run_append_one_LIFT r0 ⟨1, 1⟩ ⟨1, 2⟩ [7] (lift_csys_last hli.crash.csys _ hl)
    (by decide) (by decide)
  rw [liftReachExample]
  exact ReachLIFT.recover _ {} (ReachLIFT.hist c05Round2 r0 r2 lift_reach_restarted hj hli.crash.csys
    hr2 hwf halive) (procCrash_image _ hdur) (noTorn_of_noTornB_LIFT hnt) rfl

/-- The states along that run, computed by the model: the restarted store (room for one
cache entry) holds both entries — they were pinned while their chunk was replayed — with exact
accounting, and the same state and index keys; after
the second recovery the torn append is gone, the two acknowledged entries are there, and a
fresh chunk 152 follows the truncated chunk 118. By `c11_journal_invariant_reach` the journal
invariant, a refined reference log and exact cache accounting hold at the end. -/
example :
    liftRestarted.store.map (fun s => (s.cache.items, s.cache.size, s.st.last, logKeys s.log))
      = some ([(⟨1, 0⟩, [1]), (⟨1, 1⟩, [2])], 2, some ⟨1, 1⟩, [(0, ⟨1, 0⟩), (1, ⟨1, 1⟩)]) ∧
    (liftRestarted.run c05Round2).fs.map (fun f => (f.id, f.data.length, f.durable, f.linked))
      = [(0, 84, 84, true), (84, 34, 34, true), (118, 38, 34, true)] ∧
    liftReachExample.store.map (fun s => (s.st.last, logKeys s.log, s.closed.map Closed.id, s.openId))
      = some (some ⟨1, 1⟩, [(0, ⟨1, 0⟩), (1, ⟨1, 1⟩)], [0, 84, 118], 152) ∧
    liftReachExample.fs.map (fun f => (f.id, f.data.length, f.durable, f.linked))
      = [(0, 84, 84, true), (84, 34, 34, true), (118, 34, 34, true), (152, 34, 0, true)] ∧
    J liftReachExample ∧ (∃ r, CSys liftReachExample r) ∧ SysCacheInv liftReachExample := by
  obtain ⟨hJ, hC, _, _, _, hcache⟩ := c11_journal_invariant_reach lift_reach_example
  -- the four computed conjuncts in one evaluation, then the three of the theorem
  exact and_of_decide (and_of_decide (and_of_decide (and_of_decide (d := true)
    fun _ => ⟨hJ, hC, hcache⟩))) (by decide +kernel)

end RaftLog
