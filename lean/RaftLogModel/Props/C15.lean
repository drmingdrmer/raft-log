/-
C15 — Payload cache accounting is exact; only pinned entries may exceed the
limits.

Quantification of `c15_accounting_exact`: every history of public calls
(accepted *and* rejected), flushes, drains and worker steps with arbitrary
outcomes (so every timing of the boundary update), for every configuration,
starting from a store opened on an empty directory. `c15_over_limit_only_pinned`
is about ONE `Cache.insert` into a `Cache.OK` cache (along histories:
`c15_sys_append_only_pinned`, Props/C15Call.lean), `c15_drained` about one
`Cache.OK` cache. (Histories that pass through a restart: Props/C15Restart.lean and
`c15_sys_append_only_pinned_with_restarts` in Props/C15Call.lean.)
-/
import RaftLogModel.Proofs.CacheSys
import RaftLogModel.Proofs.Eval
namespace RaftLog

/-- **Accounting is exact** in every reachable state: the reported byte size is
the sum of the resident payload sizes (the item count is the length of the
resident list by definition), resident keys are distinct and increasing, and
none lies above `last`. -/
theorem c15_accounting_exact (cfg : Cfg) (steps : List Step) (hl : ∀ st ∈ steps, st.live = true)
    (s : Store) (hs : ((Sys.fresh cfg).run steps).store = some s) :
    s.cache.size = sumLen s.cache.items ∧ Sorted s.cache.items ∧ KeysLe s.cache.items s.st.last := by
  have := run_cacheInv _ steps hl (fresh_cacheInv cfg) s hs
  exact ⟨this.ok.size_eq, this.ok.sorted, this.le_last⟩

/-- **Only pinned entries exceed the limits**: right after the insertion an
`append` performs (the only place entries are added), if either limit is
exceeded every resident id lies above the boundary in force. -/
theorem c15_over_limit_only_pinned (c : Cache) (k : LogId) (v : Bytes) (h : c.OK)
    (hk : ∀ e ∈ c.items, e.1.lt k = true)
    (hover : (c.insert k v).items.length > c.maxItems ∨ (c.insert k v).size > c.capacity) :
    KeysGt (c.insert k v).items c.lastEvictable :=
  Cache.insert_over_limit c k v h hk hover

/-- **After a drain** no resident entry lies at or below the boundary. -/
theorem c15_drained (c : Cache) (h : c.OK) : KeysGt c.drainEvictable.items c.lastEvictable :=
  Cache.drainEvictable_keysGt h

/-- Non-vacuity: a concrete reachable state with a non-empty cache. -/
example : ∃ s, ((Sys.fresh {}).run [.call (.append [(⟨1, 0⟩, [1, 2, 3])])]).store = some s ∧
    s.cache.items.length = 1 := by
  decide +kernel

end RaftLog
