/-
C15 across restarts — payload-cache accounting stays exact through drop +
reopen.

`c15_accounting_exact` (Props/C15.lean) covers histories without `.drop` /
`.openWith`. Here: the store produced by `open` on the files of a clean
reachable state satisfies the same invariant (`size = Σ resident payload sizes`,
keys strictly increasing, none above `last`) — for ANY cache limits of the new
configuration, i.e. also when entries are evicted while the journal is
replayed. Reason (Proofs/ReplayCacheInv.lean, on top of the replay development
of C02): every `Append` record that `RState.append` accepts during replay has
an id above `last`, hence above every resident key; every `State` record other
than the very first one keeps `last` (the head snapshot of a chunk is the state
reached by replaying the previous chunks: `RepC`/`RunG`); the very first record
is replayed into an empty cache.
-/
import RaftLogModel.Proofs.ReplayCacheInv
import RaftLogModel.Props.C02
import RaftLogModel.Props.C15
namespace RaftLog

/-- One clean drop + reopen, from the invariants. -/
theorem c15_restart_step (y : Sys) (r : RefLog) (cfg' : Cfg) (h : CSys y r) (hc : y.Clean) :
    SysCacheInv ((y.step .drop).step (.openWith cfg')) :=
  restart_cacheInv h hc cfg'

/-- **One restart after a history** (the hypotheses of `c02_clean_restart`):
the reopened store's cache accounting is exact, whatever `cfg'`. -/
theorem c15_after_restart (cfg cfg' : Cfg) (steps : List Step) (r : RefLog) (s : Store)
    (hsteps : ∀ st ∈ steps, st.journal = true)
    (hlegal : RefLog.run {} (stepOps steps) = some r)
    (hwf : ∀ op ∈ stepOps steps, op.WF ∧ op.small)
    (halive : ((Sys.fresh cfg).run steps).worker.pc ≠ .dead)
    (hs : ((Sys.fresh cfg).run steps).store = some s)
    (hq : ((Sys.fresh cfg).run steps).worker.quiet = true)
    (hp : s.pending = []) (hrem : s.removed = [])
    (hpost : ((Sys.fresh cfg).run steps).worker.postponed = []) :
    ∃ s', ((((Sys.fresh cfg).run steps).step .drop).step (.openWith cfg')).store = some s' ∧
      s'.cache.size = sumLen s'.cache.items ∧ Sorted s'.cache.items ∧
      KeysLe s'.cache.items s'.st.last := by
  have hC : CSys ((Sys.fresh cfg).run steps) r :=
    run_CSys steps _ {} r (fresh_CSys cfg) hsteps hlegal hwf halive
  have hc : ((Sys.fresh cfg).run steps).Clean := ⟨s, hs, hq, hp, hrem, hpost⟩
  obtain ⟨_, s', _, k⟩ := restart_eq_LIFT hC hc cfg'
  have hs' : ((((Sys.fresh cfg).run steps).step .drop).step (.openWith cfg')).store = some s' := by rw [k.sys]
  have := c15_restart_step _ r cfg' hC hc s' hs'
  exact ⟨s', hs', this.ok.size_eq, this.ok.sorted, this.le_last⟩

/-- The invariants after any number of clean cycles. -/
theorem cycles_cacheInv (segs : List (List Step × Cfg)) : ∀ (y : Sys) (r r' : RefLog), CSys y r →
    SysCacheInv y →
    (∀ seg ∈ segs, ∀ st ∈ seg.1, st.journal = true) → r.run (cycleOps segs) = some r' →
    (∀ op ∈ cycleOps segs, op.WF ∧ op.small) → CleanCycles y segs →
    SysCacheInv (y.runCycles segs) ∧ CSys (y.runCycles segs) r' :=
  cycles_induct c15_restart_step segs

/-- **C15 with restarts.** For every configuration, every list of clean
cycles (each with its own new configuration — any chunk limits, any cache
limits) and every final history `last` of live steps of ANY kind: the final
store's byte counter is the sum of the resident payload sizes, the resident
keys are strictly increasing and none lies above `last`. -/
theorem c15_accounting_exact_with_restarts (cfg : Cfg) (segs : List (List Step × Cfg))
    (last : List Step) (r : RefLog)
    (hsegs : ∀ seg ∈ segs, ∀ st ∈ seg.1, st.journal = true)
    (hlegal : RefLog.run {} (cycleOps segs) = some r)
    (hwf : ∀ op ∈ cycleOps segs, op.WF ∧ op.small)
    (hclean : CleanCycles (Sys.fresh cfg) segs)
    (hlast : ∀ st ∈ last, st.live = true)
    (s : Store) (hs : (((Sys.fresh cfg).runCycles segs).run last).store = some s) :
    s.cache.size = sumLen s.cache.items ∧ Sorted s.cache.items ∧ KeysLe s.cache.items s.st.last := by
  obtain ⟨h1, _⟩ := cycles_cacheInv segs (Sys.fresh cfg) {} r (fresh_CSys cfg) (fresh_cacheInv cfg)
    hsegs hlegal hwf hclean
  have := run_cacheInv _ last hlast h1 s hs
  exact ⟨this.ok.size_eq, this.ok.sorted, this.le_last⟩

theorem cycleOps_append (a b : List (List Step × Cfg)) : cycleOps (a ++ b) = cycleOps a ++ cycleOps b := by
  induction a with
  | nil => rfl
  | cons seg rest ih => simp only [List.cons_append, cycleOps, ih, List.append_assoc]

theorem CleanCycles.prefix {a b : List (List Step × Cfg)} : ∀ {y : Sys}, CleanCycles y (a ++ b) →
    CleanCycles y a := by
  induction a with
  | nil => intro y _; trivial
  | cons seg rest ih =>
    intro y h
    obtain ⟨h1, h2, h3⟩ := h
    exact ⟨h1, h2, ih h3⟩

theorem RefLog.run_prefix_some {r r' : RefLog} {a b : List Op} (h : r.run (a ++ b) = some r') :
    ∃ r1, r.run a = some r1 :=
  (RefLog.run_append_some.mp h).imp fun _ => And.left

/-- **Every point of a run with clean restarts.** `done` are the completed
cycles, `pre` any prefix of the steps of the next segment (the whole run —
`done ++ (pre ++ post, c) :: rest` — is made of legal, accepted, well-formed,
small calls, flushes, worker steps, `workerIdle`, `drain`, with clean
restarts): the store at that point satisfies the invariant. -/
theorem c15_accounting_exact_every_point (cfg : Cfg) (done rest : List (List Step × Cfg))
    (pre post : List Step) (c : Cfg) (r : RefLog)
    (hsegs : ∀ seg ∈ done ++ (pre ++ post, c) :: rest, ∀ st ∈ seg.1, st.journal = true)
    (hlegal : RefLog.run {} (cycleOps (done ++ (pre ++ post, c) :: rest)) = some r)
    (hwf : ∀ op ∈ cycleOps (done ++ (pre ++ post, c) :: rest), op.WF ∧ op.small)
    (hclean : CleanCycles (Sys.fresh cfg) (done ++ (pre ++ post, c) :: rest))
    (s : Store) (hs : (((Sys.fresh cfg).runCycles done).run pre).store = some s) :
    s.cache.size = sumLen s.cache.items ∧ Sorted s.cache.items ∧ KeysLe s.cache.items s.st.last := by
  rw [cycleOps_append] at hlegal hwf
  obtain ⟨r1, hr1⟩ := RefLog.run_prefix_some hlegal
  refine c15_accounting_exact_with_restarts cfg done pre r1
    (fun seg hseg => hsegs seg (List.mem_append_left _ hseg)) hr1
    (fun op hop => hwf op (List.mem_append_left _ hop)) hclean.prefix ?_ s hs
  intro st hst
  apply Step.live_of_journal
  exact hsegs (pre ++ post, c) (List.mem_append_right _ List.mem_cons_self) st
    (List.mem_append_left _ hst)

/-- The two clean cycles of Props/C02.lean satisfy the hypotheses (steps of the
kinds covered, ops legal, well-formed and small, every segment ends clean) … -/
example :
    let segs : List (List Step × Cfg) :=
      [(c02Example, { maxRecords := 3, cacheItems := 1 }),
       ([.call (.append [(⟨2, 3⟩, [7])]), .flush none, .workerIdle], { maxRecords := 2 })]
    (∀ seg ∈ segs, ∀ st ∈ seg.1, st.journal = true) ∧
    (RefLog.run {} (cycleOps segs)).isSome = true ∧
    CleanCycles (Sys.fresh { maxRecords := 2 }) segs := by
  exact ⟨by decide, by decide, by decide +kernel⟩

/-- … and the cache of the store reopened with room for ONE entry is not
empty: the older live entry was evicted during replay, the accounting is
exact (computed by the model). -/
example :
    ((((Sys.fresh { maxRecords := 2 }).run c02Example).step .drop).step
        (.openWith { maxRecords := 3, cacheItems := 1 })).store.map
      (fun s => (s.cache.items, s.cache.size, s.log.length)) = some ([(⟨2, 2⟩, [9])], 1, 2) := by
  decide +kernel

end RaftLog
