/-
Property C11 (names part): the chunk file name `r-<20 grouped digits>.wal` of a
u64 chunk id round-trips through `parseChunkFileName`, has a fixed length, is
injective, and sorts (as a string, lexicographically by character) in the
numeric order of the ids.  All statements are for every `n < 2^64`.
-/
import RaftLogModel.Proofs.Names
namespace RaftLog

/-- Parsing the generated name gives the id back. -/
theorem c11_name_roundtrip : ∀ n, n < U64 → parseChunkFileName (chunkFileName n) = some n := by
  intro n h
  rw [chunkFileName_eq h,
    parse_framed _ (digitsFixed_length 20 n) (digitsFixed_all_digit 20 n),
    digitsValue_digitsFixed, Nat.mod_eq_of_lt (u64_lt_pow20 h), if_pos h]

/-- Every generated name has exactly 32 characters. -/
theorem c11_name_length : ∀ n, n < U64 → (chunkFileName n).length = 32 := by
  intro n h
  rw [chunkFileName_eq h, framed_length _ (digitsFixed_length 20 n)]

/-- Distinct ids get distinct names. -/
theorem c11_name_injective :
    ∀ a b, a < U64 → b < U64 → chunkFileName a = chunkFileName b → a = b := by
  intro a b ha hb h
  have := congrArg parseChunkFileName h
  rw [c11_name_roundtrip a ha, c11_name_roundtrip b hb] at this
  exact Option.some.inj this

/-- The lexicographic order of names (core `LT (List Char)`, i.e.
`List.Lex (· < ·)` on `Char`) is the numeric order of ids. -/
theorem c11_name_order :
    ∀ a b, a < U64 → b < U64 → (a < b ↔ chunkFileName a < chunkFileName b) := by
  intro a b ha hb
  rw [chunkFileName_eq ha, chunkFileName_eq hb,
    framed_lt_iff _ _ (digitsFixed_length 20 a) (digitsFixed_length 20 b),
    digitsFixed_lt_iff, Nat.mod_eq_of_lt (u64_lt_pow20 ha), Nat.mod_eq_of_lt (u64_lt_pow20 hb)]

/-- Non-vacuity: a concrete name, its parse, and a concrete comparison. -/
example : chunkFileName 79 = "r-00_000_000_000_000_000_079.wal".toList ∧
    parseChunkFileName (chunkFileName 79) = some 79 ∧
    chunkFileName 9 < chunkFileName 10 ∧
    chunkFileName (U64 - 1) = "r-18_446_744_073_709_551_615.wal".toList := by
  decide +kernel

end RaftLog
