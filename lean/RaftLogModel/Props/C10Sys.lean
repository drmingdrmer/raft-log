/-
C10 at the SYSTEM level.

`Props/C10.lean` states what `parseChunk` / `Chunk::open` / `RaftLog::open` do with a torn or
zero-filled tail under explicit hypotheses about the directory (`Loads`, "the file is
`encAll rs ++ tail`", a replay hypothesis, a free id). Here those hypotheses are discharged for
the directories the system itself produces: histories from `Sys.fresh cfg` that end clean
(exactly the hypotheses of `c02_clean_restart`), and every clean system reachable through
histories, clean restarts and crash recoveries (`ReachLIFT`).

Throughout, `c` is the NEWEST linked chunk id (`fs.linkedIds = pre ++ [c]`), its file `f` is
`encAll rs` with `rs` well-formed and headed by a `State` record.

(A) `c10_sys_cut_newest` (+ `_inv`, `_reach`): the newest file is cut (`Fs.cutC10S`, the
    Driver's `fsop cut`) at ANY position `k` strictly inside record number `j ≥ 1`
    (`|encAll (rs.take j)| < k < |encAll (rs.take (j+1))|`).
    * `truncate = true`: `open` succeeds; the file is cut to `|encAll (rs.take j)|` bytes (event
      `trunc`, two syncs), a new chunk `c + |encAll (rs.take j)|` is created whose only record is
      the `State` record of the recovered state (the cut chunk stays closed; it is not reused),
      every other file keeps its bytes; the recovered state and index map are exactly those that
      `open` recovers from the directory whose newest file is cut at the record boundary
      `|encAll (rs.take j)|` (an undamaged shorter file, which `open` reuses).
    * `truncate = false`: `open` returns the error `eof`, having only synced the earlier chunks
      (D15: `open` syncs the chunks it keeps); no byte of any file changes.
    EXCLUDED: `j = 0` (a cut inside the head `State` record: the newest chunk is then headless
    and the model removes it, D3 — see `openLoop_headless`); a cut exactly at a record
    boundary gives an undamaged shorter file (the reference directory of (A); `open` reuses it,
    nothing is truncated).

(B) `c10_sys_zero_tail_newest` (+ `_inv`, `_reach`): the newest file followed by `m ≥ 1` zero
    bytes (`Fs.zeroC10S c |f.data| m`, the Driver's `fsop zero`).
    * `truncate = true`: `open` succeeds, the file is cut back to its old contents, a new chunk
      `c + |f.data|` is created; the recovered state and index map are those of the store before
      the restart (`= rl.state`), the closed chunks are the old ones plus `c`.
    * `truncate = false`: `open` fails with `eof` (`m < 28`) or `invalid` (`m ≥ 28`: 28 zero bytes
      are a whole `SaveVote (0,0)` frame whose stored checksum 0 is wrong), bytes untouched.
(B') `c10_sys_zero_from_boundary_inv` (+ `_reach`): more generally the file is overwritten with
    zeros from any record boundary `|encAll (rs.take j)|`, `j ≥ 1`, on.

(C) `c10_sys_zero_tail_recovered_accepts_partial`, only for case (B): the recovered
    store refines the same reference log on state and index keys, no file exists at or beyond
    its open end, and every record that passes the check all public calls go through
    (`StepOK`) is journalled successfully; in particular `saveVote` / `commit` calls and one
    `Append` record accepted by the reference log return `ok`. The batch `append` call, whole
    further histories, and case (A) are not covered (they need the C02 invariant `CSys` for the
    recovered system, which the crash-recovery theorems C05 provide only for crash images,
    i.e. cuts at or above the durable length).

Helpers: `Proofs/C10Sys.lean`.
-/
import RaftLogModel.Proofs.C10Sys
import RaftLogModel.Props.C10
import RaftLogModel.Props.LiftRestart
namespace RaftLog

/-- What "file `c` is cut to `k` bytes" means; the Driver's `fsop cut c k` calls `Fs.truncate` too. -/
theorem c10_sys_cut_spec (fs : Fs) (c k : Nat) : fs.cutC10S c k = fs.truncate c k := rfl

/-- What "the bytes of file `c` from `b` on are replaced by `m` zeros" means; the
Driver's `fsop zero c b m` applies the same update (its own copy). With `b = |data|` this appends
`m` zero bytes. -/
theorem c10_sys_zero_spec (fs : Fs) (c b m : Nat) :
    fs.zeroC10S c b m = fs.update c fun f =>
      { f with data := f.data.take b ++ List.replicate m 0, durable := min f.durable b } := rfl

/-- The frame condition used below: both lookups fail, or both give a file with the same id,
bytes and link flag (only the `durable` mark may differ). -/
theorem c10_sys_sameBytes_spec (a b : Option File) :
    sameBytesC10S a b ↔
      a.map (fun g => (g.id, g.data, g.linked)) = b.map (fun g => (g.id, g.data, g.linked)) :=
  Iff.rfl

/-- The conclusion of (A) for a directory `fs` whose linked ids are `pre ++ [c]`, with `s` the
store before the restart. -/
def C10CutNewest (fs : Fs) (pre : List Nat) (c : Nat) (s : Store) : Prop :=
  ∃ f rs, fs.find c = some f ∧ f.linked = true ∧ f.data = encAll rs ∧ AllWF rs ∧
    (∃ st tl, rs = .state st :: tl) ∧
    ∀ j k, 1 ≤ j → (encAll (rs.take j)).length < k → k < (encAll (rs.take (j + 1))).length →
    ∃ stJ lJ,
      -- the damaged directory: file `c` holds the complete records `rs.take j` and a torn piece
      (fs.cutC10S c k).find c
        = some { f with data := (encAll rs).take k, durable := min f.durable k } ∧
      (∃ pfx, pfx ≠ [] ∧ (encAll rs).take k = encAll (rs.take j) ++ pfx) ∧
      -- reference: the newest file cut at the record boundary is undamaged; `open` reuses it
      (∀ cfg', ∃ s0 w0,
        openStore cfg' (fs.cutC10S c (encAll (rs.take j)).length)
          = (.ok (s0, w0), (fs.cutC10S c (encAll (rs.take j)).length).syncAll (pre ++ [c]),
              syncEvs (pre ++ [c])) ∧
        s0.st = stJ ∧ s0.log = lJ ∧ s0.closed = s.closed ∧
        s0.openOffsets = offsetsFrom c (sizes (rs.take j))) ∧
      (∀ cfg', cfg'.truncate = true → ∃ s' w' fs'',
        openStore cfg' (fs.cutC10S c k) = (.ok (s', w'), fs'',
          syncEvs pre ++ [.trunc "o" c (encAll (rs.take j)).length, .sync "o" c true,
            .sync "o" c true, .create "o" (c + (encAll (rs.take j)).length) true,
            .write "o" (c + (encAll (rs.take j)).length) (encRecord (.state stJ)) true]) ∧
        s'.st = stJ ∧ s'.log = lJ ∧
        s'.closed = s.closed ++ [⟨offsetsFrom c (sizes (rs.take j)), stJ⟩] ∧ s'.pending = [] ∧
        s'.openOffsets = [c + (encAll (rs.take j)).length,
          c + (encAll (rs.take j)).length + (encRecord (.state stJ)).length] ∧
        w'.files = [⟨c + (encAll (rs.take j)).length, stJ.last⟩] ∧
        fs''.find c = some { f with data := encAll (rs.take j),
                                    durable := (encAll (rs.take j)).length } ∧
        fs''.find (c + (encAll (rs.take j)).length)
          = some { id := c + (encAll (rs.take j)).length, data := encRecord (.state stJ),
                   durable := 0, linked := true } ∧
        ∀ id, id ≠ c → id ≠ c + (encAll (rs.take j)).length →
          sameBytesC10S (fs''.find id) (fs.find id)) ∧
      (∀ cfg', cfg'.truncate = false →
        openStore cfg' (fs.cutC10S c k)
          = (.err .eof, (fs.cutC10S c k).syncAll pre, syncEvs pre) ∧
        (∀ e ∈ syncEvs pre, ∃ id, e = Ev.sync "o" id true) ∧
        ∀ i, sameBytesC10S (((fs.cutC10S c k).syncAll pre).find i) ((fs.cutC10S c k).find i))

/-- (A), invariant form: `y` satisfies the C02 invariant `CSys y rl` and is clean. -/
theorem c10_sys_cut_newest_inv {y : Sys} {rl : RefLog} (h : CSys y rl) (hc : y.Clean)
    (pre : List Nat) (c : Nat) (hsplit : y.fs.linkedIds = pre ++ [c]) :
    ∃ s, y.store = some s ∧ s.st = rl.state ∧ C10CutNewest y.fs pre c s := by
  obtain ⟨f, rs, s, hs, hst, k1, k2, k3, k4, k5, _, k6⟩ := sys_torn_newestC10S h hc hsplit
  refine ⟨s, hs, hst, f, rs, k1, k2, k3, k4, k5, ?_⟩
  intro j k hj h1 h2
  have hne : rs.take j ≠ [] := take_ne_nil_of_headC10S k5 hj
  obtain ⟨stJ, lJ, _, hg⟩ := k6 (rs.take j) (rs.drop j) (List.take_append_drop j rs).symm hne
  obtain ⟨r, pfx, _, hr, hcut, hpfx, _⟩ := take_insideC10S rs k4 j k h1 h2
  obtain ⟨_, gB, gC⟩ := hg (File.cutC10S k) (fun _ => rfl) (fun _ => rfl)
  obtain ⟨gA, _, _⟩ := hg (File.cutC10S (encAll (rs.take j)).length) (fun _ => rfl) (fun _ => rfl)
  have hdk : (File.cutC10S k f).data = encAll (rs.take j) ++ pfx := by
    show f.data.take k = _
    rw [k3]; exact hcut
  refine ⟨stJ, lJ, ?_, ⟨pfx, hpfx.1, hcut⟩, ?_, ?_, ?_⟩
  · have := Fs.find_update_self k1 (File.cutC10S k) (fun _ => rfl)
    rw [File.cutC10S, k3] at this
    exact this
  · intro cfg'
    obtain ⟨s0, w0, e1, e2, e3, e4, _, e6, _⟩ := gA
      (by show f.data.take _ = _; rw [k3]; exact encAll_take_boundaryC10S rs j) cfg'
    exact ⟨s0, w0, e1, e2, e3, e4, e6⟩
  · intro cfg' ht
    obtain ⟨t, ht1, ht2⟩ := hpfx.2
    obtain ⟨s', w', fs'', e⟩ := gB pfx hdk (Or.inl ⟨hpfx.1, r, t, hr, ht1, ht2⟩) cfg' ht
    exact ⟨s', w', fs'', e⟩
  · intro cfg' hf
    refine ⟨gC pfx .eof cfg' hdk ?_, syncEvs_isOpenSync pre, fun i => sameBytes_syncAllC10S _ _ _⟩
    rw [c10_cut_truncate cfg' c (k4.take j) hr hpfx, hf]
    rfl

/-- **C10 (A), the newest file cut inside a record, system level.** `y` is reached from a
freshly opened store by a history as in `c02_clean_restart` (journal steps; calls legal for the
reference log, well-formed and small; at the end the worker is alive and quiet, nothing
pending, no removal outstanding). Dropping the store does not change the files. Let `c` be the
newest linked chunk id. Then `C10CutNewest` holds: for every cut position strictly inside a
record other than the head record, `open` with truncation cuts the file to the end of the last
complete record, creates a fresh open chunk there and recovers exactly the state and index map
that `open` recovers from the directory cut at that record boundary; without truncation it
fails with `eof` and changes no byte. -/
theorem c10_sys_cut_newest (cfg : Cfg) (steps : List Step) (rl : RefLog) (s : Store)
    (hsteps : ∀ st ∈ steps, st.journal = true)
    (hlegal : RefLog.run {} (stepOps steps) = some rl)
    (hwf : ∀ op ∈ stepOps steps, op.WF ∧ op.small)
    (halive : ((Sys.fresh cfg).run steps).worker.pc ≠ .dead)
    (hs : ((Sys.fresh cfg).run steps).store = some s)
    (hq : ((Sys.fresh cfg).run steps).worker.quiet = true)
    (hp : s.pending = []) (hrem : s.removed = [])
    (hpost : ((Sys.fresh cfg).run steps).worker.postponed = [])
    (pre : List Nat) (c : Nat) :
    let y := (Sys.fresh cfg).run steps
    let fs := (y.step .drop).fs
    fs.linkedIds = pre ++ [c] →
    fs = y.fs ∧ s.st = rl.state ∧ C10CutNewest fs pre c s := by
  intro y fs hsplit
  have hC : CSys y rl := run_CSys steps _ {} rl (fresh_CSys cfg) hsteps hlegal hwf halive
  have hc : y.Clean := ⟨s, hs, hq, hp, hrem, hpost⟩
  have hfs' : fs = y.fs := hc.drop_fs hC
  rw [hfs'] at hsplit ⊢
  obtain ⟨s1, hs1, hst, hcut⟩ := c10_sys_cut_newest_inv hC hc pre c hsplit
  cases hs1.symm.trans hs
  exact ⟨rfl, hst, hcut⟩

/-- (A) for every reachable system (`ReachLIFT`: histories, clean restarts and crash
recoveries in any order) that is clean. -/
theorem c10_sys_cut_newest_reach {y : Sys} (h : ReachLIFT y) (hc : y.Clean)
    (pre : List Nat) (c : Nat) (hsplit : y.fs.linkedIds = pre ++ [c]) :
    ∃ s, y.store = some s ∧ C10CutNewest y.fs pre c s :=
  let ⟨_, hC⟩ := h.csys
  let ⟨s, hs, _, hcut⟩ := c10_sys_cut_newest_inv hC hc pre c hsplit
  ⟨s, hs, hcut⟩

/-- The conclusion of (B') for a directory `fs` whose linked ids are `pre ++ [c]`: the newest
file is overwritten with `m ≥ 1` zeros from the record boundary `|encAll (rs.take j)|` on
(`j ≥ 1`; `j ≥ |rs|`: the zeros are appended). -/
def C10ZeroNewest (fs : Fs) (pre : List Nat) (c : Nat) (s : Store) : Prop :=
  ∃ f rs, fs.find c = some f ∧ f.linked = true ∧ f.data = encAll rs ∧ AllWF rs ∧
    (∃ st tl, rs = .state st :: tl) ∧
    ∀ j m, 1 ≤ j → 1 ≤ m →
    ∃ stJ lJ, (rs.length ≤ j → stJ = s.st ∧ lJ = s.log) ∧
      (fs.zeroC10S c (encAll (rs.take j)).length m).find c
        = some { f with data := encAll (rs.take j) ++ List.replicate m 0,
                        durable := min f.durable (encAll (rs.take j)).length } ∧
      -- reference: the newest file cut at the record boundary is undamaged; `open` reuses it
      (∀ cfg', ∃ s0 w0,
        openStore cfg' (fs.cutC10S c (encAll (rs.take j)).length)
          = (.ok (s0, w0), (fs.cutC10S c (encAll (rs.take j)).length).syncAll (pre ++ [c]),
              syncEvs (pre ++ [c])) ∧
        s0.st = stJ ∧ s0.log = lJ ∧ s0.closed = s.closed ∧
        s0.openOffsets = offsetsFrom c (sizes (rs.take j))) ∧
      (∀ cfg', cfg'.truncate = true → ∃ s' w' fs'',
        openStore cfg' (fs.zeroC10S c (encAll (rs.take j)).length m) = (.ok (s', w'), fs'',
          syncEvs pre ++ [.trunc "o" c (encAll (rs.take j)).length, .sync "o" c true,
            .sync "o" c true, .create "o" (c + (encAll (rs.take j)).length) true,
            .write "o" (c + (encAll (rs.take j)).length) (encRecord (.state stJ)) true]) ∧
        s'.st = stJ ∧ s'.log = lJ ∧
        s'.closed = s.closed ++ [⟨offsetsFrom c (sizes (rs.take j)), stJ⟩] ∧ s'.pending = [] ∧
        s'.openOffsets = [c + (encAll (rs.take j)).length,
          c + (encAll (rs.take j)).length + (encRecord (.state stJ)).length] ∧
        w'.files = [⟨c + (encAll (rs.take j)).length, stJ.last⟩] ∧
        fs''.find c = some { f with data := encAll (rs.take j),
                                    durable := (encAll (rs.take j)).length } ∧
        fs''.find (c + (encAll (rs.take j)).length)
          = some { id := c + (encAll (rs.take j)).length, data := encRecord (.state stJ),
                   durable := 0, linked := true } ∧
        ∀ id, id ≠ c → id ≠ c + (encAll (rs.take j)).length →
          sameBytesC10S (fs''.find id) (fs.find id)) ∧
      (∀ cfg', cfg'.truncate = false →
        openStore cfg' (fs.zeroC10S c (encAll (rs.take j)).length m)
          = (.err (if m < 28 then .eof else .invalid),
              (fs.zeroC10S c (encAll (rs.take j)).length m).syncAll pre, syncEvs pre) ∧
        (∀ e ∈ syncEvs pre, ∃ id, e = Ev.sync "o" id true) ∧
        ∀ i, sameBytesC10S (((fs.zeroC10S c (encAll (rs.take j)).length m).syncAll pre).find i)
          ((fs.zeroC10S c (encAll (rs.take j)).length m).find i))

/-- (B'), invariant form. -/
theorem c10_sys_zero_from_boundary_inv {y : Sys} {rl : RefLog} (h : CSys y rl) (hc : y.Clean)
    (pre : List Nat) (c : Nat) (hsplit : y.fs.linkedIds = pre ++ [c]) :
    ∃ s, y.store = some s ∧ s.st = rl.state ∧ C10ZeroNewest y.fs pre c s := by
  obtain ⟨f, rs, s, hs, hst, k1, k2, k3, k4, k5, _, k6⟩ := sys_torn_newestC10S h hc hsplit
  refine ⟨s, hs, hst, f, rs, k1, k2, k3, k4, k5, ?_⟩
  intro j m hj hm
  have hne : rs.take j ≠ [] := take_ne_nil_of_headC10S k5 hj
  obtain ⟨stJ, lJ, hfull, hg⟩ := k6 (rs.take j) (rs.drop j) (List.take_append_drop j rs).symm hne
  obtain ⟨_, gB, gC⟩ := hg (File.zeroC10S (encAll (rs.take j)).length m) (fun _ => rfl) (fun _ => rfl)
  obtain ⟨gA, _, _⟩ := hg (File.cutC10S (encAll (rs.take j)).length) (fun _ => rfl) (fun _ => rfl)
  have htk : f.data.take (encAll (rs.take j)).length = encAll (rs.take j) := by
    rw [k3]; exact encAll_take_boundaryC10S rs j
  have hwf1 : AllWF (rs.take j) := k4.take j
  refine ⟨stJ, lJ, ?_, ?_, ?_, ?_, ?_⟩
  · intro hle
    exact hfull (List.drop_eq_nil_of_le hle)
  · have := Fs.find_update_self k1 (File.zeroC10S (encAll (rs.take j)).length m) (fun _ => rfl)
    rw [File.zeroC10S, htk] at this
    exact this
  · intro cfg'
    obtain ⟨s0, w0, e1, e2, e3, e4, _, e6, _⟩ := gA htk cfg'
    exact ⟨s0, w0, e1, e2, e3, e4, e6⟩
  · intro cfg' ht
    obtain ⟨s', w', fs'', e⟩ := gB (List.replicate m 0)
      (by show f.data.take _ ++ _ = _; rw [htk]) (Or.inr ⟨m, hm, rfl⟩) cfg' ht
    exact ⟨s', w', fs'', e⟩
  · intro cfg' hf
    refine ⟨gC (List.replicate m 0) _ cfg' (by show f.data.take _ ++ _ = _; rw [htk]) ?_,
      syncEvs_isOpenSync pre, fun i => sameBytes_syncAllC10S _ _ _⟩
    rw [c10_zero_truncate cfg' c hwf1 hm, hf]
    by_cases h28 : m < 28 <;> simp [h28]

/-- (B') for every reachable clean system. -/
theorem c10_sys_zero_from_boundary_reach {y : Sys} (h : ReachLIFT y) (hc : y.Clean)
    (pre : List Nat) (c : Nat) (hsplit : y.fs.linkedIds = pre ++ [c]) :
    ∃ s, y.store = some s ∧ C10ZeroNewest y.fs pre c s :=
  let ⟨_, hC⟩ := h.csys
  let ⟨s, hs, _, hz⟩ := c10_sys_zero_from_boundary_inv hC hc pre c hsplit
  ⟨s, hs, hz⟩

/-- (B), invariant form: `m ≥ 1` zero bytes are appended to the newest file `c` (whose bytes
are `f.data`). With truncation `open` succeeds: the file is cut back to `f.data`, a fresh chunk
`c + |f.data|` is created, the recovered state and index map are those of the store before the
restart, the state is `rl.state`; without truncation `open` fails (`eof` for `m < 28`,
`invalid` otherwise) and changes no byte. -/
theorem c10_sys_zero_tail_newest_inv {y : Sys} {rl : RefLog} (h : CSys y rl) (hc : y.Clean)
    (pre : List Nat) (c : Nat) (hsplit : y.fs.linkedIds = pre ++ [c]) :
    ∃ s f, y.store = some s ∧ s.st = rl.state ∧ y.fs.find c = some f ∧ f.linked = true ∧
      ∀ m, 1 ≤ m →
      (y.fs.zeroC10S c f.data.length m).find c
        = some { f with data := f.data ++ List.replicate m 0,
                        durable := min f.durable f.data.length } ∧
      (∀ cfg', cfg'.truncate = true → ∃ s' w' fs'',
        openStore cfg' (y.fs.zeroC10S c f.data.length m) = (.ok (s', w'), fs'',
          syncEvs pre ++ [.trunc "o" c f.data.length, .sync "o" c true,
            .sync "o" c true, .create "o" (c + f.data.length) true,
            .write "o" (c + f.data.length) (encRecord (.state s.st)) true]) ∧
        s'.st = s.st ∧ s'.st = rl.state ∧ s'.log = s.log ∧
        s'.closed = s.closed ++ [⟨s.openOffsets, s.st⟩] ∧ s'.pending = [] ∧
        s'.openOffsets = [c + f.data.length,
          c + f.data.length + (encRecord (.state s.st)).length] ∧
        w'.files = [⟨c + f.data.length, s.st.last⟩] ∧
        fs''.find c = some { f with durable := f.data.length } ∧
        fs''.find (c + f.data.length)
          = some { id := c + f.data.length, data := encRecord (.state s.st),
                   durable := 0, linked := true } ∧
        ∀ id, id ≠ c → id ≠ c + f.data.length → sameBytesC10S (fs''.find id) (y.fs.find id)) ∧
      (∀ cfg', cfg'.truncate = false →
        openStore cfg' (y.fs.zeroC10S c f.data.length m)
          = (.err (if m < 28 then .eof else .invalid),
              (y.fs.zeroC10S c f.data.length m).syncAll pre, syncEvs pre) ∧
        (∀ e ∈ syncEvs pre, ∃ id, e = Ev.sync "o" id true) ∧
        ∀ i, sameBytesC10S (((y.fs.zeroC10S c f.data.length m).syncAll pre).find i)
          ((y.fs.zeroC10S c f.data.length m).find i)) := by
  obtain ⟨f, rs, s, hs, hst, k1, k2, k3, k4, k5, ⟨hoffs, _, _⟩, k6⟩ := sys_torn_newestC10S h hc hsplit
  have hne : rs ≠ [] := by
    obtain ⟨st, tl, e⟩ := k5
    subst e
    simp
  obtain ⟨stJ, lJ, hfull, hg⟩ := k6 rs [] (List.append_nil rs).symm hne
  obtain ⟨rfl, rfl⟩ := hfull rfl
  refine ⟨s, f, hs, hst, k1, k2, ?_⟩
  intro m hm
  obtain ⟨_, gB, gC⟩ := hg (File.zeroC10S f.data.length m) (fun _ => rfl) (fun _ => rfl)
  have hdz : (File.zeroC10S f.data.length m f).data = encAll rs ++ List.replicate m 0 := by
    show f.data.take f.data.length ++ _ = _
    rw [List.take_length, k3]
  have hlen : (encAll rs).length = f.data.length := by rw [k3]
  refine ⟨?_, ?_, ?_⟩
  · have := Fs.find_update_self k1 (File.zeroC10S f.data.length m) (fun _ => rfl)
    rw [File.zeroC10S, List.take_length] at this
    exact this
  · intro cfg' ht
    obtain ⟨s', w', fs'', g1, g2, g3, g4, g5, g6, g7, g8, g9, g10⟩ :=
      gB (List.replicate m 0) hdz (Or.inr ⟨m, hm, rfl⟩) cfg' ht
    rw [hlen] at g1 g6 g7 g8 g9 g10
    rw [hoffs] at g4
    refine ⟨s', w', fs'', g1, g2, g2.trans hst, g3, g4, g5, g6, g7, ?_, g9, g10⟩
    rw [g8, ← k3]
    rfl
  · intro cfg' hf
    refine ⟨gC (List.replicate m 0) _ cfg' hdz ?_,
      syncEvs_isOpenSync pre, fun i => sameBytes_syncAllC10S _ _ _⟩
    rw [c10_zero_truncate cfg' c k4 hm, hf]
    by_cases h28 : m < 28 <;> simp [h28]

/-- **C10 (B), zero bytes after the newest file, system level.** History hypotheses as in
`c02_clean_restart`; `c` the newest linked chunk id. -/
theorem c10_sys_zero_tail_newest (cfg : Cfg) (steps : List Step) (rl : RefLog) (s : Store)
    (hsteps : ∀ st ∈ steps, st.journal = true)
    (hlegal : RefLog.run {} (stepOps steps) = some rl)
    (hwf : ∀ op ∈ stepOps steps, op.WF ∧ op.small)
    (halive : ((Sys.fresh cfg).run steps).worker.pc ≠ .dead)
    (hs : ((Sys.fresh cfg).run steps).store = some s)
    (hq : ((Sys.fresh cfg).run steps).worker.quiet = true)
    (hp : s.pending = []) (hrem : s.removed = [])
    (hpost : ((Sys.fresh cfg).run steps).worker.postponed = [])
    (pre : List Nat) (c : Nat) :
    let y := (Sys.fresh cfg).run steps
    let fs := (y.step .drop).fs
    fs.linkedIds = pre ++ [c] →
    fs = y.fs ∧ s.st = rl.state ∧
    ∃ f, fs.find c = some f ∧ f.linked = true ∧
      ∀ m, 1 ≤ m →
      (fs.zeroC10S c f.data.length m).find c
        = some { f with data := f.data ++ List.replicate m 0,
                        durable := min f.durable f.data.length } ∧
      (∀ cfg', cfg'.truncate = true → ∃ s' w' fs'',
        openStore cfg' (fs.zeroC10S c f.data.length m) = (.ok (s', w'), fs'',
          syncEvs pre ++ [.trunc "o" c f.data.length, .sync "o" c true,
            .sync "o" c true, .create "o" (c + f.data.length) true,
            .write "o" (c + f.data.length) (encRecord (.state s.st)) true]) ∧
        s'.st = s.st ∧ s'.st = rl.state ∧ s'.log = s.log ∧
        s'.closed = s.closed ++ [⟨s.openOffsets, s.st⟩] ∧ s'.pending = [] ∧
        s'.openOffsets = [c + f.data.length,
          c + f.data.length + (encRecord (.state s.st)).length] ∧
        w'.files = [⟨c + f.data.length, s.st.last⟩] ∧
        fs''.find c = some { f with durable := f.data.length } ∧
        fs''.find (c + f.data.length)
          = some { id := c + f.data.length, data := encRecord (.state s.st),
                   durable := 0, linked := true } ∧
        ∀ id, id ≠ c → id ≠ c + f.data.length → sameBytesC10S (fs''.find id) (fs.find id)) ∧
      (∀ cfg', cfg'.truncate = false →
        openStore cfg' (fs.zeroC10S c f.data.length m)
          = (.err (if m < 28 then .eof else .invalid),
              (fs.zeroC10S c f.data.length m).syncAll pre, syncEvs pre) ∧
        (∀ e ∈ syncEvs pre, ∃ id, e = Ev.sync "o" id true) ∧
        ∀ i, sameBytesC10S (((fs.zeroC10S c f.data.length m).syncAll pre).find i)
          ((fs.zeroC10S c f.data.length m).find i)) := by
  intro y fs hsplit
  have hC : CSys y rl := run_CSys steps _ {} rl (fresh_CSys cfg) hsteps hlegal hwf halive
  have hc : y.Clean := ⟨s, hs, hq, hp, hrem, hpost⟩
  have hfs' : fs = y.fs := hc.drop_fs hC
  rw [hfs'] at hsplit ⊢
  obtain ⟨s1, f, hs1, hst, rest⟩ := c10_sys_zero_tail_newest_inv hC hc pre c hsplit
  cases hs1.symm.trans hs
  exact ⟨rfl, hst, f, rest⟩

/-- (B) for every reachable clean system. -/
theorem c10_sys_zero_tail_newest_reach {y : Sys} (h : ReachLIFT y) (hc : y.Clean)
    (pre : List Nat) (c : Nat) (hsplit : y.fs.linkedIds = pre ++ [c]) :
    ∃ (rl : RefLog) (s : Store) (f : File), y.store = some s ∧ s.st = rl.state ∧
      y.fs.find c = some f ∧ f.linked = true ∧
      ∀ m, 1 ≤ m →
      (∀ cfg', cfg'.truncate = true → ∃ s' w' fs'',
        openStore cfg' (y.fs.zeroC10S c f.data.length m) = (.ok (s', w'), fs'',
          syncEvs pre ++ [.trunc "o" c f.data.length, .sync "o" c true,
            .sync "o" c true, .create "o" (c + f.data.length) true,
            .write "o" (c + f.data.length) (encRecord (.state s.st)) true]) ∧
        s'.st = s.st ∧ s'.log = s.log ∧ s'.pending = [] ∧
        fs''.find c = some { f with durable := f.data.length } ∧
        ∀ id, id ≠ c → id ≠ c + f.data.length → sameBytesC10S (fs''.find id) (y.fs.find id)) ∧
      (∀ cfg', cfg'.truncate = false →
        openStore cfg' (y.fs.zeroC10S c f.data.length m)
          = (.err (if m < 28 then .eof else .invalid),
              (y.fs.zeroC10S c f.data.length m).syncAll pre, syncEvs pre)) := by
  obtain ⟨rl, hC⟩ := h.csys
  obtain ⟨s, f, hs, hst, k1, k2, k3⟩ := c10_sys_zero_tail_newest_inv hC hc pre c hsplit
  refine ⟨rl, s, f, hs, hst, k1, k2, fun m hm => ?_⟩
  obtain ⟨_, e2, e3⟩ := k3 m hm
  refine ⟨fun cfg' ht => ?_, fun cfg' hf => (e3 cfg' hf).1⟩
  obtain ⟨s', w', fs'', g1, g2, _, g3, _, g5, _, _, g8, _, g10⟩ := e2 cfg' ht
  exact ⟨s', w', fs'', g1, g2, g3, g5, g8, g10⟩

/-- **(C), only for case (B), and at the level of journalled records.** After the
zero tail was cut (truncation enabled) the returned store `s'` refines the same reference log
`rl` on state and index keys, no file exists at or beyond its open end, and every record whose
journalling moves `rl` to `r'` (`StepOK s' rl r' rec`: the check all public calls go through;
`stepOK_plain`, `stepOK_append1`, `stepOK_truncateAfter`, `stepOK_purgeUpto` produce it from
what the reference log accepts) is accepted by `appendAndApply` at the open end, and the new
store refines `r'`. In particular the calls `saveVote` and `commit` that `rl` accepts return
`ok`, and so does the journalling of one `Append` record that `rl` accepts.
NOT proved: the batch `append` call, `truncate`, `purge`, `saveUserData` as `call`s, the
continuation for whole histories (that needs the full C02 invariant for the recovered
system), and anything for case (A) (no reference log for the cut-off state is at hand). -/
theorem c10_sys_zero_tail_recovered_accepts_partial {y : Sys} {rl : RefLog} (h : CSys y rl)
    (hc : y.Clean) (pre : List Nat) (c : Nat) (hsplit : y.fs.linkedIds = pre ++ [c]) :
    ∃ f, y.fs.find c = some f ∧ ∀ m, 1 ≤ m → ∀ cfg', cfg'.truncate = true →
      ∃ s' w' fs'' evs,
        openStore cfg' (y.fs.zeroC10S c f.data.length m) = (.ok (s', w'), fs'', evs) ∧
        s'.st = rl.state ∧ logKeys s'.log = entKeys rl.entries ∧
        (∀ i, s'.openEnd ≤ i → fs''.has i = false) ∧
        (∀ rec r', StepOK s' rl r' rec → ∃ s2 effs,
          s'.appendAndApply fs''.has rec
            = (.ok ⟨s'.openEnd, (encRecord rec).length⟩, s2, effs) ∧
          s2.st = r'.state ∧ logKeys s2.log = entKeys r'.entries) ∧
        (∀ v r', rl.call (.saveVote v) = .ok r' →
          ∃ seg, (s'.call fs''.has (.saveVote v)).1 = .ok seg) ∧
        (∀ id r', rl.call (.commit id) = .ok r' →
          ∃ seg, (s'.call fs''.has (.commit id)).1 = .ok seg) ∧
        (∀ id p r', rl.append1 id p = .ok r' → smallId id → ∃ seg s2 effs,
          s'.appendAndApply fs''.has (.append id p) = (.ok seg, s2, effs)) := by
  obtain ⟨f0, rs0, s0, hs0, _, kf0, _, _, _, _, ⟨_, habs, hnofile⟩, _⟩ :=
    sys_torn_newestC10S h hc hsplit
  obtain ⟨s, f, hs, hst, k1, k2, k3⟩ := c10_sys_zero_tail_newest_inv h hc pre c hsplit
  cases hs0.symm.trans hs
  refine ⟨f, k1, fun m hm cfg' ht => ?_⟩
  obtain ⟨_, e2, _⟩ := k3 m hm
  obtain ⟨s', w', fs'', g1, g2, g3, g4, g5, g6, g7, g8, g9, g10, g11⟩ := e2 cfg' ht
  have hlenpos := encRecord_length_pos (.state s0.st)
  have hend : s'.openEnd = c + f.data.length + (encRecord (.state s0.st)).length := by
    simp [Store.openEnd, lastOff, g7]
  have habs' : Abs s' rl :=
    ⟨g3, by rw [g4]; exact habs.log, habs.wf,
      ⟨by rw [g7]; simp, by rw [g2]; exact habs.pf.purged, by rw [g2]; exact habs.pf.last,
        by rw [g4]; exact habs.pf.log⟩⟩
  have hfs : ∀ i, s'.openEnd ≤ i → fs''.has i = false := by
    intro i hi
    rw [hend] at hi
    rw [sameBytes_hasC10S (g11 i (by omega) (by omega))]
    exact hnofile i (by omega)
  have hst' : ∀ rec r', StepOK s' rl r' rec → ∃ s2 effs,
      s'.appendAndApply fs''.has rec = (.ok ⟨s'.openEnd, (encRecord rec).length⟩, s2, effs) ∧
      Abs s2 r' := fun rec r' ok => abs_step fs''.has habs' hfs ok
  have accepted : ∀ (op : Op) r', rl.legal op = true → rl.call op = .ok r' → op.small →
      ∃ seg, (s'.call fs''.has op).1 = .ok seg := fun op r' hl hcall hsm =>
    let ⟨seg, _, _, e, _⟩ := habs'.call_accepted fs''.has hfs hl hcall hsm
    ⟨seg, congrArg Prod.fst e⟩
  refine ⟨s', w', fs'', _, g1, g3, habs'.log, hfs, ?_, ?_, ?_, ?_⟩
  · intro rec r' ok
    obtain ⟨s2, effs, e1, e2⟩ := hst' rec r' ok
    exact ⟨s2, effs, e1, e2.st, e2.log⟩
  · exact fun v r' hcall => accepted _ r' (by simp [RefLog.legal, hcall]) hcall True.intro
  · exact fun id r' hcall => accepted _ r' (by simp [RefLog.legal, hcall]) hcall True.intro
  · intro id p r' happ hsm
    obtain ⟨s2, effs, e1, _⟩ := hst' (.append id p) r' (stepOK_append1 habs' happ hsm)
    exact ⟨_, s2, effs, e1⟩

/-- The history `c02Example`, run with at most four records per chunk, satisfies the hypotheses
of `c02_clean_restart` (hence of the theorems above), computed by the model. (With
`maxRecords := 2`, as in `Props/C02.lean`, the newest chunk of a quiet store never holds more
than its head record, so (A) would have no cut position.) -/
example :
    (∀ st ∈ c02Example, st.journal = true) ∧
    (RefLog.run {} (stepOps c02Example)).isSome = true ∧
    (∀ op ∈ stepOps c02Example, op.WF ∧ op.small) ∧
    ((Sys.fresh { maxRecords := 4 }).run c02Example).worker.pc ≠ .dead ∧
    ((Sys.fresh { maxRecords := 4 }).run c02Example).worker.quiet = true ∧
    ((Sys.fresh { maxRecords := 4 }).run c02Example).worker.postponed = [] ∧
    (∃ s, ((Sys.fresh { maxRecords := 4 }).run c02Example).store = some s ∧ s.pending = [] ∧
      s.removed = []) := by
  decide +kernel

/-- It ends with three linked chunk files; the newest one, `260`, holds three records of 50,
28 and 71 bytes (149 bytes, all durable). -/
example :
    ((Sys.fresh { maxRecords := 4 }).run c02Example).fs.linkedIds = [0, 114] ++ [260] ∧
    (((Sys.fresh { maxRecords := 4 }).run c02Example).fs.find 260).map
      (fun f => ((parseChunk f.data).1.map (·.2), f.data.length, f.durable))
      = some ([50, 28, 71], 149, 149) := by decide +kernel

/-- (A) with truncation: file `260` cut at byte 100 (inside the third record, `j = 2`:
`78 < 100 < 149`). `open` cuts it to 78 bytes, creates chunk `260 + 78 = 338` and recovers the
state and index map that it recovers from the directory cut at byte 78; the other files keep
their bytes. Computed by the model, as the theorem says. -/
example :
    (openStore {} (((Sys.fresh { maxRecords := 4 }).run c02Example).fs.cutC10S 260 100)).2.2
      = [.sync "o" 0 true, .sync "o" 114 true, .trunc "o" 260 78, .sync "o" 260 true,
         .sync "o" 260 true, .create "o" 338 true,
         .write "o" 338
           (encRecord (.state { vote := some ⟨1, 7⟩, last := some ⟨2, 2⟩, purged := some ⟨1, 0⟩ }))
           true] ∧
    (match (openStore {} (((Sys.fresh { maxRecords := 4 }).run c02Example).fs.cutC10S 260 100)).1 with
      | .ok (s, _) => some (s.st, s.log, s.openOffsets)
      | _ => none)
      = some ({ vote := some ⟨1, 7⟩, last := some ⟨2, 2⟩, purged := some ⟨1, 0⟩ },
          (match (openStore {} (((Sys.fresh { maxRecords := 4 }).run c02Example).fs.cutC10S 260 78)).1 with
            | .ok (s, _) => s.log
            | _ => []),
          [338, 338 + 66]) ∧
    (match (openStore {} (((Sys.fresh { maxRecords := 4 }).run c02Example).fs.cutC10S 260 78)).1 with
      | .ok (s, _) => some (s.st, s.openOffsets)
      | _ => none)
      = some ({ vote := some ⟨1, 7⟩, last := some ⟨2, 2⟩, purged := some ⟨1, 0⟩ }, [260, 310, 338]) ∧
    ((openStore {} (((Sys.fresh { maxRecords := 4 }).run c02Example).fs.cutC10S 260 100)).2.1.find 260).map
      (fun f => (f.data.length, f.durable)) = some (78, 78) := by
  decide +kernel

/-- (A) without truncation: the same cut; `open` fails with `eof` after syncing `0` and `114`;
the directory is the damaged one with those two sync marks. -/
example :
    openStore { truncate := false }
      (((Sys.fresh { maxRecords := 4 }).run c02Example).fs.cutC10S 260 100)
    = (.err .eof,
        (((Sys.fresh { maxRecords := 4 }).run c02Example).fs.cutC10S 260 100).syncAll [0, 114],
        [.sync "o" 0 true, .sync "o" 114 true]) := by
  decide +kernel

/-- (B): 5 and 40 zero bytes after the 149 bytes of file `260`. With truncation the file is cut
back to 149 bytes, chunk `409` is created and the state is the one before the restart; without
truncation `open` fails with `eof` (5 zeros) resp. `invalid` (40 zeros). -/
example :
    (openStore {} (((Sys.fresh { maxRecords := 4 }).run c02Example).fs.zeroC10S 260 149 5)).2.2
      = [.sync "o" 0 true, .sync "o" 114 true, .trunc "o" 260 149, .sync "o" 260 true,
         .sync "o" 260 true, .create "o" 409 true,
         .write "o" 409
           (encRecord (.state { vote := some ⟨1, 7⟩, last := some ⟨2, 2⟩, purged := some ⟨1, 0⟩, userData := some [42] }))
           true] ∧
    (match (openStore {} (((Sys.fresh { maxRecords := 4 }).run c02Example).fs.zeroC10S 260 149 40)).1 with
      | .ok (s, _) => some (s.st, s.log)
      | _ => none)
      = ((Sys.fresh { maxRecords := 4 }).run c02Example).store.map (fun s => (s.st, s.log)) ∧
    ((openStore {} (((Sys.fresh { maxRecords := 4 }).run c02Example).fs.zeroC10S 260 149 40)).2.1.find 260)
      = (((Sys.fresh { maxRecords := 4 }).run c02Example).fs.find 260) ∧
    (openStore { truncate := false }
      (((Sys.fresh { maxRecords := 4 }).run c02Example).fs.zeroC10S 260 149 5)).1 = .err .eof ∧
    openStore { truncate := false }
      (((Sys.fresh { maxRecords := 4 }).run c02Example).fs.zeroC10S 260 149 40)
      = (.err .invalid,
          (((Sys.fresh { maxRecords := 4 }).run c02Example).fs.zeroC10S 260 149 40).syncAll [0, 114],
          [.sync "o" 0 true, .sync "o" 114 true]) := by
  decide +kernel

/-- The EXCLUDED case `j = 0`, computed by the model: file `260` cut at byte 20, inside its head
`State` record. With truncation the chunk is headless: it is cut to 0 bytes, unlinked, and a
fresh chunk with the same id `260` is created, holding the state recovered from the earlier
chunks (fix D3); without truncation `open` fails with `eof`. -/
example :
    (openStore {} (((Sys.fresh { maxRecords := 4 }).run c02Example).fs.cutC10S 260 20)).2.2
      = [.sync "o" 0 true, .sync "o" 114 true, .trunc "o" 260 0, .sync "o" 260 true,
         .unlink "o" 260 true, .create "o" 260 true,
         .write "o" 260
           (encRecord (.state { vote := some ⟨1, 7⟩, last := some ⟨2, 2⟩ }))
           true] ∧
    (openStore { truncate := false }
      (((Sys.fresh { maxRecords := 4 }).run c02Example).fs.cutC10S 260 20)).1 = .err .eof := by
  decide +kernel

/-- The theorem used as a lemma: for every clean system satisfying the invariant, its conclusion
with truncation disabled, obtained from `c10_sys_cut_newest_inv` rather than by computation. -/
example (y : Sys) (rl : RefLog) (h : CSys y rl) (hc : y.Clean) (pre : List Nat) (c : Nat)
    (hsplit : y.fs.linkedIds = pre ++ [c]) :
    ∃ f rs, y.fs.find c = some f ∧ f.data = encAll rs ∧
      ∀ j k, 1 ≤ j → (encAll (rs.take j)).length < k → k < (encAll (rs.take (j + 1))).length →
        (openStore { truncate := false } (y.fs.cutC10S c k)).1 = .err .eof := by
  obtain ⟨s, _, _, f, rs, k1, _, k3, _, _, k6⟩ := c10_sys_cut_newest_inv h hc pre c hsplit
  refine ⟨f, rs, k1, k3, fun j k hj h1 h2 => ?_⟩
  obtain ⟨_, _, _, _, _, _, e⟩ := k6 j k hj h1 h2
  rw [(e { truncate := false } rfl).1]

end RaftLog
