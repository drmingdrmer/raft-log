/-
C08 at system level — "A chunk file is deleted only if every entry stored in it has
been purged or truncated away and the purge that made it obsolete is already durably
recorded (written and successfully synced) in the files that remain; files are deleted
oldest-first, so the files that remain always form a gap-free suffix of the journal that
starts with a full state snapshot. Once a purge has been flushed and the worker is idle,
every closed chunk holding nothing above the purge point is gone."

`Props/C08.lean` proves the worker-side facts for every worker context; here the same for every state reached by
a legal history from a freshly opened store (worker steps with ANY outcome, as long as the worker thread
survives), on top of the ghost invariant of `Props/C03Quiet.lean`.

* (a) `c08_remaining_files_gap_free_suffix`, `c08_unlinks_oldest_first`, `c08_index_entries_in_linked_chunks`.
* (b) `c08_unlink_only_after_purge_durable`.
* (c) `c08_flushed_idle_gone_always` — for EVERY legal history, also after failed syncs: a removal postponed by a
  failed sync is retried after every batch (`c08_postponed_only_after_failed_sync`), and the flush's batch syncs
  fine in the idle run. `c08_flushed_idle_gone`, `c08_no_failed_sync_clean`: the same under, resp. for, the
  hypothesis "last sync not failed, nothing postponed".
-/
import RaftLogModel.Props.C03Quiet
import RaftLogModel.Props.C08
import RaftLogModel.Proofs.GhostC08
namespace RaftLog

/-- What `AbutC3` says: each chunk starts where the previous one ends (its id is the
previous id plus the encoded length of the previous chunk's records). -/
theorem c08_abut_spec (p q : Closed × List Record) (rest : List (Closed × List Record)) :
    (AbutC3 (p :: q :: rest) ↔ q.1.id = p.1.id + (encAll p.2).length ∧ AbutC3 (q :: rest)) ∧
    AbutC3 [p] ∧ AbutC3 [] := ⟨Iff.rfl, trivial, trivial⟩

/-- **(a) The files that remain form a gap-free suffix of the journal that starts with a
state snapshot.** Along every legal history there are the closed chunks `dropped`
(dropped from the chunk table by purges, oldest first) and record lists `jc`, `jo` such
that, with `L` = the chunks `dropped ++ s.closed ++ [open chunk]` each with its records:

* the linked files are exactly the ids of `L`, in order: `dropped`, then the live chunks;
* `dropped` is exactly what is still waiting to be unlinked, in unlink order
  (`worker.toRemove`: postponed, being unlinked, named by removal requests in hand or
  queued; then the store's removal list);
* consecutive chunks of `L` abut (no gap); every chunk of `L` — in particular the first
  linked one — starts with a `State` record; every file is a byte prefix of the encoding
  of its chunk's well-formed records. -/
theorem c08_remaining_files_gap_free_suffix (cfg : Cfg) (steps : List Step) (r : RefLog)
    (hsteps : ∀ st ∈ steps, st.journal = true)
    (hlegal : RefLog.run {} (stepOps steps) = some r)
    (hwf : ∀ op ∈ stepOps steps, op.WF ∧ op.small)
    (halive : ((Sys.fresh cfg).run steps).worker.pc ≠ .dead) :
    let y := (Sys.fresh cfg).run steps
    ∃ s dropped jc jo, y.store = some s ∧
      y.fs.linkedIds = dropped.map Closed.id ++ (s.closed.map Closed.id ++ [s.openId]) ∧
      y.worker.toRemove ++ s.removed = dropped.map Closed.id ∧
      RepG (s.liftC3b dropped) y.fs y.worker jc jo ∧
      (liveChunksC3 (s.liftC3b dropped) jc jo).map (·.1.id) = y.fs.linkedIds ∧
      (liveChunksC3 (s.liftC3b dropped) jc jo).map (·.1)
        = dropped ++ s.closed ++ [⟨s.openOffsets, s.st⟩] ∧
      AbutC3 (liveChunksC3 (s.liftC3b dropped) jc jo) ∧
      ∀ p ∈ liveChunksC3 (s.liftC3b dropped) jc jo, AllWF p.2 ∧ (∃ st rest, p.2 = .state st :: rest) ∧
        offsetsFrom p.1.id (recSizes p.2) = p.1.offsets ∧ ∃ t, fdata y.fs p.1.id ++ t = encAll p.2 := by
  intro y
  obtain ⟨s, Bh, gs, q⟩ := reach_ghost_C3b cfg steps r hsteps hlegal hwf halive
  obtain ⟨dropped, jc, jo, k⟩ := q.ginv.gap_free_suffix_C8s q.linv
  exact ⟨s, dropped, jc, jo, q.store, k⟩

/-- **(a) Files are unlinked oldest first.** One worker step (any outcome; the worker
survives it) after a legal history either leaves the linked files and the list of ids
to unlink alone, or unlinks exactly one file: the oldest linked file, which is the head
of `worker.toRemove`. -/
theorem c08_unlinks_oldest_first (cfg : Cfg) (steps : List Step) (r : RefLog) (out : Outcome)
    (hsteps : ∀ st ∈ steps, st.journal = true)
    (hlegal : RefLog.run {} (stepOps steps) = some r)
    (hwf : ∀ op ∈ stepOps steps, op.WF ∧ op.small)
    (halive : (((Sys.fresh cfg).run steps).step (.worker out)).worker.pc ≠ .dead) :
    let y := (Sys.fresh cfg).run steps
    let y' := y.step (.worker out)
    (y'.worker.toRemove = y.worker.toRemove ∧ y'.fs.linkedIds = y.fs.linkedIds) ∨
    (∃ i, y.worker.toRemove = i :: y'.worker.toRemove ∧ y.fs.linkedIds = i :: y'.fs.linkedIds ∧
      Ev.unlink "w" i true ∈ y.stepEvs (.worker out)) := by
  intro y y'
  have hd0 : y.worker.pc ≠ .dead := fun hdead => halive (Sys.step_dead y _ rfl hdead)
  obtain ⟨s, Bh, gs, q⟩ := reach_ghost_C3b cfg steps r hsteps hlegal hwf hd0
  exact unlinks_oldest_first_C8s q.store q.ginv q.linv out halive

/-- **(a) Every index entry points into a linked chunk file** (a dropped chunk whose
file is still linked, or a live chunk). -/
theorem c08_index_entries_in_linked_chunks (cfg : Cfg) (steps : List Step) (r : RefLog)
    (hsteps : ∀ st ∈ steps, st.journal = true)
    (hlegal : RefLog.run {} (stepOps steps) = some r)
    (hwf : ∀ op ∈ stepOps steps, op.WF ∧ op.small)
    (halive : ((Sys.fresh cfg).run steps).worker.pc ≠ .dead) :
    let y := (Sys.fresh cfg).run steps
    ∃ s, y.store = some s ∧ ∀ e ∈ s.log, e.2.chunk ∈ y.fs.linkedIds ∧ y.fs.has e.2.chunk = true := by
  intro y
  obtain ⟨s, Bh, gs, q⟩ := reach_ghost_C3b cfg steps r hsteps hlegal hwf halive
  exact ⟨s, q.store, q.ginv.index_in_linked_C8s q.linv⟩

/-- **(b)** After a legal history `steps`, a worker step with outcome `out` emits
`Ev.unlink "w" c true`. Then `c` is the id of a dropped closed chunk `cl`, the OLDEST
linked file and the head of the removal order, and there are a journal position `m` and
a write count `k` such that

* `m` lies beyond chunk `c` and is at or below the acknowledged position `A` BEFORE the
  step (`Sys.ackRun steps 0`);
* the purge that made `c` obsolete is journalled below `m`: `m` is a record boundary of
  the journal of the linked chunks (witnesses `jc`, `jo`, prefix `Q`), exactly the first
  `k` entry-level writes are journalled below `m`, and every prefix of the writes with at
  least `k` writes reaches a reference log whose purge point is at or beyond the closing
  `last` of chunk `c` — every entry stored in `c` (all at or below that `last`) has been
  purged by then;
* that record is durable in the files that remain: every remaining linked chunk
  (`dropped'`, then the live chunks) is written and its file durable up to `m`, or to
  the chunk's end;
* chunk `c` holds no live entry: every index entry of the store has an id above the
  closing `last` of `c` and lives in another chunk. -/
theorem c08_unlink_only_after_purge_durable (cfg : Cfg) (steps : List Step) (r : RefLog)
    (out : Outcome) (c : Nat)
    (hsteps : ∀ st ∈ steps, st.journal = true)
    (hlegal : RefLog.run {} (stepOps steps) = some r)
    (hwf : ∀ op ∈ stepOps steps, op.WF ∧ op.small)
    (halive : ((Sys.fresh cfg).run steps).worker.pc ≠ .dead)
    (hev : Ev.unlink "w" c true ∈ ((Sys.fresh cfg).run steps).stepEvs (.worker out)) :
    let y := (Sys.fresh cfg).run steps
    let W := expandOps {} (stepOps steps)
    let A := (Sys.fresh cfg).ackRun steps 0
    ∃ s cl dropped' m k, y.store = some s ∧ cl.id = c ∧
      y.fs.linkedIds = c :: (dropped'.map Closed.id ++ (s.closed.map Closed.id ++ [s.openId])) ∧
      y.worker.toRemove ++ s.removed = c :: dropped'.map Closed.id ∧
      (∃ rest, y.worker.pc = .unlinking (c :: rest)) ∧ y.worker.lastSyncFailed = false ∧
      lastOff cl.offsets < m ∧ m ≤ A ∧ A ≤ s.openEnd ∧
      k ≤ W.length ∧
      (∀ n, k ≤ n → n ≤ W.length → ∀ r', RefLog.run {} (W.take n) = some r' →
        optLe cl.state.last r'.purged = true) ∧
      (∃ jc jo N0 Q, RepG (s.liftC3b (cl :: dropped')) y.fs y.worker jc jo ∧
        W.length = N0 + cntW (allOps (s.liftC3b (cl :: dropped')) jc jo) ∧
        Q <+: allOps (s.liftC3b (cl :: dropped')) jc jo ∧ cl.id + sizeSum Q = m ∧ N0 + cntW Q = k) ∧
      (∀ offs ∈ (s.liftC3b dropped').chunks,
        min (lastOff offs - offs.headD 0) (m - offs.headD 0) ≤ (fdata y.fs (offs.headD 0)).length ∧
        ∀ f, y.fs.find (offs.headD 0) = some f →
          min (lastOff offs - offs.headD 0) (m - offs.headD 0) ≤ f.durable) ∧
      (∀ e ∈ s.log, optLt cl.state.last (some e.2.id) = true ∧ e.2.chunk ≠ c) := by
  intro y W A
  obtain ⟨s, Bh, gs, g⟩ := reach_ghost_C3b cfg steps r hsteps hlegal hwf halive
  obtain ⟨cl, dropped', m, k, q⟩ := unlink_only_after_purge_durable_C8s g.store g.ginv g.linv g.wwf out c hev
  exact ⟨s, cl, dropped', m, k, g.store, q⟩

/-- **(c), the hypothesis.** In a history without a failed system call of the worker
(no `worker eio` step; short writes are allowed) the last sync never failed and nothing
is postponed. -/
theorem c08_no_failed_sync_clean (cfg : Cfg) (steps : List Step)
    (hsteps : ∀ st ∈ steps, st.journal = true) (hne : ∀ st ∈ steps, st ≠ .worker .eio) :
    ((Sys.fresh cfg).run steps).worker.lastSyncFailed = false ∧
      ((Sys.fresh cfg).run steps).worker.postponed = [] := by
  refine (Sys.run_induct (P := fun y => y.worker.WF ∧ WorkerCleanC8s y.worker)
    (C := fun st => st.journal = true ∧ st ≠ .worker .eio)
    (fun y st hc h => step_clean_sys_C8s (Step.keepsStore_of_journal hc.1) hc.2 h) ?_
    fun st hm => ⟨hsteps st hm, hne st hm⟩).2
  rw [Sys.fresh_eq]
  exact ⟨by simp [Worker.WF], rfl, rfl⟩

/-- **(c), invariant.** Along every history from a freshly opened store (calls, flushes,
worker steps with any outcome, idle runs, drains — no legality assumption), while the store
is open: chunk removals are postponed only while the last sync has failed, at every park
point of the worker; and the request that ended the batch in hand is not a write. (As soon
as a batch syncs fine, the postponed removals are started: `WCtx.finishBatch`.) -/
theorem c08_postponed_only_after_failed_sync (cfg : Cfg) (steps : List Step)
    (hs : ((Sys.fresh cfg).run steps).store ≠ none) :
    (((Sys.fresh cfg).run steps).worker.postponed ≠ [] →
      ((Sys.fresh cfg).run steps).worker.lastSyncFailed = true) ∧
    ((Sys.fresh cfg).run steps).worker.pc.tailNotWriteD14 :=
  ⟨((SysPostD14.fresh cfg).run steps hs).post, ((SysPostD14.fresh cfg).run steps hs).tail⟩

/-- **(c) Once a purge has been flushed and the worker is idle, the dropped chunks are
gone — always.** A legal history `steps` (it may contain purges that dropped chunks,
flushes, worker steps with any outcome, in particular failed syncs that postponed
removals) is followed by `flush cb` and `workerIdle` (the worker runs, all system calls
succeeding, until it is blocked on an empty queue), and the worker is alive at the end.
No hypothesis on failed syncs or postponed removals: the flush's write request is synced
in the idle run, and a good sync starts every postponed removal. Then nothing is left to
unlink — the store's removal list is empty and so is the worker's — and the linked files
are exactly the live chunks: no file of a dropped chunk remains. -/
theorem c08_flushed_idle_gone_always (cfg : Cfg) (steps : List Step) (cb : Option Nat) (r : RefLog)
    (hsteps : ∀ st ∈ steps, st.journal = true)
    (hlegal : RefLog.run {} (stepOps steps) = some r)
    (hwf : ∀ op ∈ stepOps steps, op.WF ∧ op.small)
    (halive : ((Sys.fresh cfg).run (steps ++ [.flush cb, .workerIdle])).worker.pc ≠ .dead) :
    let y := (Sys.fresh cfg).run (steps ++ [.flush cb, .workerIdle])
    ∃ s, y.store = some s ∧ s.removed = [] ∧ y.worker.toRemove = [] ∧
      y.worker.lastSyncFailed = false ∧ y.worker.postponed = [] ∧
      y.fs.linkedIds = s.closed.map Closed.id ++ [s.openId] := by
  intro y
  have h0 := reach_HSys cfg steps r hsteps hlegal hwf (Sys.alive_prefix (by simp [Step.journal]) halive)
  have hrun : y = (((Sys.fresh cfg).run steps).step (.flush cb)).step .workerIdle :=
    Sys.run_append _ steps _
  rw [show (Sys.fresh cfg).run (steps ++ [.flush cb, .workerIdle]) = y from rfl, hrun] at halive
  obtain ⟨s0, hs0, _⟩ := h0.core
  obtain ⟨s, hs, hrem, htr, hl, hp⟩ := flushed_idle_C8s hs0 ((SysWF.fresh cfg).run _)
    ((SysPostD14.fresh cfg).run _) cb halive
  obtain ⟨hi, hli⟩ := ((h0.flush cb).workerIdle halive).of_store hs
  rw [hrun]
  exact ⟨s, hs, hrem, htr, hl, hp, Store.chunkIds_eq s ▸ hli.linkedIds_eq hi.inv.j hrem htr⟩

/-- **(c) under the hypothesis of `c08_no_failed_sync_clean`** (at the end of `steps` the last
sync had not failed and nothing was postponed): a special case of
`c08_flushed_idle_gone_always`. -/
theorem c08_flushed_idle_gone (cfg : Cfg) (steps : List Step) (cb : Option Nat) (r : RefLog)
    (hsteps : ∀ st ∈ steps, st.journal = true)
    (hlegal : RefLog.run {} (stepOps steps) = some r)
    (hwf : ∀ op ∈ stepOps steps, op.WF ∧ op.small)
    (halive : ((Sys.fresh cfg).run (steps ++ [.flush cb, .workerIdle])).worker.pc ≠ .dead)
    (_hclean : ((Sys.fresh cfg).run steps).worker.lastSyncFailed = false ∧
      ((Sys.fresh cfg).run steps).worker.postponed = []) :
    let y := (Sys.fresh cfg).run (steps ++ [.flush cb, .workerIdle])
    ∃ s, y.store = some s ∧ s.removed = [] ∧ y.worker.toRemove = [] ∧
      y.fs.linkedIds = s.closed.map Closed.id ++ [s.openId] := by
  intro y
  obtain ⟨s, h1, h2, h3, _, _, h6⟩ := c08_flushed_idle_gone_always cfg steps cb r hsteps hlegal hwf halive
  exact ⟨s, h1, h2, h3, h6⟩

/-- `c03OutstandingExample` (chunks of three records; two appends, flush, idle,
`purge (1,1)` drops chunk 0, flush, two worker steps: the purge record is written, the
worker is parked at the `fdatasync` with `removeChunks [0]` in hand) followed by the
successful `fdatasync`: the worker is parked at `unlink` of chunk 0. -/
def c08SysExample : List Step := c03OutstandingExample ++ [.worker .ok]

/-- The hypotheses of `c08_unlink_only_after_purge_durable` (and of
`c08_unlinks_oldest_first`) hold for it with `out = ok`, `c = 0`: the next worker step
emits `Ev.unlink "w" 0 true`. Before the step the linked files are chunks 0 and 84 and
`toRemove = [0]`; the acknowledged position is 146 = the journal end right after the
purge call; chunk 84 (62 bytes: head and purge record) is durable to its end; after the
step only chunk 84 is linked and nothing is left to unlink. -/
example :
    (∀ st ∈ c08SysExample, st.journal = true) ∧
    (RefLog.run {} (stepOps c08SysExample)).isSome = true ∧
    (∀ op ∈ stepOps c08SysExample, op.WF ∧ op.small) ∧
    ((Sys.fresh { maxRecords := 3 }).run c08SysExample).worker.pc = .unlinking [0] ∧
    (((Sys.fresh { maxRecords := 3 }).run c08SysExample).step (.worker .ok)).worker.pc ≠ .dead ∧
    ((Sys.fresh { maxRecords := 3 }).run c08SysExample).stepEvs (.worker .ok) = [.unlink "w" 0 true] ∧
    ((Sys.fresh { maxRecords := 3 }).run c08SysExample).fs.linkedIds = [0, 84] ∧
    ((Sys.fresh { maxRecords := 3 }).run c08SysExample).worker.toRemove = [0] ∧
    (Sys.fresh { maxRecords := 3 }).ackRun c08SysExample 0 = 146 ∧
    ((Sys.fresh { maxRecords := 3 }).run (c03OutstandingExample.take 4)).store.map Store.openEnd = some 146 ∧
    ((Sys.fresh { maxRecords := 3 }).run c08SysExample).fs.map
      (fun f => (f.id, f.data.length, f.durable, f.linked)) = [(0, 84, 84, true), (84, 62, 62, true)] ∧
    (((Sys.fresh { maxRecords := 3 }).run c08SysExample).step (.worker .ok)).fs.linkedIds = [84] ∧
    (((Sys.fresh { maxRecords := 3 }).run c08SysExample).step (.worker .ok)).worker.toRemove = [] := by
  decide +kernel

/-- One step earlier (`c03OutstandingExample`: sync not done yet) the acknowledged
position is 118 < 146 — and chunk 0 is not being unlinked. -/
example :
    (Sys.fresh { maxRecords := 3 }).ackRun c03OutstandingExample 0 = 118 ∧
    ((Sys.fresh { maxRecords := 3 }).run c03OutstandingExample).stepEvs (.worker .ok)
      = [.sync "w" 84 true] := by
  decide +kernel

/-- `c08_flushed_idle_gone` on the first six steps of `c03QuietExample` (chunks of five
records): four appends, flush, idle, `purge (1,3)` drops chunk 0, then `flush`,
`workerIdle`. Before the flush the worker is clean (no `worker eio` step so far); the
store's removal list is `[0]`. Afterwards only chunk 151 is linked. -/
example :
    c03QuietExample.take 6 = c03QuietExample.take 4 ++ [.flush (some 9), .workerIdle] ∧
    (∀ st ∈ c03QuietExample.take 4, st ≠ .worker .eio) ∧
    ((Sys.fresh { maxRecords := 5 }).run (c03QuietExample.take 4)).worker.lastSyncFailed = false ∧
    ((Sys.fresh { maxRecords := 5 }).run (c03QuietExample.take 4)).worker.postponed = [] ∧
    ((Sys.fresh { maxRecords := 5 }).run (c03QuietExample.take 4)).store.map (·.removed) = some [0] ∧
    ((Sys.fresh { maxRecords := 5 }).run (c03QuietExample.take 4)).fs.linkedIds = [0, 151] ∧
    ((Sys.fresh { maxRecords := 5 }).run (c03QuietExample.take 6)).worker.pc ≠ .dead ∧
    ((Sys.fresh { maxRecords := 5 }).run (c03QuietExample.take 6)).fs.linkedIds = [151] ∧
    ((Sys.fresh { maxRecords := 5 }).run (c03QuietExample.take 6)).worker.toRemove = [] := by
  decide +kernel

/-- `c08_flushed_idle_gone_always` after a FAILED sync (chunks of two records): three
appends, flush, idle, `purge (1,1)` drops the chunks 0 and 51, flush, five good worker
steps and the `fdatasync` in front of the removal request fails — the removal is postponed
(`postponed = [0, 51]`, `lastSyncFailed = true`, all five files still linked), so the
hypothesis of `c08_flushed_idle_gone` does not hold. Then `flush`, `workerIdle`:
the flush's batch syncs fine, the postponed removal is carried out right behind it, only
the live chunks 118, 185, 247 stay linked. -/
def c08SysFailedSyncExample : List Step :=
  [ .call (.append [(⟨1, 0⟩, [1]), (⟨1, 1⟩, [2]), (⟨1, 2⟩, [3])]),
    .flush none, .workerIdle,
    .call (.purge ⟨1, 1⟩),
    .flush none,
    .worker .ok, .worker .ok, .worker .ok, .worker .ok, .worker .ok, .worker .eio ]

example :
    (∀ st ∈ c08SysFailedSyncExample, st.journal = true) ∧
    (RefLog.run {} (stepOps c08SysFailedSyncExample)).isSome = true ∧
    (∀ op ∈ stepOps c08SysFailedSyncExample, op.WF ∧ op.small) ∧
    ((Sys.fresh { maxRecords := 2 }).run c08SysFailedSyncExample).worker.postponed = [0, 51] ∧
    ((Sys.fresh { maxRecords := 2 }).run c08SysFailedSyncExample).worker.lastSyncFailed = true ∧
    ((Sys.fresh { maxRecords := 2 }).run c08SysFailedSyncExample).fs.linkedIds = [0, 51, 118, 185, 247] ∧
    ((Sys.fresh { maxRecords := 2 }).run
      (c08SysFailedSyncExample ++ [.flush (some 9), .workerIdle])).worker.pc = .idle ∧
    ((Sys.fresh { maxRecords := 2 }).run
      (c08SysFailedSyncExample ++ [.flush (some 9), .workerIdle])).worker.toRemove = [] ∧
    ((Sys.fresh { maxRecords := 2 }).run
      (c08SysFailedSyncExample ++ [.flush (some 9), .workerIdle])).worker.lastSyncFailed = false ∧
    ((Sys.fresh { maxRecords := 2 }).run
      (c08SysFailedSyncExample ++ [.flush (some 9), .workerIdle])).fs.linkedIds = [118, 185, 247] ∧
    ((Sys.fresh { maxRecords := 2 }).run
      (c08SysFailedSyncExample ++ [.flush (some 9), .workerIdle])).store.map
        (fun s => (s.removed, s.closed.map Closed.id, s.openId)) = some ([], [118, 185], 247) := by
  decide +kernel

end RaftLog
