/-
C03: the ghost invariant along histories (`GSysMC3b`, a rider of `HSys.run_induct`), and the assembly: the linked
files of a reachable state are exactly the chunks of the ghost store (`GInvC3b.linkedIds`), whose marker is
acknowledged, so `HInv.crash_prefix` applies to it with no hypothesis on outstanding removals
(`crash_prefix_ghost_C3b`).
-/
import RaftLogModel.Proofs.GhostInv
import RaftLogModel.Proofs.History
namespace RaftLog

def GSysC3b (y : Sys) (r : RefLog) (W : List Op) (A E K : Nat) : Prop :=
  ∃ s Bh gs, y.store = some s ∧ GInvC3b s y.fs y.worker r W A E K Bh gs

/-- The ghost invariant with the marker of the real store named: `B` is the `m` of the newest ghost chunk (`lastM`). -/
def GMC3b (r : RefLog) (W : List Op) (B A E K : Nat) (s : Store) (fs : Fs) (w : Worker) : Prop :=
  ∃ Bh gs, GInvC3b s fs w r W A E K Bh gs ∧ lastM gs Bh = B

/-- `GMC3b` of a live system: the rider of `HSys.run_induct` that carries the ghost invariant. `GSysC3b` is what is
left of it when marker and liveness are forgotten (`GSysMC3b.ghost`, `GSysC3b.marked`). -/
def GSysMC3b (y : Sys) (r : RefLog) (W : List Op) (B A E K : Nat) : Prop := y.Live (GMC3b r W B A E K)

theorem GSysMC3b.ghost {y : Sys} {r : RefLog} {W : List Op} {B A E K : Nat} (h : GSysMC3b y r W B A E K) :
    GSysC3b y r W A E K :=
  let ⟨s, hs, _, Bh, gs, hg, _⟩ := h; ⟨s, Bh, gs, hs, hg⟩

theorem GSysC3b.marked {y : Sys} {r : RefLog} {W : List Op} {A E K : Nat} (h : GSysC3b y r W A E K)
    (hd : y.worker.pc ≠ .dead) : ∃ B, GSysMC3b y r W B A E K :=
  let ⟨s, Bh, gs, hs, hg⟩ := h; ⟨_, s, hs, hd, Bh, gs, hg, rfl⟩

theorem GSysMC3b.of_no_op {y : Sys} {r r' : RefLog} {W : List Op} {B A E K : Nat} {st : Step}
    (hst : stepOps [st] = []) (hr : r.run (stepOps [st]) = some r') (h : GSysMC3b y r W B A E K) :
    GSysMC3b y r' (W ++ expandOps r (stepOps [st])) B A E K := by
  rw [hst] at hr ⊢
  cases hr
  simpa [expandOps] using h

theorem GSysMC3b.live {y : Sys} {r : RefLog} {W : List Op} {B' B A E K : Nat}
    (hh : HSys y r W B' A E K) (h : GSysMC3b y r W B A E K) :
    y.Live fun s fs w => (HInv s fs w r W B' A E K ∧ LInv s fs w) ∧ GMC3b r W B A E K s fs w := by
  obtain ⟨s, hs, hd, hi⟩ := hh.live
  exact ⟨s, hs, hd, hi, (h.of_store hs).2⟩

theorem GSysMC3b.worker {y : Sys} {r : RefLog} {W : List Op} {B' B A E K : Nat}
    (hh : HSys y r W B' A E K) (h : GSysMC3b y r W B A E K) (out : Outcome)
    (hnd : (y.step (.worker out)).worker.pc ≠ .dead) :
    GSysMC3b (y.step (.worker out)) r W B (y.ackStep (.worker out) A) E K :=
  (h.live hh).worker' out (hnd := hnd) fun hs ⟨⟨_, hli⟩, Bh, gs, hg, e⟩ hnd2 => by
    simp only [Sys.ackStep, hs]
    obtain ⟨Bh', gs', h', e'⟩ := hg.step (c := y.wctx _) out hli hh.cov hh.wwf hnd2
    exact ⟨Bh', gs', h'.of_cache _, e'.trans e⟩

/-- `hh` supplies the invariants of the real store (its marker `B'` plays no part); the marker of the ghost
invariant moves as `Sys.markStep` says. -/
theorem GSysMC3b.step {y : Sys} {r r' : RefLog} {W : List Op} {B' B A E K : Nat}
    (hh : HSys y r W B' A E K) (h : GSysMC3b y r W B A E K) (st : Step)
    (hst : st.journal = true) (hr : r.run (stepOps [st]) = some r')
    (hwf : ∀ op, st = .call op → op.WF ∧ op.small) (hnd : (y.step st).worker.pc ≠ .dead) :
    GSysMC3b (y.step st) r' (W ++ expandOps r (stepOps [st])) (y.markStep st B) (y.ackStep st A) E K := by
  have hl := h.live hh
  cases st with
  | drop => cases hst
  | openWith c => cases hst
  | drain =>
    exact .of_no_op rfl hr <| hl.drain' fun _ ⟨_, Bh, gs, hg, e⟩ => ⟨Bh, gs, hg.of_cache _, e⟩
  | flush cb =>
    exact .of_no_op rfl hr <| hl.flush' cb fun _ ⟨_, Bh, gs, hg, e⟩ => ⟨Bh, gs, hg.flush cb, e⟩
  | worker out => exact .of_no_op rfl hr (h.worker hh out hnd)
  | workerIdle =>
    -- `HSys` carried along the idle run as the rider's company: `HSys.run_induct`'s idea one level down
    exact .of_no_op rfl hr (Sys.workerIdle_induct_ack
      (P := fun y A => HSys y r W B' A E K ∧ GSysMC3b y r W B A E K)
      (fun _ _ h hnd => ⟨h.1.worker .ok hnd, h.2.worker h.1 .ok hnd⟩) ⟨hh, h⟩ hnd).2
  | call op =>
    obtain ⟨hlg, hc⟩ := RefLog.run_single.1 hr
    have hex : expandOps r (stepOps [.call op]) = op.expand1 r := by
      simp [stepOps, expandOps, hc]
    rw [hex]
    obtain ⟨hopwf, hopsm⟩ := hwf op rfl
    exact hl.call' fun hs ⟨⟨hi, hli⟩, Bh, gs, hg, e⟩ => by
      obtain ⟨gs', h', e'⟩ := hg.call y.fs.has hli hi.inv.j (Fs.has_false_of_lt hi.inv.j.fsLt) hlg hc hopsm hopwf
      exact ⟨Bh, gs', h', by rw [e', e, Sys.markStep_call op _ hs]⟩

theorem run_GSysM_C3b (steps : List Step) (y : Sys) (r r' : RefLog) (W : List Op) (B A E K : Nat)
    (hh : HSys y r W B A E K) (h : GSysMC3b y r W B A E K) (hst : ∀ st ∈ steps, st.journal = true)
    (hr : r.run (stepOps steps) = some r') (hwf : ∀ op ∈ stepOps steps, op.WF ∧ op.small)
    (hnd : (y.run steps).worker.pc ≠ .dead) :
    GSysMC3b (y.run steps) r' (W ++ expandOps r (stepOps steps)) (y.markRun steps B) (y.ackRun steps A) E K :=
  (HSys.run_induct (I := GSysMC3b) (fun st hh h hst hr hwf hnd => h.step hh st hst hr hwf hnd) steps y r r' W B A
    E K hh h hst hr hwf hnd).2

theorem run_GSys_C3b (steps : List Step) : ∀ (y : Sys) (r r' : RefLog) (W : List Op) (B A E K : Nat),
    HSys y r W B A E K → GSysC3b y r W A E K → (∀ st ∈ steps, st.journal = true) →
    r.run (stepOps steps) = some r' → (∀ op ∈ stepOps steps, op.WF ∧ op.small) →
    (y.run steps).worker.pc ≠ .dead →
    GSysC3b (y.run steps) r' (W ++ expandOps r (stepOps steps)) (y.ackRun steps A) E K :=
  fun y r r' W B A E K hh h hst hr hwf hnd =>
    (HSys.run_induct (I := fun y r W _ A E K => GSysC3b y r W A E K)
      (fun st hh hg hst hr hwf hnd => let ⟨_, hm⟩ := hg.marked hh.alive; (hm.step hh st hst hr hwf hnd).ghost)
      steps y r r' W B A E K hh h hst hr hwf hnd).2

theorem GInvC3b.fresh (cfg : Cfg) : GInvC3b (Store.fresh cfg) Fs.fresh Worker.fresh {} [] 0 0 0 0 [] :=
  ⟨HInv.fresh cfg, nofun, rfl, Nat.le_refl _, .nil, nofun, nofun⟩

theorem fresh_GSysM_C3b (cfg : Cfg) : GSysMC3b (Sys.fresh cfg) {} [] 0 0 0 0 :=
  Sys.Live.fresh ⟨0, [], GInvC3b.fresh cfg, rfl⟩

theorem fresh_GSys_C3b (cfg : Cfg) : GSysC3b (Sys.fresh cfg) {} [] 0 0 0 := (fresh_GSysM_C3b cfg).ghost

/-- What a legal history from a freshly opened store reaches (`reach_ghost_C3b`). -/
structure ReachedGhostC3b (y : Sys) (r : RefLog) (W : List Op) (B A : Nat) (s : Store) (Bh : Nat)
    (gs : List GhostC3b) : Prop where
  store : y.store = some s
  ginv : GInvC3b s y.fs y.worker r W A 0 0 Bh gs
  linv : LInv s y.fs y.worker
  wwf : y.worker.WF
  marker : lastM gs Bh = B

theorem reach_ghost_C3b (cfg : Cfg) (steps : List Step) (r : RefLog)
    (hsteps : ∀ st ∈ steps, st.journal = true)
    (hlegal : RefLog.run {} (stepOps steps) = some r)
    (hwf : ∀ op ∈ stepOps steps, op.WF ∧ op.small)
    (halive : ((Sys.fresh cfg).run steps).worker.pc ≠ .dead) :
    ∃ s Bh gs, ReachedGhostC3b ((Sys.fresh cfg).run steps) r (expandOps {} (stepOps steps))
      ((Sys.fresh cfg).markRun steps 0) ((Sys.fresh cfg).ackRun steps 0) s Bh gs := by
  have hh := reach_HSys cfg steps r hsteps hlegal hwf halive
  have hg := run_GSysM_C3b steps (Sys.fresh cfg) {} r [] 0 0 0 0 (fresh_HSys cfg) (fresh_GSysM_C3b cfg) hsteps
    hlegal hwf halive
  rw [List.nil_append] at hg
  obtain ⟨s, hs, _, ⟨_, hli⟩, Bh, gs, h, e⟩ := hg.live hh
  exact ⟨s, Bh, gs, hs, h, hli, hh.wwf, e⟩

theorem reach_ghost_at_C3b (cfg : Cfg) (pre post : List Step) (r : RefLog)
    (hsteps : ∀ st ∈ pre ++ post, st.journal = true)
    (hlegal : RefLog.run {} (stepOps (pre ++ post)) = some r)
    (hwf : ∀ op ∈ stepOps (pre ++ post), op.WF ∧ op.small)
    (halive : ((Sys.fresh cfg).run (pre ++ post)).worker.pc ≠ .dead) :
    ∃ s1, ((Sys.fresh cfg).run pre).store = some s1 ∧
      HSys ((Sys.fresh cfg).run (pre ++ post)) r (expandOps {} (stepOps (pre ++ post)))
        ((Sys.fresh cfg).markRun (pre ++ post) 0) ((Sys.fresh cfg).ackRun (pre ++ post) 0)
        s1.openEnd (expandOps {} (stepOps pre)).length ∧
      GSysC3b ((Sys.fresh cfg).run (pre ++ post)) r (expandOps {} (stepOps (pre ++ post)))
        ((Sys.fresh cfg).ackRun (pre ++ post) 0) s1.openEnd (expandOps {} (stepOps pre)).length := by
  obtain ⟨s1, hs1, h, hg⟩ := HSys.run_induct_at (I := GSysMC3b)
    (fun st hh h hst hr hwf hnd => h.step hh st hst hr hwf hnd)
    (fun hs h => let ⟨hd, Bh, gs, hg, e⟩ := Sys.Live.of_store h hs; ⟨_, hs, hd, Bh, gs, hg.retarget, e⟩)
    pre post (Sys.fresh cfg) {} r [] 0 0 0 0 (fresh_HSys cfg) (fresh_GSysM_C3b cfg) hsteps hlegal hwf halive
  exact ⟨s1, hs1, by simpa using h, by simpa using hg.ghost⟩

theorem GInvC3b.linkedIds {s : Store} {fs : Fs} {w : Worker} {r : RefLog} {W : List Op} {A E K Bh : Nat}
    {gs : List GhostC3b} (h : GInvC3b s fs w r W A E K Bh gs) (hl : LInv s fs w) :
    fs.linkedIds = (ghostClosedC3b gs).map Closed.id ++ s.chunkIds := by
  rw [← liftC3b_chunkIds]
  refine Fs.linkedIds_eq_of hl.nodup h.base.inv.j.chunkIds_sorted fun x => ⟨fun hx => ?_, h.live hl x⟩
  · rw [liftC3b_chunkIds]
    rcases hl.dead x hx with e | e | e
    · exact List.mem_append_right _ e
    · exact List.mem_append_left _ (by rw [← h.order]; exact List.mem_append_right _ e)
    · exact List.mem_append_left _ (by rw [← h.order]; exact List.mem_append_left _ e)

/-- `HInv.crash_prefix` for the ghost store: no hypothesis on outstanding removals. -/
theorem crash_prefix_ghost_C3b {y : Sys} {r : RefLog} {W : List Op} {B A E K : Nat}
    (hh : HSys y r W B A E K) (hg : GSysC3b y r W A E K)
    {img : Fs} (hc : CrashImage y.fs img) (cfg' : Cfg)
    {s' : Store} {w' : Worker} {fs' : Fs} {evs : List Ev}
    (hopen : openStore cfg' img = (.ok (s', w'), fs', evs)) :
    ∃ n r', RefLog.run {} (W.take n) = some r' ∧ s'.st = r'.state ∧
      logKeys s'.log = entKeys r'.entries ∧ (E ≤ A → K ≤ n) := by
  obtain ⟨s, Bh, gs, hs, h⟩ := hg
  obtain ⟨_, hli⟩ := hh.of_store hs
  obtain ⟨n, r', k1, k2, k3, k4, _⟩ := h.base.crash_prefix h.ack (h.live hli)
    (by rw [liftC3b_chunkIds]; exact h.linkedIds hli) hc cfg' hopen
  exact ⟨n, r', k1, k2, k3, k4⟩

end RaftLog
