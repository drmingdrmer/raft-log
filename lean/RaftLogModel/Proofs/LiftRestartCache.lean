/-
The payload-cache invariant `CacheInv` of the store `open` builds on a crash image, for any cache limits, from
the crash invariant `CrashInvC5b` alone: nothing of the crashed system's cache is needed for the accounting.
-/
import RaftLogModel.Proofs.ReadRestartRecover
namespace RaftLog

theorem recover_cacheInv_LIFT {y : Sys} {r : RefLog} {W : List Op} {A E K : Nat}
    (h : CrashInvC5b y r W A E K) {img : Fs} (hc : CrashImage y.fs img)
    (hnt : NoTornPredecessor img) (cfg' : Cfg) (ht : cfg'.truncate = true)
    {s' : Store} {w' : Worker} {fs' : Fs} {evs : List Ev}
    (q1 : openStore cfg' img = (.ok (s', w'), fs', evs)) : CacheInv s' := by
  obtain ⟨s, cs, Bh, jc, jo, stC, lC, g0, j, rest, n2, r2, l, N0, _, _, hpp, hok⟩ := h.image_prep hc hnt cfg'
  exact openStore_image_cacheInv_C7c ht q1 hpp.parsed hok

end RaftLog
