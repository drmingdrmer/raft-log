/-
C03, the guards of the marker invariant (`GInvC3b.marker`, `c03_marker_invariant`): for a journal position `B`
(the journal end right after a purge that dropped chunks), `B` is acknowledged, or the store still holds the
removal list, or the worker is guarded (`WGuardC3b B w`): it cannot unlink what it has left to unlink before a
batch that contains a write with `upto ≥ B` has been synced. Everything is proved for the guard of one chunk id
(`WGuardAtC3b B x w`, kept per dropped chunk by the ghost invariant); `WGuardC3b B w ↔ ∃ x, WGuardAtC3b B x w`.
-/
import RaftLogModel.Proofs.CrashAckSys
namespace RaftLog

def AllGeC3b (B : Nat) (l : List WReq) : Prop := ∀ r ∈ l, r.isWrite = true → B ≤ r.upto

def HeadWC3b (l : List WReq) : Prop := ∃ r q, l = r :: q ∧ r.isWrite = true

/-- `GXC3b` with no chunk id named ("something is left to remove"): the form `c03_marker_invariant` states;
`WGuardC3b_iff`. -/
def GDC3b (B : Nat) (rest : List WReq) (postponed : List Nat) (safe : Prop) : Prop :=
  (∃ pre suf, rest = pre ++ suf ∧ AllGeC3b B suf ∧ HeadWC3b suf ∧ rmIds suf ≠ []) ∨
  (AllGeC3b B rest ∧ safe ∧ (postponed ≠ [] ∨ rmIds rest ≠ []))

/-- The worker is safe for `B`: the batch in hand contains a write with
`upto ≥ B` (a successful sync acknowledges `B`, a failed one postpones removals),
or there is no batch in hand and the last sync failed. -/
def PcSafeC3b (B : Nat) (w : Worker) : Prop :=
  match w.pc with
  | .writing _ b _ => ∃ r ∈ b, B ≤ r.upto
  | .syncOld b _ => ∃ r ∈ b, B ≤ r.upto
  | .syncNew b _ => ∃ r ∈ b, B ≤ r.upto
  | _ => w.lastSyncFailed = true

def WGuardC3b (B : Nat) (w : Worker) : Prop := GDC3b B w.rest w.postponed (PcSafeC3b B w)

/-- Two shapes. *Ahead*: the requests not handled yet are `pre ++ suf`, `suf` starts with a write, all its
writes have `upto ≥ B`, and it names `x` in a removal request — the state right after the flush that follows the
purge. *Now*: every write not handled yet has `upto ≥ B`, the worker is safe, and `x` is postponed or named by
a removal request not handled yet. -/
def GXC3b (B x : Nat) (rest : List WReq) (postponed : List Nat) (safe : Prop) : Prop :=
  (∃ pre suf, rest = pre ++ suf ∧ AllGeC3b B suf ∧ HeadWC3b suf ∧ x ∈ rmIds suf) ∨
  (AllGeC3b B rest ∧ safe ∧ (x ∈ postponed ∨ x ∈ rmIds rest))

/-- The worker still has the chunk id `x` to unlink — postponed or named by a removal
request not handled yet, NOT in the list being unlinked — and cannot start unlinking it
before a batch that contains a write with `upto ≥ B` has been synced successfully. -/
def WGuardAtC3b (B x : Nat) (w : Worker) : Prop := GXC3b B x w.rest w.postponed (PcSafeC3b B w)

theorem AllGeC3b.nil (B : Nat) : AllGeC3b B [] := fun r hr => by cases hr

theorem AllGeC3b.mono {B B' : Nat} {l : List WReq} (h : AllGeC3b B l) (hle : B' ≤ B) : AllGeC3b B' l :=
  fun r hr hw => Nat.le_trans hle (h r hr hw)

theorem AllGeC3b.append {B : Nat} {a b : List WReq} (ha : AllGeC3b B a) (hb : AllGeC3b B b) :
    AllGeC3b B (a ++ b) := by
  intro r hr hw
  rcases List.mem_append.mp hr with k | k
  · exact ha r k hw
  · exact hb r k hw

theorem AllGeC3b.right {B : Nat} {a b : List WReq} (h : AllGeC3b B (a ++ b)) : AllGeC3b B b :=
  fun r hr hw => h r (List.mem_append_right _ hr) hw

theorem AllGeC3b.left {B : Nat} {a b : List WReq} (h : AllGeC3b B (a ++ b)) : AllGeC3b B a :=
  fun r hr hw => h r (List.mem_append_left _ hr) hw

theorem AllGeC3b.tail {B : Nat} {r : WReq} {q : List WReq} (h : AllGeC3b B (r :: q)) : AllGeC3b B q :=
  fun x hx hw => h x (List.mem_cons_of_mem _ hx) hw

theorem WGuardC3b_iff {B : Nat} {w : Worker} : WGuardC3b B w ↔ ∃ x, WGuardAtC3b B x w := by
  constructor
  · rintro (⟨pre, suf, h1, h2, h3, h5⟩ | ⟨h1, h2, h3 | h3⟩)
    · obtain ⟨x, hx⟩ := List.exists_mem_of_ne_nil _ h5
      exact ⟨x, Or.inl ⟨pre, suf, h1, h2, h3, hx⟩⟩
    · obtain ⟨x, hx⟩ := List.exists_mem_of_ne_nil _ h3
      exact ⟨x, Or.inr ⟨h1, h2, Or.inl hx⟩⟩
    · obtain ⟨x, hx⟩ := List.exists_mem_of_ne_nil _ h3
      exact ⟨x, Or.inr ⟨h1, h2, Or.inr hx⟩⟩
  · rintro ⟨x, ⟨pre, suf, h1, h2, h3, h5⟩ | ⟨h1, h2, h3⟩⟩
    · exact Or.inl ⟨pre, suf, h1, h2, h3, List.ne_nil_of_mem h5⟩
    · exact Or.inr ⟨h1, h2, h3.imp List.ne_nil_of_mem List.ne_nil_of_mem⟩

theorem GXC3b.mono {B x : Nat} {rest : List WReq} {p : List Nat} {safe safe' : Prop}
    (h : GXC3b B x rest p safe) (hs : safe → safe') : GXC3b B x rest p safe' := by
  rcases h with h | ⟨h1, h2, h3⟩
  · exact Or.inl h
  · exact Or.inr ⟨h1, hs h2, h3⟩

theorem GXC3b.push {B x : Nat} {rest q : List WReq} {p : List Nat} {safe : Prop}
    (h : GXC3b B x rest p safe) (hq : AllGeC3b B q) : GXC3b B x (rest ++ q) p safe := by
  rcases h with ⟨pre, suf, h1, h2, ⟨r0, q0, h3, h4⟩, h5⟩ | ⟨h1, h2, h3⟩
  · refine Or.inl ⟨pre, suf ++ q, by rw [h1, List.append_assoc], h2.append hq,
      ⟨r0, q0 ++ q, by rw [h3]; rfl, h4⟩, ?_⟩
    rw [rmIds_append]
    exact List.mem_append_left _ h5
  · refine Or.inr ⟨h1.append hq, h2, ?_⟩
    rcases h3 with k | k
    · exact Or.inl k
    · right
      rw [rmIds_append]
      exact List.mem_append_left _ k

theorem GXC3b.pop {B x : Nat} {r : WReq} {q : List WReq} {p p' : List Nat} {safe : Prop}
    (h : GXC3b B x (r :: q) p safe) (hr : r.isWrite = false)
    (hp : safe → (x ∈ p ∨ x ∈ rmIds (r :: q)) → (x ∈ p' ∨ x ∈ rmIds q)) :
    GXC3b B x q p' safe := by
  rcases h with ⟨pre, suf, h1, h2, ⟨r0, q0, h3, h4⟩, h5⟩ | ⟨h1, h2, h3⟩
  · cases pre with
    | nil =>
      exfalso
      rw [List.nil_append, h3] at h1
      injection h1 with e1 _
      rw [e1, h4] at hr
      cases hr
    | cons x0 pre' =>
      rw [List.cons_append] at h1
      injection h1 with _ e2
      exact Or.inl ⟨pre', suf, e2, h2, ⟨r0, q0, h3, h4⟩, h5⟩
  · exact Or.inr ⟨h1.tail, h2, hp h2 h3⟩

/-- An empty removal request in front changes nothing (the retried removal behind a batch). -/
theorem GXC3b.consNilD14 {B x : Nat} {q : List WReq} {p : List Nat} {safe : Prop}
    (h : GXC3b B x q p safe) : GXC3b B x (.removeChunks [] :: q) p safe := by
  rcases h with ⟨pre, suf, h1, h2, h3, h5⟩ | ⟨h1, h2, h3⟩
  · exact Or.inl ⟨.removeChunks [] :: pre, suf, by rw [h1]; rfl, h2, h3, h5⟩
  · refine Or.inr ⟨?_, h2, ?_⟩
    · intro r hr hw
      rcases List.mem_cons.mp hr with e | e
      · subst e; cases hw
      · exact h1 r e hw
    · exact h3

theorem GXC3b.batch {B x : Nat} {b rest : List WReq} {p : List Nat} {safe : Prop}
    (h : GXC3b B x (b ++ rest) p safe) (hb : ∀ r ∈ b, r.isWrite = true) (hne : b ≠ []) :
    GXC3b B x rest p (∃ r ∈ b, B ≤ r.upto) := by
  rcases h with ⟨pre, suf, h1, h2, ⟨r0, q0, h3, h4⟩, h5⟩ | ⟨h1, h2, h3⟩
  · rcases List.append_eq_append_iff.mp h1 with ⟨a', e1, e2⟩ | ⟨c', e1, e2⟩
    · -- the batch ends inside `pre`
      exact Or.inl ⟨a', suf, e2, h2, ⟨r0, q0, h3, h4⟩, h5⟩
    · -- the batch reaches into `suf`
      cases c' with
      | nil =>
        rw [List.nil_append] at e2
        exact Or.inl ⟨[], suf, by rw [e2]; rfl, h2, ⟨r0, q0, h3, h4⟩, h5⟩
      | cons x0 c'' =>
        have hx : x0 = r0 := by
          rw [h3, List.cons_append] at e2
          injection e2 with e _
          exact e.symm
        have hxb : r0 ∈ b := by rw [e1, ← hx]; simp
        have hge : B ≤ r0.upto := h2 r0 (by rw [h3]; exact List.mem_cons_self) h4
        have hc' : ∀ r ∈ x0 :: c'', r.isWrite = true := fun r hr =>
          hb r (by rw [e1]; exact List.mem_append_right _ hr)
        refine Or.inr ⟨?_, ⟨r0, hxb, hge⟩, Or.inr ?_⟩
        · rw [e2] at h2; exact h2.right
        · rw [e2, rmIds_append, rmIds_writes _ hc', List.nil_append] at h5
          exact h5
  · cases b with
    | nil => exact absurd rfl hne
    | cons r0 b' =>
      have hge : B ≤ r0.upto := h1 r0 (by simp) (hb r0 List.mem_cons_self)
      refine Or.inr ⟨h1.right, ⟨r0, List.mem_cons_self, hge⟩, ?_⟩
      rcases h3 with k | k
      · exact Or.inl k
      · right
        rw [rmIds_append, rmIds_writes _ hb, List.nil_append] at k
        exact k

theorem WGuardAtC3b.at_pc {B x : Nat} {w : Worker} {pc : WPc} (h : WGuardAtC3b B x w) (hpc : w.pc = pc) :
    GXC3b B x (pc.inHand ++ w.queue) w.postponed (PcSafeC3b B { w with pc := pc }) := by
  subst hpc
  exact h

theorem toRecv_guardAt_C3b {B x : Nat} (c : WCtx)
    (h : GXC3b B x c.w.queue c.w.postponed (c.w.lastSyncFailed = true))
    (hnd : c.toRecv.w.pc ≠ .dead) : WGuardAtC3b B x c.toRecv.w := by
  rcases c.toRecv_cases with ⟨r, q, hq, e⟩ | ⟨hq, _, e⟩ | ⟨hq, _, e⟩
  · rw [e]
    rw [hq] at h
    exact h
  · rw [e]
    exact h
  · rw [e] at hnd
    exact absurd rfl hnd

theorem WCtx.nonFlush_shape (c : WCtx) (r : WReq) (hr : r.isWrite = false) :
    (∃ c0 : WCtx, c.nonFlush r = c0.toRecv ∧ c0.w.queue = c.w.queue ∧
      c0.w.lastSyncFailed = c.w.lastSyncFailed ∧ c0.w.postponed = c.w.postponed ++ rmIds [r]) ∨
    (c.w.lastSyncFailed = false ∧ ∃ i rest, c.w.postponed ++ rmIds [r] = i :: rest ∧
      c.nonFlush r = { c with w := { c.w with pc := .unlinking (i :: rest), postponed := [] } }) := by
  rcases c.nonFlush_cases r with ⟨c0, e, _, _, hq, _, hl, _, ⟨hp, hz⟩ | ⟨ids, rfl, _, hp⟩⟩ | ⟨ids, rfl, hf, hne, e⟩
  · refine .inl ⟨c0, e, hq, hl, ?_⟩
    cases r with
    | write u d cb => cases hr
    | appendFile n p => simpa [rmIds] using hp
    | removeChunks ids => rw [hp]; simp [rmIds, (List.append_eq_nil_iff.mp (hz ids rfl).2).2]
  · exact .inl ⟨c0, e, hq, hl, by simpa [rmIds] using hp⟩
  · obtain ⟨i, rest, hall⟩ := List.exists_cons_of_ne_nil hne
    exact .inr ⟨hf, i, rest, by simpa [rmIds] using hall, by rw [e, hall]⟩

theorem nonFlush_guardAt_C3b {B x : Nat} (c : WCtx) (r : WReq) (hr : r.isWrite = false)
    (h : GXC3b B x (r :: c.w.queue) c.w.postponed (c.w.lastSyncFailed = true))
    (hnd : (c.nonFlush r).w.pc ≠ .dead) : WGuardAtC3b B x (c.nonFlush r).w := by
  rcases c.nonFlush_shape r hr with ⟨c0, e, hq, hl, hp⟩ | ⟨hf, i, rest, _, e⟩
  · rw [e] at hnd ⊢
    apply toRecv_guardAt_C3b _ _ hnd
    rw [hq, hl, hp]
    refine h.pop hr (fun _ k => ?_)
    rw [show r :: c.w.queue = [r] ++ c.w.queue from rfl, rmIds_append] at k
    rcases k with k | k
    · exact Or.inl (List.mem_append_left _ k)
    · rcases List.mem_append.mp k with k' | k'
      · exact Or.inl (List.mem_append_right _ k')
      · exact Or.inr k'
  · rw [e]
    have h' : GXC3b B x c.w.queue [] (c.w.lastSyncFailed = true) :=
      h.pop hr (fun k _ => by rw [hf] at k; cases k)
    exact h'

theorem finishBatch_guardAt_C3b {B x : Nat} (c : WCtx) (b : List WReq) (t : Option WReq) (ok : Bool)
    (ht : tailOK t) (h : GXC3b B x (t.toList ++ c.w.queue) c.w.postponed (ok = false))
    (hnd : (c.finishBatch b t ok).w.pc ≠ .dead) : WGuardAtC3b B x (c.finishBatch b t ok).w := by
  rw [WCtx.finishBatch_eq] at hnd ⊢
  have h0 := h.mono (safe' := (!ok) = true) (by intro e; rw [e]; rfl)
  cases t with
  | none =>
    apply nonFlush_guardAt_C3b _ _ rfl _ hnd
    simpa using h0.consNilD14
  | some r =>
    cases r with
    | write u d cb => exact absurd (ht _ rfl) (by simp [WReq.isWrite])
    | removeChunks ids =>
      apply nonFlush_guardAt_C3b _ _ rfl _ hnd
      simpa using h0
    | appendFile n p =>
      apply nonFlush_guardAt_C3b _ _ rfl _ hnd
      have h1 : GXC3b B x c.w.queue c.w.postponed ((!ok) = true) :=
        GXC3b.pop (r := .appendFile n p) h0 rfl (fun _ k => k)
      simpa using h1.consNilD14

theorem startSync_guardAt_C3b {B x : Nat} (c : WCtx) (b : List WReq) (t : Option WReq)
    (hf : c.w.files ≠ [])
    (h : GXC3b B x (t.toList ++ c.w.queue) c.w.postponed (∃ r ∈ b, B ≤ r.upto)) :
    WGuardAtC3b B x (c.startSync b t).w := by
  rcases c.startSync_cases b t with ⟨e, _⟩ | ⟨f, _, e⟩ | ⟨_, e⟩
  · exact absurd e hf
  · rw [e]
    exact h
  · rw [e]
    exact h

theorem startWrites_guardAt_C3b {B x : Nat} (c : WCtx) (b : List WReq) (t : Option WReq)
    (hf : c.w.files ≠ [])
    (h : GXC3b B x (t.toList ++ c.w.queue) c.w.postponed (∃ r ∈ b, B ≤ r.upto)) :
    WGuardAtC3b B x (c.startWrites b t).w := by
  rcases c.startWrites_cases b t with ⟨_, e⟩ | ⟨_, e⟩
  · rw [e]; exact startSync_guardAt_C3b c b t hf h
  · rw [e]
    exact h

theorem WGuardAtC3b.step {B x : Nat} (c : WCtx) (out : Outcome) (A : Nat) (hwf : c.w.WF)
    (hok : c.w.pc.ok c.w.files) (h : WGuardAtC3b B x c.w) (hnd : (c.step out).w.pc ≠ .dead) :
    B ≤ c.ackStep out A ∨ WGuardAtC3b B x (c.step out).w := by
  have hne : ∀ {pc : WPc}, c.w.pc = pc → pc ≠ .dead → c.w.files ≠ [] :=
    fun hpc hd => hwf.files_ne (hpc ▸ hd)
  revert hnd
  apply c.step_w_elim (P := fun w' => w'.pc ≠ .dead → (B ≤ c.ackStep out A ∨ WGuardAtC3b B x w')) out
  case dead => exact fun _ _ => .inr h
  case recv =>
    intro c0 hw hpc hnd
    refine .inr (toRecv_guardAt_C3b c0 ?_ hnd)
    rw [hw]
    rcases hpc with hpc | hpc | ⟨i, hpc, _⟩ <;> exact h.at_pc hpc
  case gotW =>
    -- the batch is taken from the front of `r :: queue`
    intro r hpc hr _
    obtain ⟨e, hb⟩ := collectBatch_cons 1024 r c.w.queue hr
    have h0 : GXC3b B x (r :: c.w.queue) c.w.postponed (c.w.lastSyncFailed = true) := h.at_pc hpc
    rw [e] at h0
    exact .inr (startWrites_guardAt_C3b _ _ _ (hne hpc nofun) (h0.batch hb (List.cons_ne_nil _ _)))
  case gotN => exact fun r hpc hr hnd => .inr (nonFlush_guardAt_C3b c r hr (h.at_pc hpc) hnd)
  case sync =>
    intro c0 todo b t hw hpc _ _
    exact .inr (startSync_guardAt_C3b c0 b t (hw ▸ hne hpc nofun) (hw ▸ h.at_pc hpc))
  case write =>
    intro d rest todo' b t hpc _ _ _
    have h0 := h.at_pc hpc
    exact .inr h0
  case die => exact fun _ hnd => absurd rfl hnd
  case finish =>
    intro c0 b t ok hw hpc hfalse htrue hnd
    have ht : tailOK t := by
      rcases hpc with hpc | hpc <;> rw [hpc] at hok
      · exact hok.1
      · exact hok
    have h0 : GXC3b B x (t.toList ++ c.w.queue) c.w.postponed (∃ r ∈ b, B ≤ r.upto) := by
      rcases hpc with hpc | hpc <;> exact h.at_pc hpc
    cases ok with
    | false =>
      -- a failed sync postpones removals (`safe` becomes `false = false`)
      exact .inr (finishBatch_guardAt_C3b c0 b t false ht (hw ▸ h0.mono fun _ => rfl) hnd)
    | true =>
      -- the batch is acknowledged: it contains a write with `upto ≥ B`, or the guard is still ahead
      have hfne : c.w.files ≠ [] := by rcases hpc with hpc | hpc <;> exact hne hpc nofun
      obtain ⟨hpc', ho⟩ := htrue rfl hfne
      rcases h0 with h1 | ⟨_, ⟨r, hr, hge⟩, _⟩
      · exact .inr (finishBatch_guardAt_C3b c0 b t true ht (hw ▸ Or.inl h1) hnd)
      · left
        exact Nat.le_trans hge (WCtx.le_ackStep_of_mem hpc' ho hr A)
  case soOk =>
    intro c0 b t f rest hpc hf _ hw _
    have hrest : rest ≠ [] := by
      intro e
      have : 2 ≤ c.w.files.length := by rw [hpc] at hok; exact hok.2
      rw [hf, e] at this
      exact absurd this (Nat.lt_irrefl 1)
    exact .inr (startSync_guardAt_C3b c0 b t (by rw [hw]; exact hrest) (by rw [hw]; exact h.at_pc hpc))
  case ulMore =>
    intro i j rest hpc _ _
    have h0 := h.at_pc hpc
    exact .inr h0

theorem WGuardC3b.imp {B : Nat} {w w' : Worker} (h : WGuardC3b B w)
    (f : ∀ x, WGuardAtC3b B x w → WGuardAtC3b B x w') : WGuardC3b B w' := by
  obtain ⟨x, hx⟩ := WGuardC3b_iff.mp h
  exact WGuardC3b_iff.mpr ⟨x, f x hx⟩

end RaftLog
