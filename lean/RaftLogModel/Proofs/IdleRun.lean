/-
`workerIdle` is a run of all-ok worker steps. A worker step never reads the event list
(`WCtx.step_frame`), so the contexts `Sys.workerStep` builds afresh at every step chain up to the
single context `Sys.workerIdle` runs in (`Sys.run_workers`, `Sys.step_workerIdle`). What every
all-ok worker step keeps, `workerIdle` keeps (`Sys.workerIdle_induct`).
-/
import RaftLogModel.Proofs.WorkerFrame
import RaftLogModel.Proofs.SysBasic
namespace RaftLog

/-- The worker context of a system with store `s`, and the system after the worker ran in it. -/
def Sys.wctx (y : Sys) (s : Store) : WCtx := { w := y.worker, fs := y.fs, cache := s.cache }
def Sys.withCtx (y : Sys) (s : Store) (c : WCtx) : Sys :=
  { y with worker := c.w, fs := c.fs, store := some { s with cache := c.cache } }

/-- The worker context when `workerIdle` returns. -/
def Sys.idleEnd (y : Sys) (s : Store) : WCtx := WCtx.runQuiet y.worker.fuel (y.wctx s)

theorem Sys.workerStep_eq (y : Sys) (o : Outcome) {s : Store} (hs : y.store = some s) :
    y.workerStep o = (y.withCtx s ((y.wctx s).step o), ((y.wctx s).step o).evs) := by
  simp only [Sys.workerStep, hs]
  rfl

theorem Sys.workerIdle_eq (y : Sys) {s : Store} (hs : y.store = some s) :
    y.workerIdle = (y.withCtx s (y.idleEnd s), (y.idleEnd s).evs) := by
  simp only [Sys.workerIdle, hs]
  rfl

theorem Sys.step_workerIdle_eq (y : Sys) {s : Store} (hs : y.store = some s) :
    y.step .workerIdle = y.withCtx s (y.idleEnd s) :=
  congrArg Prod.fst (y.workerIdle_eq hs)

theorem Sys.withCtx_step (y : Sys) (s : Store) (c : WCtx) (o : Outcome) :
    (y.withCtx s c).step (.worker o) = y.withCtx s (c.step o) := by
  have h : c = ({ c with evs := [] } : WCtx).frame true c.evs := by simp [WCtx.frame]
  conv => rhs; rw [h, WCtx.step_frame, WCtx.reframe_true]
  rfl

theorem Sys.run_workers (y : Sys) (s : Store) (c : WCtx) (outs : List Outcome) :
    (y.withCtx s c).run (outs.map .worker) = y.withCtx s (c.runOuts outs) := by
  induction outs generalizing c with
  | nil => rfl
  | cons o outs ih =>
    rw [List.map_cons, Sys.run_cons, y.withCtx_step s c o]
    exact ih _

def Sys.idleSteps (y : Sys) : Nat :=
  match y.store with
  | some s => WCtx.quietSteps y.worker.fuel (y.wctx s)
  | none => 0

theorem Sys.step_workerIdle (y : Sys) :
    y.step .workerIdle = y.run (List.replicate y.idleSteps (.worker .ok)) := by
  unfold Sys.idleSteps
  cases hs : y.store with
  | none => simp [Sys.step, Sys.workerIdle, hs, Sys.run]
  | some s =>
    have h0 : y = y.withCtx s (y.wctx s) := by
      cases y; simp only [Sys.withCtx, Sys.wctx] at hs ⊢; rw [hs]
    have := y.run_workers s (y.wctx s) (List.replicate (WCtx.quietSteps y.worker.fuel (y.wctx s)) .ok)
    rw [← h0, List.map_replicate, ← WCtx.runQuiet_eq_runOuts] at this
    rw [this, y.step_workerIdle_eq hs]
    rfl

theorem Sys.worker_step_dead (y : Sys) (o : Outcome) (h : y.worker.pc = .dead) :
    (y.step (.worker o)).worker.pc = .dead := by
  simp only [Sys.step, Sys.workerStep]
  cases y.store with
  | none => exact h
  | some s => show (WCtx.step ⟨y.worker, y.fs, s.cache, []⟩ o).w.pc = .dead; rw [WCtx.step_dead _ o h]; exact h

/-- Only steps that leave the worker alive need be considered when it is alive at the end: a dead
worker stays dead. -/
theorem Sys.workerIdle_induct {P : Sys → Prop}
    (hstep : ∀ y, P y → (y.step (.worker .ok)).worker.pc ≠ .dead → P (y.step (.worker .ok)))
    {y : Sys} (h : P y) (hnd : (y.step .workerIdle).worker.pc ≠ .dead) : P (y.step .workerIdle) := by
  rw [Sys.step_workerIdle] at hnd ⊢
  generalize y.idleSteps = k at hnd ⊢
  induction k generalizing y with
  | zero => exact h
  | succ k ih =>
    refine ih (hstep y h fun hd => hnd ?_) hnd
    exact Sys.run_induct (P := fun y => y.worker.pc = .dead) (C := (· = .worker .ok))
      (fun y _ e => e ▸ y.worker_step_dead .ok) hd fun _ hm => List.eq_of_mem_replicate hm

/-- For what a dying step keeps too: no aliveness hypothesis. -/
theorem Sys.workerIdle_induct' {P : Sys → Prop} (hstep : ∀ y, P y → P (y.step (.worker .ok)))
    {y : Sys} (h : P y) : P (y.step .workerIdle) := by
  rw [Sys.step_workerIdle]
  exact Sys.run_induct (C := (· = .worker .ok)) (fun y _ e => e ▸ hstep y) h fun _ hm => List.eq_of_mem_replicate hm

end RaftLog
