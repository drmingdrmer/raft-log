/-
C07: what a worker step does to the file entries `(id, prevLast)` the worker knows or will be
told about: they only move from the queue into `files` or disappear (`WCtx.step_fents`). What it
does to the eviction boundary is `CacheStep` (Proofs/WorkerCache.lean).
-/
import RaftLogModel.Proofs.WorkerInv
namespace RaftLog

def reqEnts (l : List WReq) : List FileEnt := l.flatMap WReq.ents

@[simp] theorem reqEnts_nil : reqEnts [] = [] := rfl
@[simp] theorem reqEnts_cons (r : WReq) (l : List WReq) : reqEnts (r :: l) = r.ents ++ reqEnts l := by
  simp [reqEnts]
@[simp] theorem reqEnts_append (a b : List WReq) : reqEnts (a ++ b) = reqEnts a ++ reqEnts b := by
  simp [reqEnts]

theorem reqEnts_writes (b : List WReq) (hb : ∀ r ∈ b, r.isWrite = true) : reqEnts b = [] := by
  induction b with
  | nil => rfl
  | cons r b ih =>
    rw [reqEnts_cons, isWrite_ents (hb r List.mem_cons_self),
      ih (fun x hx => hb x (List.mem_cons_of_mem _ hx))]
    rfl

def Worker.fents (w : Worker) : List FileEnt := w.files ++ reqEnts (w.pc.held ++ w.queue)

theorem Worker.fents_eq (w : Worker) : w.fents = w.files ++ reqEnts w.rest := by
  simp [Worker.fents, Worker.rest, WPc.inHand_eq_held]

theorem WView.Quiet.fents {a b : WView} (h : Quiet a b) :
    b.files ++ reqEnts b.rest = a.files ++ reqEnts a.rest := by
  refine h.lift (R := fun a b => b.files ++ reqEnts b.rest = a.files ++ reqEnts a.rest) (fun _ => rfl)
    (fun h1 h2 => h2.trans h1) fun p => ?_
  cases p with
  | batch b R _ _ hr hb => simp [hr, reqEnts_writes _ hb]
  | ack ok => rfl
  | append n p q _ _ hr => simp [hr, WReq.ents]
  | remove ids q _ hr => simp [hr, WReq.ents]
  | retry => simp

theorem VAct.files {v v1 : WView} {fs fs1 : Fs} (h : VAct v fs v1 fs1) :
    v1.rest = v.rest ∧ ∀ x ∈ v1.files, x ∈ v.files := by
  cases h with
  | syncOld f rest hf _ => exact ⟨rfl, fun x hx => hf ▸ List.mem_cons_of_mem _ hx⟩
  | _ => exact ⟨rfl, fun _ hx => hx⟩

theorem WCtx.step_fents (c : WCtx) (out : Outcome) (hok : c.w.pc.ok c.w.files) :
    ∀ x ∈ (c.step out).w.fents, x ∈ c.w.fents := by
  intro x hx
  rcases c.step_view out hok with hd | ⟨v1, ha, hq⟩
  · rw [(c.step_dies out hd).1] at hx
    exact List.mem_append_left _ (by simpa [Worker.fents, WPc.held] using hx)
  · rw [Worker.fents_eq] at hx ⊢
    rw [show (c.step out).w.files ++ reqEnts (c.step out).w.rest = _ from hq.fents, ha.files.1] at hx
    rcases List.mem_append.mp hx with h | h
    · exact List.mem_append_left _ (ha.files.2 x h)
    · exact List.mem_append_right _ h

end RaftLog
