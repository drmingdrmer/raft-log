/-
Evaluation of concrete histories. A statement `∃ s, o = some s ∧ p s` about a closed term `o` (the store at
the end of a concrete run, say) is decidable (core's `Option.decidableExistsMem`), so it can stand inside a
conjunction that ONE `decide +kernel` settles: the kernel runs the history once. Separate `decide` calls per
conjunct would each run it again. `and_of_decide` does the same for a conjunction whose instance is too large
to be found whole.
-/
namespace RaftLog

/-- Conjuncts decided in ONE evaluation, for a conjunction whose `Decidable` instance as a
whole is too large for instance synthesis: `and_of_decide (and_of_decide of_decide_eq_true)`
proves `a ∧ b ∧ c` from `(decide a && (decide b && decide c)) = true`, each instance found on
its own. The last conjunct may be any `b` with a proof (`d := true`). -/
theorem and_of_decide {a b : Prop} [Decidable a] {d : Bool} (hb : d = true → b)
    (h : (decide a && d) = true) : a ∧ b :=
  ⟨of_decide_eq_true (Bool.and_eq_true_iff.mp h).1, hb (Bool.and_eq_true_iff.mp h).2⟩

end RaftLog
