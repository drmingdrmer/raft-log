/-
C07 after crash recovery: the payload cache of the store `open` builds on a crash image, for ANY cache limits
(the counterpart of `openStore_ck_C7c`, Proofs/ReadRestartCache.lean, for damaged directories), and the read
invariant `ReadInvC7c` of the recovered system (`recover_readInv_C7c`). `CrashReadInvC7c` = crash invariant of C05
∧ journal freshness ∧ read invariant is what Props/C07Restart carries through crash + recovery rounds: it is kept
along `AppendsFresh` histories (`run_crashReadInv_C7c`; `freshOps_mono_C7c`: a history fresh above `m` is fresh
above any `m' ≤ m`, which is what a recovered `m'' ≤ m` needs).
-/
import RaftLogModel.Proofs.ReadRestartInv
import RaftLogModel.Proofs.ReadRestartFresh
import RaftLogModel.Proofs.RecovCrashInv
namespace RaftLog

theorem closedOK_of_journal_C7c {s : Store} {fs : Fs} {w : Worker} {jc : List (Closed × List Record)}
    {jo : List Record} {m : Option LogId} (g : RepG s fs w jc jo) (hj : JInv s fs w)
    (hF : FTotC7c (allOps s jc jo) m) : ClosedOKC7c (optMaxC7b m s.st.purged) s := by
  intro c hc
  obtain ⟨Q, R, l1, J⟩ := journal_split_C7c g hj hc
  rw [J.ops_eq] at hF
  obtain ⟨ha, hb⟩ := FTotC7c.split hF J.ne J.stLo J.stHi
  refine ⟨ha, fun x hx hle => ?_⟩
  obtain ⟨p, hp⟩ := g.pts x hx
  rw [J.ops_eq] at hp
  rcases List.mem_append.mp hp with h1 | h1
  · have := J.chunkLo _ h1
    simp only [opAt] at this
    omega
  · have := hb _ h1 x.2.id p rfl
    rw [hle] at this; cases this

theorem entriesWF_of_journal_C7c {s : Store} {fs : Fs} {w : Worker} {r : RefLog}
    (hinv : RInv s fs w r) : r.EntriesWF := by
  obtain ⟨jc, jo, g, gp, _⟩ := hinv.rep
  intro en hen
  obtain ⟨le, hle', _, hlk⟩ := mem_log_of_keys hinv.abs.log hen
  obtain ⟨p, hp⟩ := g.pts le hle'
  have hpe := gp le hle' p hp
  rw [hlk] at hpe
  have hwf := (g.op_located hp).2.1
  simp only [opAt] at hwf
  rw [hlk, hinv.abs.wf.payload_unique hpe hen] at hwf
  exact hwf

theorem hok_prefix_C7c (cfg : Cfg) {L P t : List JOp} (hL : L = P ++ t)
    (hhead : ∃ hd tl x, L = hd :: tl ∧ hd.r = .state x)
    (hrun : ∀ hd tl, L = hd :: tl → ∀ x, hd.r = .state x → RunOK tl x []) :
    HOK P (emptyStore cfg) := by
  cases P with
  | nil => exact .inl trivial
  | cons p P' =>
    right
    obtain ⟨hd, tl, x, hLe, hx⟩ := hhead
    rw [hL, List.cons_append, List.cons.injEq] at hLe
    obtain ⟨e1, e2⟩ := hLe
    subst e1
    refine ⟨rfl, p, P', x, rfl, hx, ?_⟩
    have := hrun p (P' ++ t) (by rw [hL]; rfl) x hx
    exact (RunOK_append.mp this).1

theorem CrashInvC5b.image_prep {y : Sys} {r : RefLog} {W : List Op} {A E K : Nat}
    (h : CrashInvC5b y r W A E K) {img : Fs} (hc : CrashImage y.fs img) (hnt : NoTornPredecessor img)
    (cfg' : Cfg) :
    ∃ s cs Bh jc jo stC lC g0 j rest n r' l N0, CrashGhostC5b y r W A E K s cs Bh ∧
      RepG (s.liftC3b cs) y.fs y.worker jc jo ∧
      PrepC5b (s.liftC3b cs) img jc jo W Bh A E K stC lC g0 j rest n r' l N0 ∧
      HOK (flatOps jc ++ chunkOps (s.liftC3b cs).openId (jo.take j)) (emptyStore cfg') := by
  obtain ⟨s, cs, Bh, jc, jo, stC, lC, g0, j, rest, n2, r2, l, N0, G, g, hpp⟩ := h.prep hc hnt
  obtain ⟨jc0, jo0, gg0, _, gr0⟩ := G.hinv.inv.rep
  obtain ⟨u1, u2⟩ := g.unique_C3b gg0
  subst u1; subst u2
  obtain ⟨t, ht'⟩ := hpp.isPrefix
  exact ⟨s, cs, Bh, jc, jo, stC, lC, g0, j, rest, n2, r2, l, N0, G, g, hpp,
    hok_prefix_C7c cfg' ht'.symm (allOps_head_state g) gr0⟩

theorem openStore_image_ck_C7c {cfg : Cfg} (ht : cfg.truncate = true) {img fs' : Fs} {s' : Store}
    {w' : Worker} {evs : List Ev} {jc : List (Closed × List Record)} {oid : Nat} {jo : List Record}
    {stC : RState} {lC : Log} {g0 : File} {j : Nat} {rest : Bytes} {stJ : RState} {lJ : Log}
    (ho : openStore cfg img = (.ok (s', w'), fs', evs))
    (hp : ImgParseC5b img jc oid jo stC lC g0 j rest stJ lJ)
    (hok : HOK (flatOps jc ++ chunkOps oid (jo.take j)) (emptyStore cfg)) :
    ∃ a1 sm2, ImageLoop cfg img jc oid (jo.take j) (tailTrunc (jo.take j) rest) stC lC stJ lJ a1 sm2 ∧
      CKBndC7c (flatOps jc ++ chunkOps oid (jo.take j)) (chunkOps oid (jo.take j) ++ []) a1 ∧
      CKMidC7c (flatOps jc ++ chunkOps oid (jo.take j)) [] { a1.pre with sm := sm2 } ∧
      ImageStore jc oid sm2 s' w' :=
  openStore_image_inv (ck_loadStep_C7c (flatOps jc ++ chunkOps oid (jo.take j))) cfg [] hp.hyp.ids
    hp.hyp.files hp.hyp.rep hp.hyp.chained (offsetsFrom_headD _ _) hp.hyp.g0
    (hp.data ▸ openChunk_tail (hp.hyp.wfo.take j) (hp.tail.imp_right fun h => ⟨ht, h⟩) oid) hp.st hp.log
    (by rw [List.append_nil]; exact .init img hok) ho

theorem openStore_image_cacheInv_C7c {cfg : Cfg} (ht : cfg.truncate = true) {img fs' : Fs} {s' : Store}
    {w' : Worker} {evs : List Ev} {jc : List (Closed × List Record)} {oid : Nat} {jo : List Record}
    {stC : RState} {lC : Log} {g0 : File} {j : Nat} {rest : Bytes} {stJ : RState} {lJ : Log}
    (ho : openStore cfg img = (.ok (s', w'), fs', evs))
    (hp : ImgParseC5b img jc oid jo stC lC g0 j rest stJ lJ)
    (hok : HOK (flatOps jc ++ chunkOps oid (jo.take j)) (emptyStore cfg)) : CacheInv s' := by
  obtain ⟨_, sm2, _, _, M, k⟩ := openStore_image_ck_C7c ht ho hp hok
  obtain ⟨d, hd, hck⟩ := M.ck
  exact hck.cinv.of_fields k.st (congrArg _ k.cache) (congrArg _ k.cache)

theorem openStore_cache_C7c {cfg : Cfg} (ht : cfg.truncate = true) {img fs' : Fs} {s' : Store}
    {w' : Worker} {evs : List Ev} {jc : List (Closed × List Record)} {oid : Nat} {jo : List Record}
    {stC : RState} {lC : Log} {g0 : File} {j : Nat} {rest : Bytes} {stJ : RState} {lJ : Log}
    {R : List JOp} (ho : openStore cfg img = (.ok (s', w'), fs', evs))
    (hp : ImgParseC5b img jc oid jo stC lC g0 j rest stJ lJ)
    (hok : HOK (flatOps jc ++ chunkOps oid (jo.take j)) (emptyStore cfg))
    (hsub : ∀ op ∈ flatOps jc ++ chunkOps oid (jo.take j), op ∈ R) {r' : RefLog}
    (hpay : ∀ x ∈ s'.log, ∀ p, opAt x p ∈ R → (x.2.id, p) ∈ r'.entries) :
    w' = { files := [⟨s'.openId, prevLastOf s'.closed⟩] } ∧ OpenedC7c s' r' := by
  obtain ⟨a1, sm2, L, B, M, k⟩ := openStore_image_ck_C7c ht ho hp hok
  obtain ⟨d, hd, hck⟩ := M.ck
  have hlt := hp.hyp.lt
  rw [List.append_nil] at hd
  subst hd
  have hcl2 : sm2.closed = jc.map (·.1) := L.same.closed.trans L.closed
  refine ⟨k.worker, hck.cinv.of_fields k.st (congrArg _ k.cache) (congrArg _ k.cache), ?_, ?_, ?_⟩
  · intro x hx p hp
    exact hpay x hx p (hsub _ (hck.val x (k.log ▸ hx) p (k.cache ▸ hp)))
  · -- an entry of the returned open chunk lies in no complete chunk: its id is `oid` or larger
    intro x hx hch' hgt
    rw [k.cache] at hgt ⊢
    refine M.res x (k.log ▸ hx) (fun c hc hid => ?_) hgt
    rw [show ({ a1.pre with sm := sm2 } : OpenAcc).sm.closed = sm2.closed from rfl, hcl2] at hc
    obtain ⟨p, hp, rfl⟩ := List.mem_map.mp hc
    have := hlt p hp
    have := k.openId
    omega
  · rw [k.cache, M.bnd, show ({ a1.pre with sm := sm2 } : OpenAcc).lastLogId = a1.lastLogId from rfl, B.lastId,
      L.closed]
    exact (prevLastOf_cases _).imp_right fun ⟨c, hc, e⟩ => ⟨c, k.closed.subset hc, e⟩

/-- The journal `open` leaves on a crash image is a prefix `P` of a fresh journal `L`, possibly followed by the
head record of a fresh chunk. -/
theorem fresh_of_prefix_C7c {L P t R : List JOp} {m : Option LogId} {stL st : RState} {id : Nat}
    (hL : P ++ t = L) (hF : FTotC7c L m) (hrun : stRunO L {} = some stL)
    (hst : stRunO P {} = some st) (hR : KeptC5b P R st id)
    (hhead : ∃ hd tl x, R = hd :: tl ∧ hd.r = .state x) :
    ∃ m'', FTotC7c R m'' ∧ optLe m'' m = true := by
  by_cases hPnil : P = []
  · -- nothing was replayed: the journal is the head record alone
    subst hPnil
    simp only [stRunO, List.map_nil, stRun, Option.some.injEq] at hst
    rcases hR with k | k
    · obtain ⟨hd, tl, _, hk, _⟩ := hhead
      rw [k] at hk
      cases hk
    · rw [k, List.nil_append]
      refine ⟨none, ⟨headOpC5b st id, [], st, none, rfl, rfl, ?_, trivial, rfl⟩, by simp⟩
      rw [← hst]
      rfl
  · subst hL
    obtain ⟨m1, hF1, hle1⟩ := hF.prefix_le hPnil hrun
    rcases hR with k | k
    · exact ⟨m1, by rw [k]; exact hF1, hle1⟩
    · refine ⟨m1, ?_, hle1⟩
      rw [k]
      exact hF1.snoc (op := headOpC5b st id) hst ⟨rfl, rfl⟩

/-- The recovered system satisfies `ReadInvC7c` for the recovered reference prefix `r'` and a ghost value
`m'' ≤ m`: ids appended after the recovered prefix are forgotten. -/
theorem recover_readInv_C7c {y : Sys} {r : RefLog} {W : List Op} {A E K : Nat} {m : Option LogId}
    (h : CrashInvC5b y r W A E K) (hf : FSysC7c y r W m) {img : Fs} (hc : CrashImage y.fs img)
    (hnt : NoTornPredecessor img) (cfg' : Cfg) (ht : cfg'.truncate = true) :
    ∃ s' w' fs' evs n r' A' m'', openStore cfg' img = (.ok (s', w'), fs', evs) ∧
      RefLog.run {} (W.take n) = some r' ∧ (E ≤ A → K ≤ n) ∧
      CrashInvC5b (recoveredSysC5b cfg' s' w' fs') r' (W.take n) A' s'.openEnd n ∧
      ReadInvC7c (recoveredSysC5b cfg' s' w' fs') r' m'' ∧ optLe m'' m = true ∧
      FSysC7c (recoveredSysC5b cfg' s' w' fs') r' (W.take n) m'' ∧
      (recoveredSysC5b cfg' s' w' fs').Clean ∧ s'.cfg = cfg' := by
  obtain ⟨s, cs, Bh, jc, jo, stC, lC, g0, j, rest, n, r', l, N0, G, g, hpp, hok⟩ := h.image_prep hc hnt cfg'
  -- `open` on the prepared image: the recovered store and its journal `(jc', jo')`
  obtain ⟨s', w', fs', evs, jc', jo', q1, po⟩ := openStore_image_C5b cfg' ht hpp.parsed
  obtain ⟨A', RG⟩ := GhostRecoveredC5b.of_opened G.hinv G.small G.pay g hpp po
  have R := RG.recovered
  have hinv'' : RInv s' fs' w' r' := RG.hinv.inv
  have g' : RepG s' fs' w' jc' jo' := po.recov.repG
  have hPsub : ∀ op ∈ flatOps jc ++ chunkOps (s.liftC3b cs).openId (jo.take j), op ∈ allOps s' jc' jo' := by
    intro op hop
    rcases po.kept with ⟨k, _⟩ | ⟨k, _⟩
    · rw [k]; exact hop
    · rw [k]; exact List.mem_append_left _ hop
  -- the cache of the recovered store is as the replay leaves it
  obtain ⟨c4, hoc⟩ := openStore_cache_C7c ht q1 hpp.parsed hok hPsub (hinv''.payG_C5b g')
  -- the ghost journal is a suffix of the total journal, hence fresh (`hFG`)
  obtain ⟨sF, T, hsF, hFinv⟩ := hf
  obtain rfl : sF = s := Option.some.inj (hsF.symm.trans G.store)
  obtain ⟨jcT, joT, gT, hFT⟩ := hFinv.fresh
  have hids : T.map Closed.id = hFinv.tinv.ids.choose ++ cs.map Closed.id := by
    rw [← G.order]; exact hFinv.tinv.ids.choose_spec
  obtain ⟨preT, hsuf⟩ := journal_suffix_C5b gT g hids
  have hFG : FTotC7c (allOps (sF.liftC3b cs) jc jo) m := by
    rw [hsuf] at hFT
    exact hFT.suffix (by rw [← hsuf]; exact gT.flat_run.1) (allOps_head_state g)
  -- what `open` keeps is a prefix of it, perhaps with a head record after it, hence fresh with a ghost value
  -- `m'' ≤ m`
  obtain ⟨t, ht'⟩ := hpp.isPrefix
  have hstP := hpp.parsed.stRunO
  rw [← po.st] at hstP
  obtain ⟨m'', hFR', hle''⟩ := fresh_of_prefix_C7c ht' hFG g.flat_run.1 hstP po.keptC5b (allOps_head_state g')
  -- a fresh journal gives `ClosedOKC7c`; then `RdInvC7b.of_open`
  have hpu : s'.st.purged = r'.purged := hinv''.abs.purged
  have hk : ClosedOKC7c (optMaxC7b m'' r'.purged) s' := hpu ▸ closedOK_of_journal_C7c g' hinv''.j hFR'
  exact ⟨s', w', fs', evs, n, r', A', m'', q1, R.run, hpp.covers, R.inv,
    ⟨s', rfl, R.inv.alive_LIFT, hinv''.j, .of_open hinv'' hoc hk (hpu ▸ hFR'.lastB g'.flat_run.1) c4,
      entriesWF_of_journal_C7c hinv'', hk⟩, hle'',
    ⟨s', [], rfl, R.tinv, by rw [Store.liftC3b_nil]; exact ⟨jc', jo', g', hFR'⟩⟩, R.clean, R.cfgEq⟩

theorem freshIds_mono_C7c (es : List (LogId × Bytes)) : ∀ (m m' x : Option LogId), optLe m' m = true →
    freshIdsC7b m es = some x → ∃ x', freshIdsC7b m' es = some x' ∧ optLe x' x = true := by
  induction es with
  | nil =>
    intro m m' x hle h
    simp only [freshIdsC7b, Option.some.injEq] at h
    subst h
    exact ⟨m', rfl, hle⟩
  | cons e rest ih =>
    obtain ⟨id, p⟩ := e
    intro m m' x hle h
    simp only [freshIdsC7b] at h ⊢
    split at h
    · rename_i hlt
      have hlt' : optLt m' (some id) = true := optLt_of_le_of_lt hle hlt
      rw [if_pos hlt']
      exact ih (some id) (some id) x (optLe_refl _) h
    · cases h

theorem freshOps_mono_C7c (ops : List Op) : ∀ (m m' x : Option LogId), optLe m' m = true →
    freshOpsC7b m ops = some x → ∃ x', freshOpsC7b m' ops = some x' ∧ optLe x' x = true := by
  induction ops with
  | nil =>
    intro m m' x hle h
    simp only [freshOpsC7b, Option.some.injEq] at h
    subst h
    exact ⟨m', rfl, hle⟩
  | cons op rest ih =>
    intro m m' x hle h
    simp only [freshOpsC7b] at h ⊢
    split at h
    · rename_i m1 h1
      have : ∃ m1', freshOpC7b m' op = some m1' ∧ optLe m1' m1 = true := by
        by_cases ha : ∃ es, op = .append es
        · obtain ⟨es, rfl⟩ := ha
          exact freshIds_mono_C7c es m m' m1 hle h1
        · have hna : ∀ es, op ≠ .append es := fun es e => ha ⟨es, e⟩
          rw [freshOp_of_not_append hna] at h1 ⊢
          exact ⟨m', rfl, Option.some.inj h1 ▸ hle⟩
      obtain ⟨m1', k1, k2⟩ := this
      rw [k1]
      exact ih m1 m1' x k2 h
    · cases h

def CrashReadInvC7c (y : Sys) (r : RefLog) (W : List Op) (A E K : Nat) (m : Option LogId) : Prop :=
  CrashInvC5b y r W A E K ∧ FSysC7c y r W m ∧ ReadInvC7c y r m

theorem fresh_crashReadInv_C7c (cfg : Cfg) : CrashReadInvC7c (Sys.fresh cfg) {} [] 0 0 0 none :=
  ⟨fresh_CrashInv_C5b cfg, fresh_FSys_C7c cfg, fresh_readInv_C7c cfg⟩

theorem run_crashReadInv_C7c (steps : List Step) (y : Sys) (r r' : RefLog) (W : List Op) (A E K : Nat)
    (m m' : Option LogId) (h : CrashReadInvC7c y r W A E K m)
    (hsteps : ∀ st ∈ steps, st.journal = true)
    (hr : r.run (stepOps steps) = some r') (hwf : ∀ op ∈ stepOps steps, op.WF ∧ op.small)
    (hfr : freshOpsC7b m (stepOps steps) = some m')
    (hnd : (y.run steps).worker.pc ≠ .dead) :
    CrashReadInvC7c (y.run steps) r' (W ++ expandOps r (stepOps steps)) (y.ackRun steps A) E K m' ∧
    ∀ pre op post, steps = pre ++ Step.call op :: post → ∃ seg, ((y.run pre).call op).1 = .ok seg := by
  obtain ⟨h1, h2, h3⟩ := h
  obtain ⟨k1, k2⟩ := run_readInv_C7c steps y r r' m m' h3 hsteps hr
    (fun op hop => ⟨(hwf op hop).2, (hwf op hop).1⟩) hfr hnd
  exact ⟨⟨run_CrashInv_C5b steps y r r' W A E K h1 hsteps hr hwf hnd,
    run_FSys_C7c steps y r r' W m m' h2 hsteps hr hwf hnd hfr, k1⟩, k2⟩

end RaftLog
