/-
C05: `open` on a directory whose chunk files are complete, except the newest, which holds a prefix of its
chunk's records and then nothing or a torn tail. `LoopEndC5b`: the accumulator at the end of the loop, as a
record (the instance of `openLoop_image_inv`). `RecovC5b`: what `open` returns, in terms of record lists.
-/
import RaftLogModel.Proofs.CrashOpen
namespace RaftLog

/-- The newest chunk `oid` was cut as `tr` says and, with its complete records `rs`, closed like the others —
or, without a complete record, removed. -/
structure LoopEndC5b (cfg : Cfg) (img : Fs) (jc : List (Closed × List Record)) (oid : Nat)
    (rs : List Record) (tr : Option Nat) (stJ : RState) (lJ : Log) (a : OpenAcc) : Prop
    extends LimitsOf cfg a.sm where
  st : a.sm.st = stJ
  log : a.sm.log = lJ
  removed : a.sm.removed = []
  closed : a.sm.closed = jc.map (·.1) ++ if rs = [] then [] else [⟨offsetsFrom oid (sizes rs), stJ⟩]
  fs : a.fs = if rs = [] then (img.cut oid tr).unlink oid else img.cut oid tr
  evs : a.evs = syncEvs (jc.map (·.1.id)) ++ cutEvs oid tr ++
    [if rs = [] then .unlink "o" oid true else .sync "o" oid true]
  prevEnd : a.prevEnd = some (oid + (encAll rs).length)
  lastTruncated : a.lastTruncated = (rs.isEmpty || tr.isSome)

theorem openLoop_image_ok_C5b (cfg : Cfg) (ht : cfg.truncate = true) {img : Fs}
    {jc : List (Closed × List Record)} {oid : Nat} {o : List Nat} {rs : List Record} {stC : RState} {lC : Log}
    {g0 : File} {rest : Bytes} {stJ : RState} {lJ : Log}
    (hids : img.linkedIds = jc.map (·.1.id) ++ [oid])
    (hfiles : ∀ p ∈ jc, HoldsChunk img p)
    (hrep : RepC jc {} [] stC lC)
    (hch : Chained (jc.map (·.1.offsets) ++ [o])) (ho : o.headD 0 = oid)
    (hg0 : img.find oid = some g0) (hwf : AllWF rs)
    (hdata : g0.data = encAll rs ++ rest) (htail : rest = [] ∨ TornTail rest)
    (hstJ : stRun rs stC = some stJ) (hlJ : idxRun (chunkOps oid rs) lC = some lJ)
    (hdur : AllDurable img) :
    ∃ a, openLoop cfg img.linkedIds { sm := emptyStore cfg, fs := img } = (.ok a, a) ∧
      LoopEndC5b cfg img jc oid rs (tailTrunc rs rest) stJ lJ a := by
  have hoc := openChunk_tail (cfg := cfg) hwf (htail.imp_right fun h => ⟨ht, h⟩) oid
  rw [← hdata] at hoc
  obtain ⟨a1, sm2, L, _, _⟩ :=
    openLoop_image_inv .trivial cfg [] hids hfiles hrep hch ho hg0 hoc hstJ hlJ True.intro
  have hloop := L.loop
  obtain ⟨hfs1, hevs1⟩ := L.loads.fs_evs
  rw [hdur.syncAll_eq] at hfs1
  rw [List.nil_append] at hevs1
  generalize tailTrunc rs rest = tr at hloop ⊢
  by_cases hnil : rs = []
  · subst hnil
    cases hstJ
    cases hlJ
    rw [if_pos rfl] at hloop
    obtain ⟨hfs, hevs⟩ := a1.dropHeadless_fs_evs oid tr
    have hsm := a1.dropHeadless_sm oid tr
    exact ⟨_, hloop,
      { st := by rw [hsm]; exact L.loaded.st
        log := by rw [hsm]; exact L.loaded.log
        toLimitsOf := by rw [hsm]; exact L.limits_pre
        removed := by rw [hsm]; exact L.removed
        closed := by rw [if_pos rfl, List.append_nil, hsm]; exact L.closed
        fs := by rw [if_pos rfl, hfs, hfs1]
        evs := by rw [if_pos rfl, hevs, hevs1]
        prevEnd := rfl, lastTruncated := rfl }⟩
  · rw [if_neg hnil] at hloop
    obtain ⟨hfs, hevs⟩ := a1.kept_fs_evs oid rs tr sm2
    refine ⟨_, hloop,
      { st := L.st, log := L.log, toLimitsOf := L.limits_sm2.congr rfl rfl
        removed := L.same.removed.trans L.removed, closed := ?_, fs := ?_
        evs := by rw [if_neg hnil, hevs, hevs1]
        prevEnd := by show some (lastOff _) = _; rw [lastOff_sized]
        lastTruncated := ?_ }⟩
    · show sm2.closed ++ [⟨_, sm2.st⟩] = _
      rw [if_neg hnil, L.same.closed, L.st]
      exact congrArg (· ++ _) L.closed
    · rw [if_neg hnil, hfs, hfs1]
      cases tr with
      | none => exact hdur.sync_eq oid
      | some len => exact (hdur.truncate oid len).sync_eq oid
    · show tr.isSome = _
      rw [List.isEmpty_eq_false_iff.mpr hnil]; rfl

theorem linked_truncate_C5b {fs : Fs} (h : ∀ f ∈ fs, f.linked = true) (id len : Nat) :
    ∀ f ∈ fs.truncate id len, f.linked = true := by
  intro f hf
  obtain ⟨g, hg, rfl⟩ := Fs.mem_update hf
  split <;> exact h g hg

theorem linked_unlink_C5b {fs : Fs} (h : ∀ f ∈ fs, f.linked = true) (id : Nat) :
    ∀ f ∈ fs.unlink id, f.id ≠ id → f.linked = true := by
  intro f hf hne
  obtain ⟨g, hg, rfl⟩ := Fs.mem_update hf
  by_cases hc : g.id = id
  · exact absurd (by simp [hc]) hne
  · simpa [hc] using h g hg

theorem linked_create_write_C5b {fs : Fs} (n : Nat) (hd : Bytes)
    (h : ∀ f ∈ fs, f.id ≠ n → f.linked = true) :
    ∀ f ∈ (fs.create n).write n hd, f.linked = true := by
  intro f hf
  have key : ∀ f0 ∈ fs.create n, f0.linked = true := by
    intro f0 h0
    unfold Fs.create at h0
    rcases List.mem_append.mp h0 with k | k
    · obtain ⟨k1, k2⟩ := List.mem_filter.mp k
      exact h f0 k1 (by simpa using k2)
    · simp only [List.mem_singleton] at k; subst k; rfl
  obtain ⟨g, hg, rfl⟩ := Fs.mem_update hf
  split <;> exact key g hg

/-- What `RecovC5b.files` says of the file `f` of a closed chunk `p`. A conjunction and not a structure:
`RecovC5b.files` is stated as this text, and `HoldsDurable` has to be it by unfolding; the four lemmas below are its
field names. -/
@[reducible] def DurableFile (f : File) (p : Closed × List Record) : Prop :=
  f.linked = true ∧ f.data = encAll p.2 ∧ f.durable = f.data.length ∧ ChunkRecs p.1.offsets p.2 (encAll p.2)

theorem DurableFile.linked {f : File} {p : Closed × List Record} (h : DurableFile f p) : f.linked = true := h.1

theorem DurableFile.data {f : File} {p : Closed × List Record} (h : DurableFile f p) : f.data = encAll p.2 := h.2.1

theorem DurableFile.durable {f : File} {p : Closed × List Record} (h : DurableFile f p) :
    f.durable = f.data.length := h.2.2.1

theorem DurableFile.recs {f : File} {p : Closed × List Record} (h : DurableFile f p) :
    ChunkRecs p.1.offsets p.2 (encAll p.2) := h.2.2.2

/-- `HoldsChunk` for a directory as `open` leaves it. -/
@[reducible] def HoldsDurable (fs : Fs) (p : Closed × List Record) : Prop :=
  ∃ f, fs.find p.1.id = some f ∧ DurableFile f p

/-- What `RecovC5b.openFile` says of the file `f` of the open chunk (same remark as at `DurableFile`). -/
@[reducible] def OpenFileC5b (s' : Store) (jc' : List (Closed × List Record)) (jo' : List Record) (f : File) :
    Prop :=
  f.linked = true ∧ f.data = encAll jo' ∧ ChunkRecs s'.openOffsets jo' (encAll jo') ∧
    (f.durable = f.data.length ∨ (f.durable = 0 ∧ jo' = [.state s'.st] ∧ (jc' = [] → s'.st = {})))

theorem OpenFileC5b.linked {s' : Store} {jc' : List (Closed × List Record)} {jo' : List Record} {f : File}
    (h : OpenFileC5b s' jc' jo' f) : f.linked = true := h.1

theorem OpenFileC5b.data {s' : Store} {jc' : List (Closed × List Record)} {jo' : List Record} {f : File}
    (h : OpenFileC5b s' jc' jo' f) : f.data = encAll jo' := h.2.1

theorem OpenFileC5b.recs {s' : Store} {jc' : List (Closed × List Record)} {jo' : List Record} {f : File}
    (h : OpenFileC5b s' jc' jo' f) : ChunkRecs s'.openOffsets jo' (encAll jo') := h.2.2.1

theorem OpenFileC5b.durable {s' : Store} {jc' : List (Closed × List Record)} {jo' : List Record} {f : File}
    (h : OpenFileC5b s' jc' jo' f) :
    f.durable = f.data.length ∨ (f.durable = 0 ∧ jo' = [.state s'.st] ∧ (jc' = [] → s'.st = {})) := h.2.2.2

/-- What `open` returns, in terms of record lists (`jc'` the closed chunks, `jo'` the open chunk). The file of
the open chunk is durable, or it is the head of a fresh chunk, which `open` writes and does not sync (second
alternative of `openFile`). -/
structure RecovC5b (s' : Store) (w' : Worker) (fs' : Fs) (jc' : List (Closed × List Record))
    (jo' : List Record) : Prop where
  closedEq : jc'.map (·.1) = s'.closed
  files : ∀ p ∈ jc', ∃ f, fs'.find p.1.id = some f ∧ f.linked = true ∧ f.data = encAll p.2 ∧
    f.durable = f.data.length ∧ ChunkRecs p.1.offsets p.2 (encAll p.2)
  openFile : ∃ f, fs'.find s'.openId = some f ∧ f.linked = true ∧ f.data = encAll jo' ∧
    ChunkRecs s'.openOffsets jo' (encAll jo') ∧
    (f.durable = f.data.length ∨ (f.durable = 0 ∧ jo' = [.state s'.st] ∧ (jc' = [] → s'.st = {})))
  run : ∃ stC lC, RepC jc' {} [] stC lC ∧ stRun jo' stC = some s'.st ∧
    idxRun (chunkOps s'.openId jo') lC = some s'.log ∧ (jc' ≠ [] → ∃ tl, jo' = .state stC :: tl)
  chained : Chained s'.chunks
  pending : s'.pending = []
  removed : s'.removed = []
  worker : ∃ pl, w' = { files := [⟨s'.openId, pl⟩] }
  has : ∀ id, fs'.has id = true → id ∈ s'.chunkIds
  nodup : (Fs.ids fs').Nodup
  idsLe : ∀ i ∈ Fs.ids fs', i ≤ s'.openId
  allLinked : ∀ f ∈ fs', f.linked = true

/-- `RecovC5b.files`, to be read by name (`F.linked`, `F.data`, `F.durable`, `F.recs`). -/
theorem RecovC5b.closedFile {s' : Store} {w' : Worker} {fs' : Fs} {jc' : List (Closed × List Record)}
    {jo' : List Record} (h : RecovC5b s' w' fs' jc' jo') : ∀ p ∈ jc', HoldsDurable fs' p := h.files

theorem RecovC5b.openChunkFile {s' : Store} {w' : Worker} {fs' : Fs} {jc' : List (Closed × List Record)}
    {jo' : List Record} (h : RecovC5b s' w' fs' jc' jo') :
    ∃ f, fs'.find s'.openId = some f ∧ OpenFileC5b s' jc' jo' f := h.openFile

end RaftLog
