/-
A worker step touches the payload cache only through `Cache.setLastEvictable` (`set_last_evictable` in the Rust source),
in `startSync` when one file is left: resident entries, byte counter and limits are unchanged (`CacheStep`, `SameItems`).
-/
import RaftLogModel.Model.Worker
namespace RaftLog

def SameItems (a b : Cache) : Prop :=
  a.items = b.items ∧ a.size = b.size ∧ a.maxItems = b.maxItems ∧ a.capacity = b.capacity

theorem SameItems.refl (a : Cache) : SameItems a a := ⟨rfl, rfl, rfl, rfl⟩
theorem SameItems.trans {a b c : Cache} (h1 : SameItems a b) (h2 : SameItems b c) : SameItems a c :=
  ⟨h1.1.trans h2.1, h1.2.1.trans h2.2.1, h1.2.2.1.trans h2.2.2.1, h1.2.2.2.trans h2.2.2.2⟩

@[simp] theorem WCtx.emit_cache (c : WCtx) (e : Ev) : (c.emit e).cache = c.cache := rfl
@[simp] theorem WCtx.emit_w (c : WCtx) (e : Ev) : (c.emit e).w = c.w := rfl
@[simp] theorem WCtx.emit_fs (c : WCtx) (e : Ev) : (c.emit e).fs = c.fs := rfl

theorem foldl_emit {α} (f : α → Ev) (l : List α) (c : WCtx) :
    l.foldl (fun c i => c.emit (f i)) c = { c with evs := c.evs ++ l.map f } := by
  induction l generalizing c with
  | nil => simp
  | cons x xs ih => rw [List.foldl_cons, ih]; simp [WCtx.emit]

theorem WCtx.die_cache (c : WCtx) (inHand : List WReq) : (c.die inHand).cache = c.cache := by
  simp [WCtx.die, foldl_emit]

theorem WCtx.toRecv_cache (c : WCtx) : c.toRecv.cache = c.cache := by
  unfold WCtx.toRecv
  split
  · rfl
  · split <;> rfl

theorem WCtx.nonFlush_cache (c : WCtx) (r : WReq) : (c.nonFlush r).cache = c.cache := by
  unfold WCtx.nonFlush
  split
  · simp [WCtx.toRecv_cache]
  · dsimp only
    split
    · simp [WCtx.toRecv_cache]
    · split
      · exact WCtx.toRecv_cache c
      · rfl
  · exact WCtx.toRecv_cache c

theorem WCtx.finishBatch_cache (c : WCtx) (batch : List WReq) (tail : Option WReq) (ok : Bool) :
    (c.finishBatch batch tail ok).cache = c.cache := by
  unfold WCtx.finishBatch
  cases tail with
  | none => simp [WCtx.nonFlush_cache, foldl_emit]
  | some r => cases r <;> simp [WCtx.nonFlush_cache, foldl_emit]

def CacheStep (cache : Cache) (c' : WCtx) : Prop :=
  c'.cache = cache ∨ ∃ f, c'.w.files = [f] ∧ c'.cache = cache.setLastEvictable f.prevLast

theorem CacheStep.same {cache : Cache} {c' : WCtx} (h : CacheStep cache c') : SameItems c'.cache cache := by
  rcases h with h | ⟨f, _, h⟩ <;> rw [h]
  · exact .refl _
  · exact ⟨rfl, rfl, rfl, rfl⟩

theorem WCtx.startSync_cacheStep (c : WCtx) (batch : List WReq) (tail : Option WReq) :
    CacheStep c.cache (c.startSync batch tail) := by
  unfold WCtx.startSync
  split
  · exact .inl (c.finishBatch_cache batch tail true)
  · rename_i f hf
    exact .inr ⟨f, hf, rfl⟩
  · exact .inl rfl

theorem WCtx.startWrites_cacheStep (c : WCtx) (batch : List WReq) (tail : Option WReq) :
    CacheStep c.cache (c.startWrites batch tail) := by
  unfold WCtx.startWrites
  cases (batch.map WReq.data).filter (fun d => !d.isEmpty) with
  | nil => exact WCtx.startSync_cacheStep c batch tail
  | cons x xs => exact .inl rfl

end RaftLog
