/-
What `RState.apply`, `applyIndex`, `tryCloseFull`, `appendAndApply`, a batch and a public call can do, case by
case, proved once from the model: the eliminators every proof about a call starts from (or from
Proofs/CallerMoves.lean, which is built on them).
-/
import RaftLogModel.Model.Store
namespace RaftLog

/-- The state after a record that the state accepts. -/
def RState.applied (st : RState) : Record → RState
  | .saveVote v => { st with vote := some v }
  | .append id _ => { st with last := some id }
  | .commit id => { st with committed := some id }
  | .truncateAfter o => st.truncateAfter o
  | .purgeUpto id => st.purge id
  | .state x => x

theorem RState.apply_cases (st : RState) (r : Record) :
    st.apply r = .ok (st.applied r) ∨
    (∃ k, st.apply r = .err k ∧ (k = .voteReversal ∨ k = .logIdReversal ∨ k = .nonConsecutive)) ∨
    (∃ m l, st.apply r = .panic m ∧ st.last = some l ∧ nextIndexChecked (some l) = none) := by
  cases r with
  | saveVote v => simp only [RState.apply, RState.updateVote]; split <;> simp [RState.applied]
  | commit id => simp only [RState.apply, RState.commit]; split <;> simp [RState.applied]
  | truncateAfter o => exact .inl rfl
  | purgeUpto id => exact .inl rfl
  | state x => exact .inl rfl
  | append id p =>
    simp only [RState.apply, RState.append]
    split
    · simp
    · split
      · exact .inl rfl
      · rename_i l hl
        split
        · exact .inr (.inr ⟨_, l, rfl, hl, ‹_›⟩)
        · split <;> simp [RState.applied]

theorem apply_eq_applied {st st' : RState} {r : Record} (h : st.apply r = .ok st') :
    st' = st.applied r := by
  rcases st.apply_cases r with h1 | ⟨k, h1, _⟩ | ⟨_, _, h1, _⟩ <;> rw [h1] at h <;> cases h
  rfl

theorem mem_logInsert {idx : Nat} {d : LogData} {l : List (Nat × LogData)} {e : Nat × LogData}
    (h : e ∈ logInsert idx d l) : e = (idx, d) ∨ e ∈ l := by
  induction l with
  | nil => simp [logInsert] at h; exact Or.inl h
  | cons x xs ih =>
    obtain ⟨i, d'⟩ := x
    unfold logInsert at h
    split at h
    · cases h with
      | head => exact Or.inl rfl
      | tail _ h' => exact Or.inr h'
    · split at h
      · cases h with
        | head => exact Or.inl rfl
        | tail _ h' => exact Or.inr (List.mem_cons_of_mem _ h')
      · cases h with
        | head => exact Or.inr List.mem_cons_self
        | tail _ h' =>
          rcases ih h' with h1 | h1
          · exact Or.inl h1
          · exact Or.inr (List.mem_cons_of_mem _ h1)

/-- `applyIndex` on the index map, with `nextIndex` where the model checks for overflow (`nextIndexChecked`): the
two agree when `applyIndex` succeeds (`applyIndex_some`). `idxCache` is its cache half. -/
def idxLog (r : Record) (chunk : Nat) (seg : Seg) (log : List (Nat × LogData)) : List (Nat × LogData) :=
  match r with
  | .append id _ => logInsert id.index ⟨id, chunk, seg.off, seg.size⟩ log
  | .truncateAfter o => log.filter (fun e => e.1 < nextIndex o)
  | .purgeUpto id => log.filter (fun e => id.index + 1 ≤ e.1)
  | _ => log

def idxCache (r : Record) (c : Cache) : Cache :=
  match r with
  | .append id p => c.insert id p
  | .truncateAfter (some id) => c.truncateAfter id
  | .truncateAfter none => c.clear
  | .purgeUpto id => c.purgeUpto id
  | _ => c

theorem nextIndexChecked_eq_some {o : Option LogId} {n : Nat} (h : nextIndexChecked o = some n) :
    n = nextIndex o := by
  cases o with
  | none => cases h; rfl
  | some id =>
    simp only [nextIndexChecked] at h
    split at h <;> cases h
    rfl

theorem applyIndex_some {s s2 : Store} {r : Record} {chunk : Nat} {seg : Seg}
    (h : s.applyIndex r chunk seg = some s2) :
    s2 = { s with log := idxLog r chunk seg s.log, cache := idxCache r s.cache } := by
  cases r with
  | truncateAfter o =>
    simp only [Store.applyIndex] at h
    split at h <;> cases h
    rename_i idx hn
    obtain rfl := nextIndexChecked_eq_some hn
    cases o <;> rfl
  | purgeUpto id =>
    simp only [Store.applyIndex] at h
    split at h <;> cases h
    rename_i idx hn
    obtain rfl := nextIndexChecked_eq_some hn
    rfl
  | _ => cases h; rfl

theorem idxLog_mem {rec : Record} {chunk : Nat} {seg : Seg} {l : List (Nat × LogData)}
    {x : Nat × LogData} (hx : x ∈ idxLog rec chunk seg l) :
    x ∈ l ∨ ∃ id p, rec = .append id p ∧ x = (id.index, ⟨id, chunk, seg.off, seg.size⟩) := by
  cases rec with
  | append id p => exact (mem_logInsert hx).elim (fun h => .inr ⟨id, p, rfl, h⟩) .inl
  | truncateAfter o => exact .inl (List.mem_filter.mp hx).1
  | purgeUpto id => exact .inl (List.mem_filter.mp hx).1
  | _ => exact .inl hx

theorem mem_idxLog {r : Record} {chunk : Nat} {seg : Seg} {log : List (Nat × LogData)} {e : Nat × LogData}
    (he : e ∈ idxLog r chunk seg log) : e ∈ log ∨ ∃ id p, r = .append id p ∧ e.2.id = id :=
  (idxLog_mem he).imp_right fun ⟨id, p, hr, h⟩ => ⟨id, p, hr, by rw [h]⟩

/-- The rotating branch of `tryCloseFull` as functions: the store after it, and (`rotateEffs`) what it issues. -/
def Store.rotated (s : Store) : Store :=
  { s with closed := s.closed ++ [⟨s.openOffsets, s.st⟩],
           openOffsets := [s.openEnd, s.openEnd + (encRecord (.state s.st)).length],
           pending := [] }

def rotateEffs (s : Store) : List Eff :=
  [Eff.create s.openEnd, Eff.writeHead s.openEnd (encRecord (.state s.st))] ++
    (if s.pending.isEmpty then [] else [Eff.send (.write s.openEnd s.pending none)]) ++
    [Eff.send (.appendFile s.openEnd s.st.last)]

theorem Store.rotated_openId (s : Store) : s.rotated.openId = s.openEnd := rfl
@[simp] theorem Store.rotated_closed (s : Store) : s.rotated.closed = s.closed ++ [⟨s.openOffsets, s.st⟩] := rfl
@[simp] theorem Store.rotated_openOffsets (s : Store) :
    s.rotated.openOffsets = [s.openEnd, s.openEnd + (encRecord (.state s.st)).length] := rfl
@[simp] theorem Store.rotated_pending (s : Store) : s.rotated.pending = [] := rfl

theorem Store.tryCloseFull_outcomes (s : Store) (fsHas : Nat → Bool) :
    (s.isOpenFull = false ∧ s.tryCloseFull fsHas = (.ok (), s, [])) ∨
    (s.isOpenFull = true ∧ fsHas s.openEnd = true ∧
      s.tryCloseFull fsHas = (.err .exists, s, [.createFailed s.openEnd])) ∨
    (s.isOpenFull = true ∧ fsHas s.openEnd = false ∧
      s.tryCloseFull fsHas = (.ok (), s.rotated, rotateEffs s)) := by
  unfold Store.tryCloseFull
  cases hf : s.isOpenFull with
  | false => exact .inl ⟨rfl, rfl⟩
  | true =>
    dsimp only [Bool.not_true]
    cases he : fsHas s.openEnd with
    | true => exact .inr (.inl ⟨rfl, rfl, rfl⟩)
    | false => exact .inr (.inr ⟨rfl, rfl, rfl⟩)

/-- The store with `r` journalled into the pending buffer: what `append_and_apply` applies the record to. -/
abbrev Store.journalled (s : Store) (r : Record) : Store :=
  { s with pending := s.pending ++ encRecord r,
           openOffsets := s.openOffsets ++ [s.openEnd + (encRecord r).length] }

/-- The index/cache half of `apply` on the journalled store. -/
abbrev Store.indexed (s : Store) (r : Record) : Option Store :=
  (s.journalled r).applyIndex r (s.journalled r).openId ⟨s.openEnd, (encRecord r).length⟩

@[elab_as_elim]
theorem Store.appendAndApply_elim {P : Res Seg × Store × List Eff → Prop} {s : Store}
    {fsHas : Nat → Bool} {r : Record} (x : Res Seg × Store × List Eff) (hx : s.appendAndApply fsHas r = x)
    (rejected : ∀ k, s.st.apply r = .err k → P (.err k, s, []))
    (panicked : ∀ m, s.st.apply r = .panic m → P (.panic m, s, []))
    (overflow : ∀ st', s.st.apply r = .ok st' → s.indexed r = none →
      P (.panic "next_log_index overflow (apply)", s.journalled r, []))
    (applied : ∀ st' s2, s.st.apply r = .ok st' → s.indexed r = some s2 →
      ∀ s3 : Store, s3 = { s2 with st := st' } →
      (s3.isOpenFull = false → P (.ok ⟨s.openEnd, (encRecord r).length⟩, s3, [])) ∧
      (s3.isOpenFull = true → fsHas s3.openEnd = true → P (.err .exists, s3, [.createFailed s3.openEnd])) ∧
      (s3.isOpenFull = true → fsHas s3.openEnd = false →
        P (.ok ⟨s.openEnd, (encRecord r).length⟩, s3.rotated, rotateEffs s3))) :
    P x := by
  subst hx
  unfold Store.appendAndApply
  split
  · exact rejected _ ‹_›
  · exact panicked _ ‹_›
  · rename_i st' hst
    dsimp only
    split
    · exact overflow st' hst ‹_›
    · rename_i s2 hs2
      obtain ⟨h1, h2, h3⟩ := applied st' s2 hst hs2 _ rfl
      rcases Store.tryCloseFull_outcomes { s2 with st := st' } fsHas with ⟨hf, e⟩ | ⟨hf, he, e⟩ | ⟨hf, he, e⟩ <;>
        rw [e]
      · exact h1 hf
      · exact h2 hf he
      · exact h3 hf he

theorem appendAndApply_err {s : Store} {fsHas : Nat → Bool} {r : Record} {k : ErrKind}
    {s' : Store} {effs : List Eff}
    (h : s.appendAndApply fsHas r = (.err k, s', effs)) (hk : k ≠ .exists) :
    s' = s ∧ effs = [] ∧ s.st.apply r = .err k := by
  revert h
  refine Store.appendAndApply_elim (s.appendAndApply fsHas r) rfl ?_ ?_ ?_ ?_
  · intro k' hk' h
    cases h
    exact ⟨rfl, rfl, hk'⟩
  · intro m _ h; cases h
  · intro st' _ _ h; cases h
  · intro st' s2 _ _ s3 _
    refine ⟨(fun _ h => nomatch h), fun _ _ h => ?_, (fun _ _ h => nomatch h)⟩
    cases h
    exact absurd rfl hk

theorem appendAndApply_of_apply_err (s : Store) (fsHas : Nat → Bool) {r : Record} {k : ErrKind}
    (h : s.st.apply r = .err k) : s.appendAndApply fsHas r = (.err k, s, []) := by
  simp [Store.appendAndApply, h]

/-! ### D12: ids with index u64::MAX are refused by `append`/`purge` -/

theorem appendBatch_cons_refused_D12 (fsHas : Nat → Bool) (id : LogId) (p : Bytes)
    (rest : List (LogId × Bytes)) (s : Store) (seg : Seg) (effs : List Eff)
    (h : id.index + 1 = U64) :
    Store.appendBatch fsHas ((id, p) :: rest) s seg effs = (.err .invalidInput, s, effs) := by
  rw [Store.appendBatch, if_pos h]

theorem appendBatch_cons_small_D12 (fsHas : Nat → Bool) (id : LogId) (p : Bytes)
    (rest : List (LogId × Bytes)) (s : Store) (seg : Seg) (effs : List Eff)
    (h : id.index + 1 ≠ U64) :
    Store.appendBatch fsHas ((id, p) :: rest) s seg effs =
      match s.appendAndApply fsHas (.append id p) with
      | (.ok seg', s', e') =>
        Store.appendBatch (fun i => fsHas i || e'.any (fun e => e == .create i)) rest s' seg' (effs ++ e')
      | (.err k, s', e') => (.err k, s', effs ++ e')
      | (.panic m, s', e') => (.panic m, s', effs ++ e') := by
  rw [Store.appendBatch, if_neg h]
  rfl

theorem Store.call_append (s : Store) (fsHas : Nat → Bool) (es : List (LogId × Bytes)) {seg : Seg}
    (h : lastSegment s.openOffsets = some seg) :
    s.call fsHas (.append es) = Store.appendBatch fsHas es s seg [] := by
  simp only [Store.call, h]

theorem call_purge_refused_D12 (s : Store) (fsHas : Nat → Bool) (upto : LogId)
    (h : upto.index + 1 = U64) :
    s.call fsHas (.purge upto) = (.err .invalidInput, s, []) := by
  simp only [Store.call, if_pos h]

theorem call_purge_small_D12 (s : Store) (fsHas : Nat → Bool) (upto : LogId)
    (h : upto.index + 1 ≠ U64) :
    s.call fsHas (.purge upto) =
      match nextIndexChecked s.st.purged with
      | none => (.panic "next_log_index overflow (purge)", s, [])
      | some nxt =>
        if upto.index < nxt then
          match lastSegment s.openOffsets with
          | none => (.panic "last_segment on empty chunk", s, [])
          | some seg => (.ok seg, s, [])
        else
          match s.appendAndApply fsHas (.purgeUpto upto) with
          | (.ok seg, s', effs) =>
            let r := popObsolete upto s'.closed
            (.ok seg, { s' with closed := r.2, removed := s'.removed ++ r.1 }, effs)
          | other => other := by
  simp only [Store.call, if_neg h]
  rfl

/-- Files created by a call lie below `hi`: beyond `hi` still no file is in the way of the
next rotation (`appendBatch` passes this on from entry to entry). -/
theorem fsHas_after_creates {fsHas : Nat → Bool} {effs : List Eff} {lo hi : Nat}
    (hfs : ∀ i, lo ≤ i → fsHas i = false) (hle : lo ≤ hi)
    (hcr : ∀ i, Eff.create i ∈ effs → i < hi) :
    ∀ i, hi ≤ i → (fsHas i || effs.any (fun e => e == Eff.create i)) = false := by
  intro i hi'
  rw [Bool.or_eq_false_iff, List.any_eq_false]
  refine ⟨hfs i (by omega), fun x hx hxe => ?_⟩
  have := hcr i (by rwa [← beq_iff_eq.1 hxe])
  omega

/-- Induction along a batch: `P` (of the `fsHas` in force, the store and the effects so far) is
kept by every accepted entry; the batch ends — at its end, at a refused entry, or at the first
entry that is rejected or panics — in a result with `R`. -/
theorem Store.appendBatch_elim {P : (Nat → Bool) → Store → List Eff → Prop}
    {R : Res Seg × Store × List Eff → Prop} (es : List (LogId × Bytes))
    (done : ∀ fsHas s effs (x : Res Seg), (∀ m, x ≠ .panic m) → x ≠ .err .exists → P fsHas s effs →
      R (x, s, effs))
    (step : ∀ fsHas s effs id p, (id, p) ∈ es → id.index + 1 ≠ U64 → P fsHas s effs →
      ∀ res s' e', s.appendAndApply fsHas (.append id p) = (res, s', e') →
        match res with
        | .ok _ => P (fun i => fsHas i || e'.any (fun e => e == .create i)) s' (effs ++ e')
        | _ => R (res, s', effs ++ e')) :
    ∀ fsHas s seg effs, P fsHas s effs → R (Store.appendBatch fsHas es s seg effs) := by
  induction es with
  | nil => exact fun fsHas s seg effs h => done fsHas s effs (.ok seg) (fun _ e => nomatch e) (fun e => nomatch e) h
  | cons e rest ih =>
    obtain ⟨id, p⟩ := e
    intro fsHas s seg effs h
    by_cases hU : id.index + 1 = U64
    · rw [appendBatch_cons_refused_D12 _ _ _ _ _ _ _ hU]
      exact done fsHas s effs _ (fun _ e => nomatch e) (fun e => nomatch e) h
    rw [appendBatch_cons_small_D12 _ _ _ _ _ _ _ hU]
    rcases hres : s.appendAndApply fsHas (.append id p) with ⟨res, s', e'⟩
    have := step fsHas s effs id p List.mem_cons_self hU h res s' e' hres
    cases res with
    | ok seg' =>
      exact ih (fun fsHas s effs id p hm => step fsHas s effs id p (List.mem_cons_of_mem _ hm))
        _ s' seg' _ this
    | err k => exact this
    | panic m => exact this

theorem logGet_mem {s : Store} {idx : Nat} {d : LogData} (h : s.logGet idx = some d) :
    ∃ e ∈ s.log, e.2 = d := by
  unfold Store.logGet at h
  cases hf : s.log.find? (fun e => e.1 = idx) with
  | none => simp [hf] at h
  | some e =>
    simp [hf] at h
    exact ⟨e, List.mem_of_find?_eq_some hf, h⟩

/-- The record a call journals through `appendAndApply` (batches apart), with the guards it passed. -/
inductive CallRec (s : Store) : Op → Record → Prop
  | saveVote (v : Vote) : CallRec s (.saveVote v) (.saveVote v)
  | commit (id : LogId) : CallRec s (.commit id) (.commit id)
  | userData (d : Option Bytes) : CallRec s (.saveUserData d) (.state { s.st with userData := d })
  | truncPurged (idx : Nat) : nextIndexChecked s.st.purged = some idx →
      CallRec s (.truncate idx) (.truncateAfter s.st.purged)
  | truncAt (idx nxt : Nat) (e : Nat × LogData) : e ∈ s.log → nextIndexChecked s.st.purged = some nxt →
      idx ≠ nxt → idx ≠ 0 → s.logGet (idx - 1) = some e.2 →
      CallRec s (.truncate idx) (.truncateAfter (some e.2.id))
  | purge (upto : LogId) (nxt : Nat) : upto.index + 1 ≠ U64 → nextIndexChecked s.st.purged = some nxt →
      ¬ upto.index < nxt → CallRec s (.purge upto) (.purgeUpto upto)

/-- What a call returns when it leaves the store alone: a refusal; the last segment (a purge at or below
the purge point); a panic on an overflowing purge point or a chunk without records. -/
def Store.Early (s : Store) (op : Op) : Res Seg → Prop
  | .ok seg => lastSegment s.openOffsets = some seg ∧
      ∃ upto nxt, op = .purge upto ∧ nextIndexChecked s.st.purged = some nxt ∧ upto.index < nxt
  | .err k =>
    (k = .indexNotFound ∧ ∃ idx nxt, op = .truncate idx ∧ nextIndexChecked s.st.purged = some nxt ∧ idx ≠ nxt ∧
      (idx = 0 ∨ s.logGet (idx - 1) = none)) ∨
    (k = .invalidInput ∧ ∃ upto, op = .purge upto ∧ upto.index + 1 = U64)
  | .panic _ => nextIndexChecked s.st.purged = none ∨ lastSegment s.openOffsets = none

/-- **The shapes of a public write call**: nothing happens; a batch; one record goes through
`appendAndApply`; or (an accepted purge) one record and then the obsolete closed chunks are
popped. -/
theorem Store.call_cases (s : Store) (fsHas : Nat → Bool) (op : Op) :
    (∃ x, s.call fsHas op = (x, s, []) ∧ s.Early op x) ∨
    (∃ es seg0, op = .append es ∧ s.call fsHas op = Store.appendBatch fsHas es s seg0 []) ∨
    (∃ r, CallRec s op r ∧ s.call fsHas op = s.appendAndApply fsHas r) ∨
    (∃ upto seg s' effs, CallRec s op (.purgeUpto upto) ∧
      s.appendAndApply fsHas (.purgeUpto upto) = (.ok seg, s', effs) ∧
      s.call fsHas op = (.ok seg,
        { s' with
          closed := (popObsolete upto s'.closed).2,
          removed := s'.removed ++ (popObsolete upto s'.closed).1 }, effs)) := by
  -- the branches of `Store.call` are taken apart in a hypothesis, not in the four-fold goal
  generalize hres : s.call fsHas op = res
  cases op with
  | saveVote v => exact .inr (.inr (.inl ⟨_, .saveVote v, hres.symm⟩))
  | commit id => exact .inr (.inr (.inl ⟨_, .commit id, hres.symm⟩))
  | saveUserData d => exact .inr (.inr (.inl ⟨_, .userData d, hres.symm⟩))
  | append es =>
    simp only [Store.call] at hres
    split at hres
    · exact .inl ⟨_, hres.symm, .inr ‹_›⟩
    · exact .inr (.inl ⟨es, _, rfl, hres.symm⟩)
  | truncate idx =>
    simp only [Store.call] at hres
    split at hres
    · exact .inl ⟨_, hres.symm, .inl ‹_›⟩
    · rename_i nxt hn
      split at hres
      · rename_i h; exact .inr (.inr (.inl ⟨_, .truncPurged idx (h ▸ hn), hres.symm⟩))
      · split at hres
        · exact .inl ⟨_, hres.symm, .inl ⟨rfl, idx, nxt, rfl, hn, ‹_›, .inl ‹_›⟩⟩
        · split at hres
          · exact .inl ⟨_, hres.symm, .inl ⟨rfl, idx, nxt, rfl, hn, ‹¬idx = nxt›, .inr ‹_›⟩⟩
          · rename_i d hd
            obtain ⟨e, he, rfl⟩ := logGet_mem hd
            exact .inr (.inr (.inl ⟨_, .truncAt idx nxt e he hn ‹¬idx = nxt› ‹¬idx = 0› hd, hres.symm⟩))
  | purge upto =>
    by_cases hU : upto.index + 1 = U64
    · exact .inl ⟨_, hres.symm.trans (call_purge_refused_D12 _ _ _ hU), .inr ⟨rfl, upto, rfl, hU⟩⟩
    rw [call_purge_small_D12 _ _ _ hU] at hres
    split at hres
    · exact .inl ⟨_, hres.symm, .inl ‹_›⟩
    · rename_i nxt hn
      split at hres
      · rename_i hlt
        split at hres
        · exact .inl ⟨_, hres.symm, .inr ‹_›⟩
        · exact .inl ⟨_, hres.symm, ‹_›, upto, nxt, rfl, hn, hlt⟩
      · rename_i hlt
        split at hres
        · rename_i seg s' effs heq
          exact .inr (.inr (.inr ⟨upto, seg, s', effs, .purge upto nxt hU hn hlt, heq, hres.symm⟩))
        · exact .inr (.inr (.inl ⟨_, .purge upto nxt hU hn hlt, hres.symm⟩))

theorem Store.call_purge_accepted {s : Store} {fsHas : Nat → Bool} {upto : LogId} {nxt : Nat} {seg : Seg}
    {s' : Store} {effs : List Eff} (hU : upto.index + 1 ≠ U64) (hn : nextIndexChecked s.st.purged = some nxt)
    (hlt : ¬ upto.index < nxt) (ha : s.appendAndApply fsHas (.purgeUpto upto) = (.ok seg, s', effs)) :
    s.call fsHas (.purge upto) = (.ok seg,
      { s' with closed := (popObsolete upto s'.closed).2,
                removed := s'.removed ++ (popObsolete upto s'.closed).1 }, effs) := by
  rw [call_purge_small_D12 _ _ _ hU]
  simp only [hn, if_neg hlt, ha]

theorem CallRec.state_last {s : Store} {op : Op} {r : Record} (hr : CallRec s op r) :
    ∀ x, r = .state x → x.last = s.st.last ∧ x.purged = s.st.purged := by
  cases hr <;> intro x hx <;> cases hx
  exact ⟨rfl, rfl⟩

theorem CallRec.not_append {s : Store} {op : Op} {r : Record} (hr : CallRec s op r) :
    ∀ id p, r ≠ .append id p := by
  cases hr <;> exact fun _ _ h => nomatch h

end RaftLog
