/-
C03, a positive callback means the flush is covered — the system level: the
request a flush sends keeps its `upto` until the batch that acknowledges it;
public calls send requests without callbacks (`EffsNoCb`); `acked_flush_from`.
-/
import RaftLogModel.Proofs.CrashAck
import RaftLogModel.Proofs.CrashFinal
namespace RaftLog

def EffsNoCb (effs : List Eff) : Prop := ∀ r ∈ effQ effs, r.cbId = none

theorem EffsNoCb.nil : EffsNoCb [] := fun r hr => by cases hr

theorem EffsNoCb.append {a b : List Eff} (ha : EffsNoCb a) (hb : EffsNoCb b) : EffsNoCb (a ++ b) := by
  intro r hr
  rw [effQ_append] at hr
  rcases List.mem_append.mp hr with k | k
  · exact ha r k
  · exact hb r k

theorem EffsNoCb.tryCloseFull (s : Store) (fsHas : Nat → Bool) : EffsNoCb (s.tryCloseFull fsHas).2.2 := by
  intro r hr
  rcases s.tryCloseFull_outcomes fsHas with ⟨_, e⟩ | ⟨_, _, e⟩ | ⟨_, _, e⟩ <;> rw [e] at hr
  · cases hr
  · simp [effQ] at hr
  · by_cases hp : s.pending.isEmpty = true <;> simp [rotateEffs, hp, effQ] at hr
    · subst hr; rfl
    · rcases hr with k | k <;> subst k <;> rfl

theorem EffsNoCb.closed : EffsClosed EffsNoCb := ⟨.nil, .append, .tryCloseFull⟩

theorem EffsNoCb.appendAndApply (s : Store) (fsHas : Nat → Bool) (r : Record) :
    EffsNoCb (s.appendAndApply fsHas r).2.2 :=
  EffsNoCb.closed.appendAndApply s fsHas r

theorem EffsNoCb.call (s : Store) (fsHas : Nat → Bool) (op : Op) : EffsNoCb (s.call fsHas op).2.2 :=
  EffsNoCb.closed.call s fsHas op

theorem Worker.push_reqs (w : Worker) (q : List WReq) : (w.push q).reqs = w.reqs ++ q := by
  simp [Worker.reqs, Worker.push_rest, List.append_assoc]

theorem Worker.settle_reqs (w : Worker) : w.settle.reqs = w.reqs :=
  congrArg (fun v : WView => v.bw ++ v.rest) w.settle_view

theorem Tagged.push {i : Nat} {Q : WReq → Prop} {w : Worker} (h : Tagged i Q w) (q : List WReq)
    (hq : ∀ r ∈ q, r.cbId = some i → Q r) : Tagged i Q (w.push q).settle := by
  intro r hr hi
  rw [Worker.settle_reqs, Worker.push_reqs] at hr
  rcases List.mem_append.mp hr with k | k
  · exact h r k hi
  · exact hq r k hi

theorem flush_effQ_cb {s : Store} {cb : Option Nat} {r : WReq} {i : Nat}
    (hr : r ∈ effQ (s.flush cb).2) (hi : r.cbId = some i) :
    r = .write s.openEnd s.pending cb ∧ cb = some i := by
  rw [effQ_flush, List.singleton_append] at hr
  rcases List.mem_cons.mp hr with k | k
  · subst k; exact ⟨rfl, hi⟩
  · by_cases hrm : s.removed.isEmpty = true
    · simp [hrm] at k
    · simp only [hrm, Bool.false_eq_true, if_false, List.mem_singleton] at k
      subst k; cases hi

theorem Sys.step_ok {y : Sys} (h : y.worker.pc.ok y.worker.files) {st : Step} (hst : st.journal = true) :
    (y.step st).worker.pc.ok (y.step st).worker.files :=
  Sys.step_worker (I := fun w => w.pc.ok w.files) (C := fun _ => True) trivial
    (fun c out _ h => c.step_ok out h)
    (fun effs fs w evs h => by
      obtain ⟨q, e, _⟩ := applyEffs_worker effs fs w evs
      rw [e]
      rcases Worker.settle_cases { w with queue := w.queue ++ q } with ⟨r, q', _, _, e'⟩ | ⟨_, e'⟩ <;> rw [e']
      · trivial
      · exact h)
    h (Step.keepsStore_of_journal hst) fun _ _ => trivial

theorem Sys.run_ok {y : Sys} (h : y.worker.pc.ok y.worker.files) {steps : List Step}
    (hst : ∀ st ∈ steps, st.journal = true) : (y.run steps).worker.pc.ok (y.run steps).worker.files :=
  Sys.run_induct (P := fun y => y.worker.pc.ok y.worker.files) (fun _ _ hj h => Sys.step_ok h hj) h hst

theorem Tagged.sys_step {i : Nat} {Q : WReq → Prop} {y : Sys} {s : Store} (hs : y.store = some s)
    (hd : y.worker.pc ≠ .dead) (hok : y.worker.pc.ok y.worker.files) (h : Tagged i Q y.worker) (st : Step)
    (hst : st.journal = true)
    (hne : ∀ cb, st = .flush cb → cb ≠ some i) : Tagged i Q (y.step st).worker := by
  cases st with
  | drop => cases hst
  | openWith c => cases hst
  | drain =>
    show Tagged i Q y.drain.worker
    rw [y.drain_eq hs]; exact h
  | call op =>
    show Tagged i Q (y.call op).2.1.worker
    rw [(Sys.call_eq y op hs hd).1]
    apply h.push
    intro r hr hi
    have := EffsNoCb.call s y.fs.has op r hr
    rw [this] at hi; cases hi
  | flush cb =>
    show Tagged i Q (y.flush cb).2.1.worker
    rw [Sys.flush_eq y cb hs hd]
    apply h.push
    exact fun r hr hi => absurd (flush_effQ_cb hr hi).2 (hne cb rfl)
  | worker out =>
    show Tagged i Q (y.workerStep out).1.worker
    rw [y.workerStep_eq out hs]
    exact Tagged.step (c := y.wctx s) h out hok
  | workerIdle =>
    show Tagged i Q y.workerIdle.1.worker
    rw [y.workerIdle_eq hs]
    exact Tagged.runQuiet _ (y.wctx s) h hok

theorem Tagged.sys_flush {i : Nat} {y : Sys} {s : Store} (hs : y.store = some s)
    (hd : y.worker.pc ≠ .dead) (h : Tagged i (fun _ => False) y.worker) :
    Tagged i (fun r => s.openEnd ≤ r.upto) (y.step (.flush (some i))).worker := by
  show Tagged i _ (y.flush (some i)).2.1.worker
  rw [Sys.flush_eq y (some i) hs hd]
  apply Tagged.push (Q := fun r => s.openEnd ≤ r.upto) (fun r hr hi => (h r hr hi).elim)
  intro r hr hi
  rw [(flush_effQ_cb hr hi).1]
  exact Nat.le_refl _

theorem Tagged.sys_run {i : Nat} {Q : WReq → Prop} (steps : List Step) : ∀ (y : Sys),
    (∀ st ∈ steps, st.journal = true) → (∀ st ∈ steps, st ≠ .flush (some i)) →
    y.store.isSome = true → (y.run steps).worker.pc ≠ .dead → y.worker.pc.ok y.worker.files →
    Tagged i Q y.worker → Tagged i Q (y.run steps).worker := by
  intro y hst hne hsome hnd hok h
  refine (Sys.run_induction_alive (P := fun y => y.store.isSome = true ∧ y.worker.pc.ok y.worker.files ∧
    Tagged i Q y.worker) steps hst (fun y st hm ⟨hsome, hok, h⟩ hnd1 => ?_) y ⟨hsome, hok, h⟩ hnd).2.2
  have hj := hst st hm
  obtain ⟨s, hs⟩ := Option.isSome_iff_exists.mp hsome
  exact ⟨Sys.step_store_isSome (Step.keepsStore_of_journal hj) hsome, Sys.step_ok hok hj,
    h.sys_step hs (fun hdead => hnd1 (Sys.step_dead y st hj hdead)) hok st hj
      (fun cb e hcb => hne st hm (by rw [e, hcb]))⟩

/-- The events of the worker thread in one step of a history. -/
def Sys.stepEvs (y : Sys) : Step → List Ev
  | .worker out => (y.workerStep out).2
  | .workerIdle => y.workerIdle.2
  | _ => []

theorem ack_reaches_sys_C3 {y : Sys} (hwf : SysWF y) (hok : y.worker.pc.ok y.worker.files) {i E : Nat}
    (htag : Tagged i (fun r => E ≤ r.upto) y.worker) (st : Step) (A : Nat)
    (hcb : Ev.cb i true ∈ y.stepEvs st) : E ≤ y.ackStep st A := by
  -- only a worker step of a system with an open store emits events
  cases hs : y.store with
  | none =>
    cases st with
    | worker out =>
      simp only [Sys.stepEvs, Sys.workerStep, hs] at hcb
      cases hcb
    | workerIdle =>
      simp only [Sys.stepEvs, Sys.workerIdle, hs] at hcb
      cases hcb
    | _ => cases hcb
  | some s =>
    have hw : y.worker.WF := (hwf (by rw [hs]; simp)).1
    cases st with
    | worker out =>
      simp only [Sys.stepEvs, y.workerStep_eq out hs] at hcb
      simp only [Sys.ackStep, hs]
      exact ack_reaches_C3 (y.wctx s) out i E A hw htag (by simp [Sys.wctx]) hcb
    | workerIdle =>
      simp only [Sys.stepEvs, y.workerIdle_eq hs] at hcb
      simp only [Sys.ackStep, hs]
      exact ack_reaches_quiet_C3 i E _ (y.wctx s) A hw hok htag (by simp [Sys.wctx]) hcb
    | _ => cases hcb

theorem fresh_reqs_C3 (cfg : Cfg) : (Sys.fresh cfg).worker.reqs = [] := by
  rw [Sys.fresh_eq]; rfl

/-- `A0`: the position acknowledged before the history; `htag0`: the worker holds no request with
callback `i` at the start; `post`: whatever follows — the position never moves back. -/
theorem acked_flush_from (y : Sys) (A0 : Nat) (pre mid post : List Step) (i : Nat) (st : Step)
    (s1 : Store) (hwf0 : SysWF y) (hok0 : y.worker.pc.ok y.worker.files) (hsome : y.store.isSome = true)
    (htag0 : Tagged i (fun _ => False) y.worker)
    (hpre : ∀ x ∈ pre, x.journal = true) (hmid : ∀ x ∈ mid, x.journal = true)
    (hfresh : ∀ x ∈ pre ++ mid, x ≠ .flush (some i))
    (hs1 : (y.run pre).store = some s1)
    (halive : (y.run (pre ++ [.flush (some i)] ++ mid)).worker.pc ≠ .dead)
    (hcb : Ev.cb i true ∈ (y.run (pre ++ [.flush (some i)] ++ mid)).stepEvs st) :
    s1.openEnd ≤ y.ackRun (pre ++ [.flush (some i)] ++ mid ++ [st] ++ post) A0 := by
  have hrun : y.run (pre ++ [.flush (some i)] ++ mid)
      = ((y.run pre).step (.flush (some i))).run mid := by
    rw [Sys.run_append, Sys.run_append]; rfl
  rw [List.append_assoc _ [st] post, Sys.ackRun_append, List.singleton_append]
  generalize y.ackRun (pre ++ [.flush (some i)] ++ mid) A0 = A
  rw [hrun] at halive hcb ⊢
  -- the worker is alive all along
  have hd1 : (y.run pre).worker.pc ≠ .dead :=
    fun hdead => Sys.alive_of_run hmid halive (Sys.step_dead _ _ rfl hdead)
  -- no request with callback `i` before the flush, then only the flush's own
  have ok1 : ((y.run pre).step (.flush (some i))).worker.pc.ok _ := Sys.step_ok (Sys.run_ok hok0 hpre) rfl
  have t1 := Tagged.sys_run pre y hpre (fun x hx => hfresh x (List.mem_append_left _ hx)) hsome hd1 hok0 htag0
  have t3 := Tagged.sys_run mid _ hmid (fun x hx => hfresh x (List.mem_append_right _ hx))
    (Sys.step_store_isSome rfl (by rw [hs1]; rfl)) halive ok1 (Tagged.sys_flush hs1 hd1 t1)
  exact Nat.le_trans (ack_reaches_sys_C3 (((hwf0.run pre).step _).run mid) (Sys.run_ok ok1 hmid) t3 st A hcb)
    (Sys.le_ackRun post _ _)

theorem DInv.upto {s : Store} {fs : Fs} {w : Worker} {A e : Nat} (h : DInv s fs w A) (he : e ≤ A) :
    e ≤ s.openEnd ∧
      (∀ offs ∈ s.chunks,
        min (lastOff offs - offs.headD 0) (e - offs.headD 0) ≤ (fdata fs (offs.headD 0)).length) ∧
      (∀ offs ∈ s.chunks, ∀ f, fs.find (offs.headD 0) = some f →
        min (lastOff offs - offs.headD 0) (e - offs.headD 0) ≤ f.durable) :=
  ⟨Nat.le_trans he h.a2, fun offs ho => min_sub_le_of_le he (h.dw offs ho),
    fun offs ho f hf => min_sub_le_of_le he (h.dd offs ho f hf)⟩

theorem acked_flush_C3 (cfg : Cfg) (pre mid post : List Step) (i : Nat) (st : Step) (s1 : Store)
    (hpre : ∀ x ∈ pre, x.journal = true) (hmid : ∀ x ∈ mid, x.journal = true)
    (hfresh : ∀ x ∈ pre ++ mid, x ≠ .flush (some i))
    (hs1 : ((Sys.fresh cfg).run pre).store = some s1)
    (halive : ((Sys.fresh cfg).run (pre ++ [.flush (some i)] ++ mid)).worker.pc ≠ .dead)
    (hcb : Ev.cb i true ∈ ((Sys.fresh cfg).run (pre ++ [.flush (some i)] ++ mid)).stepEvs st) :
    s1.openEnd ≤ (Sys.fresh cfg).ackRun (pre ++ [.flush (some i)] ++ mid ++ [st] ++ post) 0 :=
  acked_flush_from (Sys.fresh cfg) 0 pre mid post i st s1 (SysWF.fresh cfg)
    (by rw [Sys.fresh_eq]; trivial) (Sys.fresh_store_isSome cfg)
    (fun r hr _ => by rw [fresh_reqs_C3] at hr; cases hr) hpre hmid hfresh hs1 halive hcb

theorem acked_flush_end_C3 (cfg : Cfg) (pre mid post : List Step) (i : Nat) (st : Step)
    (hsteps : ∀ x ∈ pre ++ ([.flush (some i)] ++ mid ++ [st] ++ post), x.journal = true)
    (halive : ((Sys.fresh cfg).run (pre ++ ([.flush (some i)] ++ mid ++ [st] ++ post))).worker.pc ≠ .dead)
    (hfresh : ∀ x ∈ pre ++ mid, x ≠ .flush (some i))
    (hcb : Ev.cb i true ∈ ((Sys.fresh cfg).run (pre ++ [.flush (some i)] ++ mid)).stepEvs st) :
    ∃ s1, ((Sys.fresh cfg).run pre).store = some s1 ∧
      s1.openEnd ≤ (Sys.fresh cfg).ackRun (pre ++ ([.flush (some i)] ++ mid ++ [st] ++ post)) 0 := by
  have hall : pre ++ ([Step.flush (some i)] ++ mid ++ [st] ++ post)
      = pre ++ [.flush (some i)] ++ mid ++ ([st] ++ post) := by simp only [List.append_assoc]
  rw [hall] at hsteps halive
  rw [hall, ← List.append_assoc]
  have hpre : ∀ x ∈ pre, x.journal = true := fun x hx => hsteps x (by simp [hx])
  have hmid : ∀ x ∈ mid, x.journal = true := fun x hx => hsteps x (by simp [hx])
  rw [Sys.run_append] at halive
  have halive2 := Sys.alive_of_run (fun x hx => hsteps x (List.mem_append_right _ hx)) halive
  obtain ⟨s1, hs1⟩ := Option.isSome_iff_exists.mp
    (Sys.run_store_isSome (fun x hx => Step.keepsStore_of_journal (hpre x hx)) (Sys.fresh_store_isSome cfg))
  exact ⟨s1, hs1, acked_flush_C3 cfg pre mid post i st s1 hpre hmid hfresh hs1 halive2 hcb⟩

end RaftLog
