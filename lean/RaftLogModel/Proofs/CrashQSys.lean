/-
C03: what the caller-thread steps do to the guards of `Proofs/CrashQ.lean`: every write a call or a flush pushes
has `upto` at or beyond the journal end before it (`call_allGe_C3b`, `flush_allGe_C3b`), so a guard for a
position at or below the journal end survives; a flush guards every id of the removal list.
-/
import RaftLogModel.Proofs.CrashQ
namespace RaftLog

/-- The only write a move pushes is a rotation's, and it carries the journal end. -/
theorem moves_allGe_C3b (N : Nat) :
    Moves (fun s e => N ≤ s.openEnd ∧ AllGeC3b N (effQ e)) fun _ _ => True := by
  have hap : ∀ {s : Store} {r st'} (c : Nat), N ≤ s.openEnd → N ≤ (s.appliedAt c r st').openEnd :=
    fun {s r st'} c h => Nat.le_trans h (by simp [Store.appliedAt, Store.openEnd, lastOff_append])
  refine {
    accept := fun {s e r st'} c _ h _ _ => ?_
    failed := fun c _ h _ _ _ => ⟨hap c h.1, ?_⟩
    overflow := fun {s e r} h _ _ =>
      ⟨by rw [s.journalled_openEnd]; exact Nat.le_trans h.1 (Nat.le_add_right _ _), h.2⟩ }
  · have h1 := hap (r := r) (st' := st') c h.1
    cases hf : (s.appliedAt c r st').isOpenFull
    · rw [Store.closeFull_of_not_full hf]
      exact ⟨h1, by rw [List.append_nil]; exact h.2⟩
    rw [Store.closeFull_of_full hf]
    · refine ⟨Nat.le_trans h1 (by rw [Store.rotated_openEnd]; exact Nat.le_add_right _ _), ?_⟩
      rw [effQ_append, effQ_rotateEffs]
      refine h.2.append fun q hq hw => ?_
      split at hq <;> simp only [List.nil_append, List.cons_append, List.mem_cons, List.not_mem_nil,
        or_false] at hq
      · subst hq; cases hw
      · rcases hq with rfl | rfl
        · exact h1
        · cases hw
  · rw [effQ_append]
    exact h.2.append fun q hq => by simp [effQ] at hq

theorem call_allGe_C3b (s : Store) (fsHas : Nat → Bool) (op : Op) :
    AllGeC3b s.openEnd (effQ (s.call fsHas op).2.2) :=
  ((moves_allGe_C3b s.openEnd).call fsHas op (fun _ _ => trivial) (fun _ _ _ _ _ _ => trivial)
    (fun _ _ h => h) ⟨Nat.le_refl _, .nil _⟩).2

theorem WGuardAtC3b.push {B x : Nat} {w : Worker} (h : WGuardAtC3b B x w) (q : List WReq)
    (hq : AllGeC3b B q) : WGuardAtC3b B x (w.push q) := by
  have h1 : GXC3b B x (w.push q).rest w.postponed (PcSafeC3b B w) := by
    rw [Worker.push_rest]; exact GXC3b.push h hq
  exact h1

theorem WGuardAtC3b.settle {B x : Nat} {w : Worker} (h : WGuardAtC3b B x w) :
    WGuardAtC3b B x w.settle := by
  rcases w.settle_cases with ⟨r, q, hpc, hq, e⟩ | ⟨_, e⟩ <;> rw [e]
  · have h0 := h.at_pc hpc
    rw [hq] at h0
    exact h0
  · exact h

theorem WGuardAtC3b.mem {B x : Nat} {w : Worker} (h : WGuardAtC3b B x w) :
    x ∈ w.postponed ∨ x ∈ rmIds w.rest := by
  rcases h with ⟨pre, suf, h1, _, _, h5⟩ | ⟨_, _, h3⟩
  · right; rw [h1, rmIds_append]; exact List.mem_append_right _ h5
  · exact h3

theorem WGuardC3b.settle {B : Nat} {w : Worker} (h : WGuardC3b B w) : WGuardC3b B w.settle :=
  h.imp fun _ k => k.settle

theorem WGuardC3b.toRemove_ne {B : Nat} {w : Worker} (h : WGuardC3b B w) : w.toRemove ≠ [] := by
  obtain ⟨x, hx⟩ := WGuardC3b_iff.mp h
  apply List.ne_nil_of_mem (a := x)
  unfold Worker.toRemove
  rcases hx.mem with k | k
  · exact List.mem_append_left _ (List.mem_append_left _ k)
  · exact List.mem_append_right _ k

theorem flush_allGe_C3b {B : Nat} (s : Store) (cb : Option Nat) (hmk : B ≤ s.openEnd) :
    AllGeC3b B (effQ (s.flush cb).2) := by
  rw [effQ_flush]
  intro r hr hw
  rcases List.mem_append.mp hr with k | k
  · cases List.mem_singleton.mp k; exact hmk
  · split at k
    · cases k
    · cases List.mem_singleton.mp k; cases hw

/-- After a flush, every id of the removal list is guarded for every `B` at or below
the journal end: the removal request is queued behind a write with `upto` = the journal end. -/
theorem flush_guardAt_C3b {B x : Nat} (s : Store) (w : Worker) (cb : Option Nat)
    (hmk : B ≤ s.openEnd) (hx : x ∈ s.removed) :
    WGuardAtC3b B x (w.push (effQ (s.flush cb).2)).settle := by
  apply WGuardAtC3b.settle
  have hq := flush_allGe_C3b s cb hmk
  rw [effQ_flush] at hq ⊢
  have hrm : ¬ s.removed.isEmpty = true := by
    intro e
    rw [List.isEmpty_iff.mp e] at hx
    cases hx
  rw [if_neg hrm] at hq ⊢
  have : GXC3b B x (w.push [.write s.openEnd s.pending cb, .removeChunks s.removed]).rest
      w.postponed (PcSafeC3b B w) := by
    rw [Worker.push_rest]
    exact Or.inl ⟨w.rest, _, rfl, hq, ⟨_, _, rfl, rfl⟩, by simpa [rmIds] using hx⟩
  exact this

end RaftLog
