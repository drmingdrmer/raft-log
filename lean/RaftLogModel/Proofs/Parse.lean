/-
Recovery parsing: `parseLoop` / `parseChunk` / `openChunk` on concatenations of
record encodings followed by a damaged tail (helpers for C10, C09, C05). Also the
lemmas about `encAll` / `AllWF`, and the offset arithmetic every later module uses:
`recSizes` / `sizes`, `sumNat`, `encAll_length`, `offsetsFrom`, `lastOff`.
-/
import RaftLogModel.Model.Open
import RaftLogModel.Proofs.EncAll
namespace RaftLog

/-- Records paired with their encoded sizes (what `parseChunk` returns). -/
abbrev sized (rs : List Record) : List (Record × Nat) :=
  rs.map (fun r => (r, (encRecord r).length))

@[simp] theorem encAll_nil : encAll [] = [] := rfl
@[simp] theorem encAll_nilP : encAll [] = [] := rfl
@[simp] theorem encAll_cons (r : Record) (rs : List Record) :
    encAll (r :: rs) = encRecord r ++ encAll rs := rfl

theorem encAll_append (as bs : List Record) : encAll (as ++ bs) = encAll as ++ encAll bs := by
  induction as with
  | nil => rfl
  | cons a as ih => simp [ih]

theorem AllWF.cons {r : Record} {rs : List Record} (h : AllWF (r :: rs)) : r.WF ∧ AllWF rs :=
  ⟨h r List.mem_cons_self, fun x hx => h x (List.mem_cons_of_mem _ hx)⟩

theorem AllWF.nil : AllWF [] := by intro r h; cases h

theorem AllWF.mk_cons {r : Record} {rs : List Record} (h1 : r.WF) (h2 : AllWF rs) :
    AllWF (r :: rs) :=
  List.forall_mem_cons.mpr ⟨h1, h2⟩

theorem encRecord_length (r : Record) : (encRecord r).length = 12 + (encBody r).length := by
  simp [encRecord]; omega

theorem encRecord_length_pos (r : Record) : 0 < (encRecord r).length := by
  rw [encRecord_length]; omega

theorem encRecord_length_ge (r : Record) : 12 ≤ (encRecord r).length := by
  rw [encRecord_length]; omega

theorem encAll_length_ge (rs : List Record) : rs.length ≤ (encAll rs).length := by
  induction rs with
  | nil => simp
  | cons r rs ih =>
    have := encRecord_length_pos r
    simp only [encAll_cons, List.length_append, List.length_cons]
    omega

theorem strict_prefix_take {l : Bytes} {j : Nat} (h0 : 0 < j) (hj : j < l.length) :
    l.take j ≠ [] ∧ ∃ t, t ≠ [] ∧ l.take j ++ t = l :=
  ⟨List.ne_nil_of_length_pos (by rw [List.length_take]; omega), l.drop j,
    List.ne_nil_of_length_pos (by rw [List.length_drop]; omega), List.take_append_drop j l⟩

theorem encAll_take_inside (rs rest : List Record) (r : Record) {j : Nat}
    (hj : j ≤ (encRecord r).length) :
    (encAll (rs ++ r :: rest)).take ((encAll rs).length + j) = encAll rs ++ (encRecord r).take j := by
  rw [encAll_append, encAll_cons, List.take_length_add_append, List.take_append_of_le_length hj]

theorem decRecord_nil : decRecord [] = .eof := by
  simp [decRecord, decU]

theorem decRecord_ok_length {bs : Bytes} {r : Record} {rest : Bytes}
    (h : decRecord bs = .ok r rest) : bs.length = (encRecord r).length + rest.length := by
  rw [(record_canon h).1]; simp

theorem parseLoop_nil (f : Nat) : parseLoop (f + 1) [] = ([], .clean, []) := rfl

theorem isEmpty_of_decRecord {bs : Bytes} (h : bs ≠ [] ∨ decRecord bs ≠ .eof) :
    bs.isEmpty = false := by
  cases bs with
  | nil => exact (h.elim (absurd rfl) (absurd decRecord_nil))
  | cons _ _ => rfl

theorem parseLoop_ok {f : Nat} {bs : Bytes} {r : Record} {rest : Bytes}
    (h : decRecord bs = .ok r rest) :
    parseLoop (f + 1) bs = ((r, (encRecord r).length) :: (parseLoop f rest).1,
      (parseLoop f rest).2.1, (parseLoop f rest).2.2) := by
  have hsz : bs.length - rest.length = (encRecord r).length := by
    rw [decRecord_ok_length h, Nat.add_sub_cancel]
  rw [parseLoop, isEmpty_of_decRecord (.inr (by simp [h])), h]
  simp only [hsz]
  rfl

theorem parseLoop_eof {f : Nat} {bs : Bytes} (hne : bs ≠ []) (h : decRecord bs = .eof) :
    parseLoop (f + 1) bs = ([], .eof, bs) := by
  rw [parseLoop, isEmpty_of_decRecord (.inl hne), h]
  rfl

theorem parseLoop_invalid {f : Nat} {bs : Bytes} (h : decRecord bs = .invalid) :
    parseLoop (f + 1) bs = ([], .invalid, bs) := by
  rw [parseLoop, isEmpty_of_decRecord (.inr (by simp [h])), h]
  rfl

theorem parseLoop_fuel (f g : Nat) (bs : Bytes) (hf : bs.length < f) (hg : bs.length < g) :
    parseLoop f bs = parseLoop g bs := by
  induction f generalizing g bs with
  | zero => omega
  | succ f ih =>
    cases g with
    | zero => omega
    | succ g =>
      cases bs with
      | nil => rw [parseLoop_nil, parseLoop_nil]
      | cons b bs' =>
        cases hd : decRecord (b :: bs') with
        | eof => rw [parseLoop_eof (by simp) hd, parseLoop_eof (by simp) hd]
        | invalid => rw [parseLoop_invalid hd, parseLoop_invalid hd]
        | ok r rest =>
          have hl := decRecord_ok_length hd
          have hp := encRecord_length_pos r
          rw [parseLoop_ok hd, parseLoop_ok hd, ih g rest (by omega) (by omega)]

theorem parseChunk_eq_fuel (f : Nat) (bs : Bytes) (hf : bs.length < f) :
    parseLoop f bs = parseChunk bs :=
  parseLoop_fuel f _ bs hf (by omega)

theorem parseChunk_nil : parseChunk [] = ([], .clean, []) := by
  simp [parseChunk, parseLoop]

theorem parseChunk_ok {bs : Bytes} {r : Record} {rest : Bytes} (h : decRecord bs = .ok r rest) :
    parseChunk bs = ((r, (encRecord r).length) :: (parseChunk rest).1,
      (parseChunk rest).2.1, (parseChunk rest).2.2) := by
  have hl := decRecord_ok_length h
  have hp := encRecord_length_pos r
  unfold parseChunk
  rw [parseLoop_ok h, parseLoop_fuel bs.length (rest.length + 1) rest (by omega) (by omega)]

theorem parseChunk_eof {bs : Bytes} (hne : bs ≠ []) (h : decRecord bs = .eof) :
    parseChunk bs = ([], .eof, bs) := parseLoop_eof hne h

theorem parseChunk_invalid {bs : Bytes} (h : decRecord bs = .invalid) :
    parseChunk bs = ([], .invalid, bs) := parseLoop_invalid h

theorem parseChunk_cons {r : Record} (h : r.WF) (rest : Bytes) :
    parseChunk (encRecord r ++ rest) = ((r, (encRecord r).length) :: (parseChunk rest).1,
      (parseChunk rest).2.1, (parseChunk rest).2.2) :=
  parseChunk_ok (record_rt r rest h)

theorem parseChunk_encAll_append {rs : List Record} (h : AllWF rs) (tail : Bytes) :
    parseChunk (encAll rs ++ tail) =
      (sized rs ++ (parseChunk tail).1, (parseChunk tail).2.1, (parseChunk tail).2.2) := by
  induction rs with
  | nil => simp [sized]
  | cons r rs ih =>
    obtain ⟨h1, h2⟩ := h.cons
    rw [encAll_cons, List.append_assoc, parseChunk_cons h1, ih h2]
    simp [sized]

theorem parse_encAll' {rs : List Record} (h : AllWF rs) :
    parseChunk (encAll rs) = (sized rs, .clean, []) := by
  have := parseChunk_encAll_append h []
  simpa [parseChunk_nil] using this

theorem parse_cut' {rs : List Record} {r : Record} {pfx : Bytes} (h : AllWF rs) (hr : r.WF)
    (hne : pfx ≠ []) (hp : ∃ t, t ≠ [] ∧ pfx ++ t = encRecord r) :
    parseChunk (encAll rs ++ pfx) = (sized rs, .eof, pfx) := by
  obtain ⟨t, ht, e⟩ := hp
  rw [parseChunk_encAll_append h, parseChunk_eof hne (record_pfx r pfx t hr ht e)]
  simp

theorem parseChunk_canon (bs : Bytes) :
    ∃ rs, (parseChunk bs).1 = sized rs ∧ AllWF rs ∧ bs = encAll rs ++ (parseChunk bs).2.2 ∧
      ((parseChunk bs).2.1 = .clean → (parseChunk bs).2.2 = []) := by
  generalize hn : bs.length = n
  induction n using Nat.strongRecOn generalizing bs with
  | _ n ih =>
    cases hd : decRecord bs with
    | ok r rest =>
      have hl := decRecord_ok_length hd
      have hp := encRecord_length_pos r
      obtain ⟨rs, h1, h2, h3, h4⟩ := ih rest.length (by omega) rest rfl
      obtain ⟨e, wf⟩ := record_canon hd
      refine ⟨r :: rs, ?_, AllWF.mk_cons wf h2, ?_, ?_⟩
      · rw [parseChunk_ok hd, h1]
        rfl
      · rw [parseChunk_ok hd]
        simp only [encAll_cons, List.append_assoc]
        rw [← h3]
        exact e
      · rw [parseChunk_ok hd]
        exact h4
    | eof =>
      cases bs with
      | nil => exact ⟨[], by simp [parseChunk_nil], AllWF.nil, by simp [parseChunk_nil],
          by simp [parseChunk_nil]⟩
      | cons b bs' =>
        rw [parseChunk_eof (by simp) hd]
        exact ⟨[], rfl, AllWF.nil, rfl, by intro h; cases h⟩
    | invalid =>
      rw [parseChunk_invalid hd]
      exact ⟨[], rfl, AllWF.nil, rfl, by intro h; cases h⟩

theorem decRecord_bad_sum (r : Record) (h : r.WF) (sum : Nat) (hs : sum < 256 ^ 8)
    (hne : sum ≠ crc32 (encTB r)) (rest : Bytes) :
    decRecord (encTB r ++ natToBE 8 sum ++ rest) = .invalid := by
  rw [decRecord_frame r h sum hs, if_neg hne]

theorem decRecord_bad_sum_bytes (r : Record) (h : r.WF) (sum : Bytes) (hl : sum.length = 8)
    (hne : sum ≠ natToBE 8 (crc32 (encTB r))) (rest : Bytes) :
    decRecord (encTB r ++ sum ++ rest) = .invalid := by
  have e : natToBE 8 (beToNat sum) = sum := hl ▸ natToBE_beToNat sum
  rw [← e]
  exact decRecord_bad_sum r h _ (hl ▸ beToNat_lt sum) (fun hc => hne (by rw [← e, hc])) rest

/-- 28 zero bytes are the frame `SaveVote (0,0)` with stored checksum 0. -/
theorem zeros28 : encTB (.saveVote ⟨0, 0⟩) ++ natToBE 8 0 = List.replicate 28 0 := by decide

theorem wf_vote00 : (Record.saveVote ⟨0, 0⟩).WF := by simp [Record.WF, LogId.WF, U64]

theorem decRecord_zeros_eof {m : Nat} (h : m < 28) : decRecord (List.replicate m 0) = .eof := by
  apply decRecord_frame_pfx _ wf_vote00 0 (by decide) _ (List.replicate (28 - m) 0)
  · exact List.ne_nil_of_length_pos (by rw [List.length_replicate]; omega)
  · rw [zeros28, List.replicate_append_replicate]
    congr 1
    omega

/-- Twenty zero bytes: the 4 tag bytes and the 16 body bytes of `SaveVote (0,0)`. The value, not only
`≠ 0`: `frame_not_zeroC9S` needs its bytes. -/
theorem crc32_zeros20_eq : crc32 (List.replicate 20 0) = 0x0FD59B8D := by decide +kernel

theorem crc32_zeros20 : crc32 (List.replicate 20 0) ≠ 0 := by
  rw [crc32_zeros20_eq]
  decide

theorem decRecord_zeros_invalid {m : Nat} (h : 28 ≤ m) :
    decRecord (List.replicate m 0) = .invalid := by
  have e : List.replicate m (0 : UInt8)
      = encTB (.saveVote ⟨0, 0⟩) ++ natToBE 8 0 ++ List.replicate (m - 28) 0 := by
    rw [zeros28, List.replicate_append_replicate]
    congr 1
    omega
  rw [e]
  exact decRecord_bad_sum _ wf_vote00 0 (by decide) (Ne.symm crc32_zeros20) _

theorem parse_zero_tail' {rs : List Record} (h : AllWF rs) {m : Nat} (hm : 1 ≤ m) :
    parseChunk (encAll rs ++ List.replicate m 0) =
      (sized rs, (if m < 28 then ParseEnd.eof else ParseEnd.invalid), List.replicate m 0) := by
  rw [parseChunk_encAll_append h]
  by_cases h28 : m < 28
  · have hne : List.replicate m (0 : UInt8) ≠ [] :=
      List.ne_nil_of_length_pos (by rw [List.length_replicate]; exact hm)
    rw [parseChunk_eof hne (decRecord_zeros_eof h28), if_pos h28]; simp
  · rw [parseChunk_invalid (decRecord_zeros_invalid (by omega)), if_neg h28]; simp

theorem allZero_replicate (m : Nat) : allZero (List.replicate m 0) = true := by
  simp [allZero]

theorem sized_map_fst (rs : List Record) : (sized rs).map (·.1) = rs := by
  simp [sized, List.map_map, Function.comp_def]

/-- The same list as `sizes` below (by `rfl`); the journal invariant is stated with this name, `open` and
recovery with the other. -/
def recSizes (rs : List Record) : List Nat := rs.map (fun r => (encRecord r).length)

def sumNat : List Nat → Nat
  | [] => 0
  | x :: xs => x + sumNat xs

theorem encAll_length (rs : List Record) : (encAll rs).length = sumNat (recSizes rs) := by
  induction rs with
  | nil => rfl
  | cons r rs ih => simp [recSizes, sumNat] at ih ⊢; omega

theorem sumNat_append (a b : List Nat) : sumNat (a ++ b) = sumNat a + sumNat b := by
  induction a with
  | nil => simp [sumNat]
  | cons x xs ih => simp [sumNat, ih]; omega

@[simp] theorem offsetsFrom_headD (start : Nat) (sz : List Nat) : (offsetsFrom start sz).headD 0 = start := by
  cases sz <;> rfl

theorem offsetsFrom_ne_nil (start : Nat) (sz : List Nat) : offsetsFrom start sz ≠ [] := by
  cases sz <;> simp [offsetsFrom]

@[simp] theorem offsetsFrom_length (start : Nat) (sz : List Nat) :
    (offsetsFrom start sz).length = sz.length + 1 := by
  induction sz generalizing start with
  | nil => rfl
  | cons x xs ih => simp [offsetsFrom, ih]

theorem lastOff_cons_of_ne_nil (x : Nat) {l : List Nat} (h : l ≠ []) : lastOff (x :: l) = lastOff l := by
  cases l with
  | nil => exact absurd rfl h
  | cons y ys => simp [lastOff, List.getLastD]

theorem lastOff_offsetsFrom (start : Nat) (sz : List Nat) :
    lastOff (offsetsFrom start sz) = start + sumNat sz := by
  induction sz generalizing start with
  | nil => simp [offsetsFrom, lastOff, sumNat]
  | cons x xs ih =>
    simp only [offsetsFrom, sumNat]
    rw [lastOff_cons_of_ne_nil _ (offsetsFrom_ne_nil _ _), ih]
    omega

/-- Record sizes, as `openChunk` feeds them to `offsetsFrom`. -/
abbrev sizes (rs : List Record) : List Nat := rs.map (fun r => (encRecord r).length)

theorem sized_map_snd (rs : List Record) : (sized rs).map (·.2) = sizes rs := by
  simp [sized, sizes, List.map_map, Function.comp_def]

theorem lastOff_sized (id : Nat) (rs : List Record) :
    lastOff (offsetsFrom id (sizes rs)) = id + (encAll rs).length := by
  rw [encAll_length]; exact lastOff_offsetsFrom id _

theorem goodLen_sized (id : Nat) (rs : List Record) :
    lastOff (offsetsFrom id (sizes rs)) - id = (encAll rs).length := by
  rw [lastOff_sized, Nat.add_sub_cancel_left]

/-- What `openChunk` returns for a given parse result. -/
def chunkResult (cfg : Cfg) (id : Nat) (rs : List Record) (e : ParseEnd) (rest : Bytes) :
    Except ErrKind OpenedChunk :=
  match e with
  | .clean => .ok ⟨rs, offsetsFrom id (sizes rs), none⟩
  | .eof => if cfg.truncate then .ok ⟨rs, offsetsFrom id (sizes rs), some (encAll rs).length⟩
            else .error .eof
  | .invalid =>
    if allZero rest && cfg.truncate
    then .ok ⟨rs, offsetsFrom id (sizes rs), some (encAll rs).length⟩
    else .error .invalid

theorem openChunk_of_parse {cfg : Cfg} {id : Nat} {data : Bytes} {rs : List Record}
    {e : ParseEnd} {rest : Bytes} (h : parseChunk data = (sized rs, e, rest)) :
    openChunk cfg id data = chunkResult cfg id rs e rest := by
  unfold openChunk chunkResult
  simp only [h, sized_map_fst, sized_map_snd, goodLen_sized]
  cases e <;> rfl

theorem openChunk_invalid_tail (cfg : Cfg) (id : Nat) {rs : List Record} (h : AllWF rs) {bs : Bytes}
    (hb : decRecord bs = .invalid) :
    parseChunk (encAll rs ++ bs) = (sized rs, .invalid, bs) ∧
    openChunk cfg id (encAll rs ++ bs) = chunkResult cfg id rs .invalid bs := by
  have hp : parseChunk (encAll rs ++ bs) = (sized rs, .invalid, bs) := by
    rw [parseChunk_encAll_append h, parseChunk_invalid hb]; simp
  exact ⟨hp, openChunk_of_parse hp⟩

end RaftLog
