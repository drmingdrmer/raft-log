/-
C02 groundwork: the cache-free projection of the replay state machine.
`Store.smApply` acts on the index map and on the state; neither depends on the
payload cache. Here: the index operations as a partial function on index maps
(`idxLogO`, `idxRun`), the state operations (`stRun`), and the facts about
index maps that make dropping a journal prefix sound: every operation acts
pointwise per index, so a run from a smaller map yields a smaller map
(`idxRun_mono`), and whatever a run yields is either yielded from any other
start as well or was there at the beginning (`idxRun_m1`). Last, the checks a legal history satisfies at every
record (`RecCheck`, `RunOK`), which the replay invariant and the payload cache during replay carry.
-/
import RaftLogModel.Proofs.StoreBasic
import RaftLogModel.Model.Open
namespace RaftLog

abbrev Log := List (Nat × LogData)

theorem sorted_ext {α} (k : α → Nat) : ∀ (a b : List α),
    a.Pairwise (fun x y => k x < k y) → b.Pairwise (fun x y => k x < k y) →
    (∀ e, e ∈ a ↔ e ∈ b) → a = b := by
  intro a b ha hb h
  have nodup : ∀ {l : List α}, l.Pairwise (fun x y => k x < k y) → l.Nodup :=
    fun hl => hl.imp fun {x y} (hlt : k x < k y) (e : x = y) => Nat.lt_irrefl _ (e ▸ hlt)
  exact List.Perm.eq_of_pairwise (fun _ _ _ _ h1 h2 => absurd h1 (Nat.lt_asymm h2)) ha hb
    ((List.perm_ext_iff_of_nodup (nodup ha) (nodup hb)).2 h)

def SortedLog (l : Log) : Prop := l.Pairwise (fun a b => a.1 < b.1)

theorem SortedLog.nil : SortedLog [] := List.Pairwise.nil

theorem SortedLog.filter {l : Log} (h : SortedLog l) (p : Nat × LogData → Bool) :
    SortedLog (l.filter p) := List.Pairwise.filter p h

theorem mem_logInsert_of_ne {i : Nat} {d : LogData} {l : Log} {e : Nat × LogData}
    (he : e ∈ l) (hne : e.1 ≠ i) : e ∈ logInsert i d l := by
  induction l with
  | nil => cases he
  | cons x xs ih =>
    obtain ⟨j, d'⟩ := x
    unfold logInsert
    split
    · exact List.mem_cons_of_mem _ he
    · split
      · rename_i h1 h2
        rcases List.mem_cons.mp he with h | h
        · subst h; exact absurd h2.symm hne
        · exact List.mem_cons_of_mem _ h
      · rcases List.mem_cons.mp he with h | h
        · subst h; exact List.mem_cons_self
        · exact List.mem_cons_of_mem _ (ih h)

theorem mem_logInsert_self (i : Nat) (d : LogData) (l : Log) : (i, d) ∈ logInsert i d l := by
  induction l with
  | nil => simp [logInsert]
  | cons x xs ih =>
    obtain ⟨j, d'⟩ := x
    unfold logInsert
    split
    · exact List.mem_cons_self
    · split
      · exact List.mem_cons_self
      · exact List.mem_cons_of_mem _ ih

theorem mem_logInsert_sorted {i : Nat} {d : LogData} {l : Log} {e : Nat × LogData}
    (hs : SortedLog l) (h : e ∈ logInsert i d l) : e = (i, d) ∨ (e ∈ l ∧ e.1 ≠ i) := by
  induction l with
  | nil => simp [logInsert] at h; exact Or.inl h
  | cons x xs ih =>
    obtain ⟨j, d'⟩ := x
    have hs' := hs
    unfold SortedLog at hs'
    rw [List.pairwise_cons] at hs'
    unfold logInsert at h
    split at h
    · rename_i hlt
      rcases List.mem_cons.mp h with h1 | h1
      · exact Or.inl h1
      · refine Or.inr ⟨h1, ?_⟩
        rcases List.mem_cons.mp h1 with h2 | h2
        · subst h2; simp only; omega
        · have := hs'.1 e h2; simp only at this; omega
    · split at h
      · rename_i hnlt heq
        rcases List.mem_cons.mp h with h1 | h1
        · exact Or.inl h1
        · refine Or.inr ⟨List.mem_cons_of_mem _ h1, ?_⟩
          have := hs'.1 e h1; simp only at this; omega
      · rename_i hnlt hne
        rcases List.mem_cons.mp h with h1 | h1
        · subst h1
          refine Or.inr ⟨List.mem_cons_self, ?_⟩
          simp only; omega
        · rcases ih hs'.2 h1 with h2 | h2
          · exact Or.inl h2
          · exact Or.inr ⟨List.mem_cons_of_mem _ h2.1, h2.2⟩

theorem logInsert_sorted {i : Nat} {d : LogData} {l : Log} (hs : SortedLog l) :
    SortedLog (logInsert i d l) := by
  induction l with
  | nil => simp [logInsert, SortedLog]
  | cons x xs ih =>
    obtain ⟨j, d'⟩ := x
    have hs' := hs
    unfold SortedLog at hs'
    rw [List.pairwise_cons] at hs'
    unfold logInsert
    split
    · rename_i hlt
      unfold SortedLog
      rw [List.pairwise_cons]
      refine ⟨?_, hs⟩
      intro e he
      rcases List.mem_cons.mp he with h | h
      · subst h; exact hlt
      · have := hs'.1 e h; simp only at this ⊢; omega
    · split
      · rename_i hnlt heq
        unfold SortedLog
        rw [List.pairwise_cons]
        refine ⟨?_, hs'.2⟩
        intro e he
        have := hs'.1 e he; simp only at this ⊢; omega
      · rename_i hnlt hne
        unfold SortedLog
        rw [List.pairwise_cons]
        refine ⟨?_, ih hs'.2⟩
        intro e he
        rcases mem_logInsert_sorted hs'.2 he with h | h
        · subst h; simp only; omega
        · exact hs'.1 e h.1

/-- What `Store.applyIndex` does to the index map (`none` = overflow panic). -/
def idxLogO (r : Record) (chunk : Nat) (seg : Seg) (l : Log) : Option Log :=
  match r with
  | .append id _ => some (logInsert id.index ⟨id, chunk, seg.off, seg.size⟩ l)
  | .truncateAfter o =>
    match nextIndexChecked o with
    | none => none
    | some idx => some (l.filter (fun e => e.1 < idx))
  | .purgeUpto id =>
    match nextIndexChecked (some id) with
    | none => none
    | some idx => some (l.filter (fun e => idx ≤ e.1))
  | _ => some l

theorem applyIndex_eq_map (s : Store) (r : Record) (chunk : Nat) (seg : Seg) :
    s.applyIndex r chunk seg =
      (idxLogO r chunk seg s.log).map fun l => { s with log := l, cache := idxCache r s.cache } := by
  cases r with
  | truncateAfter o =>
    simp only [Store.applyIndex, idxLogO]
    cases nextIndexChecked o <;> cases o <;> rfl
  | purgeUpto id =>
    simp only [Store.applyIndex, idxLogO]
    cases nextIndexChecked (some id) <;> rfl
  | _ => rfl

theorem applyIndex_exact (s : Store) (r : Record) (chunk : Nat) (seg : Seg) {l : Log}
    (h : idxLogO r chunk seg s.log = some l) :
    s.applyIndex r chunk seg = some { s with log := l, cache := idxCache r s.cache } := by
  rw [applyIndex_eq_map, h]
  rfl

theorem smApply_exact (s : Store) {r : Record} {chunk : Nat} {seg : Seg} {st1 : RState} {l1 : Log}
    (h1 : s.st.apply r = .ok st1) (h2 : idxLogO r chunk seg s.log = some l1) :
    s.smApply r chunk seg = .ok { s with st := st1, log := l1, cache := idxCache r s.cache } := by
  unfold Store.smApply
  rw [applyIndex_exact s r chunk seg h2]
  simp only [h1]

theorem smApply_ok_iff {s s' : Store} {r : Record} {chunk : Nat} {seg : Seg} :
    s.smApply r chunk seg = .ok s' ↔ ∃ st1 l1, s.st.apply r = .ok st1 ∧
      idxLogO r chunk seg s.log = some l1 ∧
      s' = { s with st := st1, log := l1, cache := idxCache r s.cache } := by
  refine ⟨fun h => ?_, fun ⟨st1, l1, h1, h2, e⟩ => e ▸ smApply_exact s h1 h2⟩
  unfold Store.smApply at h
  rw [applyIndex_eq_map] at h
  cases hl : idxLogO r chunk seg s.log with
  | none => rw [hl] at h; cases h
  | some l1 =>
    rw [hl] at h
    cases ha : s.st.apply r with
    | ok st1 =>
      simp only [Option.map_some, ha, Res.ok.injEq] at h
      exact ⟨st1, l1, rfl, rfl, h.symm⟩
    | err k => simp [ha] at h
    | panic m => simp [ha] at h

theorem Store.smApply_err {s : Store} {r : Record} {chunk : Nat} {seg : Seg} {k : ErrKind}
    (h : s.smApply r chunk seg = .err k) : s.st.apply r = .err k := by
  unfold Store.smApply at h
  rw [applyIndex_eq_map] at h
  cases hl : idxLogO r chunk seg s.log with
  | none => rw [hl] at h; cases h
  | some l1 =>
    rw [hl] at h
    cases ha : s.st.apply r with
    | ok st1 => simp [ha] at h
    | err k' => simpa [ha] using h
    | panic m => simp [ha] at h

theorem idxCache_limits (r : Record) (c : Cache) :
    (idxCache r c).maxItems = c.maxItems ∧ (idxCache r c).capacity = c.capacity := by
  cases r with
  | append id p => simp [idxCache, Cache.insert, Cache.tryEvict]
  | truncateAfter o => cases o <;> simp [idxCache, Cache.truncateAfter, Cache.clear]
  | purgeUpto id => simp [idxCache, Cache.purgeUpto]
  | _ => exact ⟨rfl, rfl⟩

theorem idxCache_lastEvictable (r : Record) (c : Cache) :
    (idxCache r c).lastEvictable = c.lastEvictable := by
  cases r with
  | truncateAfter o => cases o <;> rfl
  | _ => rfl

/-- One journal record with the chunk it lies in and its segment. -/
structure JOp where
  r : Record
  chunk : Nat
  seg : Seg

def idxRun : List JOp → Log → Option Log
  | [], l => some l
  | op :: ops, l =>
    match idxLogO op.r op.chunk op.seg l with
    | none => none
    | some l' => idxRun ops l'

def stRun : List Record → RState → Option RState
  | [], st => some st
  | r :: rs, st =>
    match st.apply r with
    | .ok st' => stRun rs st'
    | _ => none

theorem idxRun_append (a b : List JOp) (l : Log) :
    idxRun (a ++ b) l = (idxRun a l).bind (idxRun b) := by
  induction a generalizing l with
  | nil => rfl
  | cons op ops ih =>
    simp only [List.cons_append, idxRun]
    cases idxLogO op.r op.chunk op.seg l with
    | none => rfl
    | some l' => exact ih l'

theorem stRun_append (a b : List Record) (st : RState) :
    stRun (a ++ b) st = (stRun a st).bind (stRun b) := by
  induction a generalizing st with
  | nil => rfl
  | cons r rs ih =>
    simp only [List.cons_append, stRun]
    cases st.apply r with
    | ok st' => exact ih st'
    | err k => rfl
    | panic m => rfl

theorem stRun_state_head (x : RState) (rs : List Record) (st st0 : RState) :
    stRun (.state x :: rs) st = stRun (.state x :: rs) st0 := by
  simp [stRun, RState.apply]

theorem idxLogO_shape (r : Record) (chunk : Nat) (seg : Seg) :
    (∀ l, idxLogO r chunk seg l = none) ∨
    (∃ i d, d.chunk = chunk ∧ ∀ l, idxLogO r chunk seg l = some (logInsert i d l)) ∨
    (∃ p, ∀ l, idxLogO r chunk seg l = some (l.filter p)) := by
  cases r with
  | append id p => exact .inr (.inl ⟨_, _, rfl, fun _ => rfl⟩)
  | truncateAfter o =>
    simp only [idxLogO]
    cases nextIndexChecked o with
    | none => exact .inl fun _ => rfl
    | some idx => exact .inr (.inr ⟨_, fun _ => rfl⟩)
  | purgeUpto id =>
    simp only [idxLogO]
    cases nextIndexChecked (some id) with
    | none => exact .inl fun _ => rfl
    | some idx => exact .inr (.inr ⟨_, fun _ => rfl⟩)
  | _ => exact .inr (.inr ⟨fun _ => true, fun l => by rw [List.filter_eq_self.2 fun _ _ => rfl]; rfl⟩)

theorem idxLogO_sorted {r : Record} {chunk : Nat} {seg : Seg} {l l' : Log}
    (hs : SortedLog l) (h : idxLogO r chunk seg l = some l') : SortedLog l' := by
  rcases idxLogO_shape r chunk seg with k | ⟨i, d, _, k⟩ | ⟨p, k⟩ <;> rw [k] at h <;> cases h
  · exact logInsert_sorted hs
  · exact hs.filter p

theorem idxLogO_isSome (r : Record) (chunk : Nat) (seg : Seg) (l l0 : Log) :
    (idxLogO r chunk seg l).isSome = (idxLogO r chunk seg l0).isSome := by
  rcases idxLogO_shape r chunk seg with k | ⟨i, d, _, k⟩ | ⟨p, k⟩ <;> rw [k, k] <;> rfl

theorem idxLogO_mem_chunk {r : Record} {chunk : Nat} {seg : Seg} {l l' : Log}
    (h : idxLogO r chunk seg l = some l') : ∀ e ∈ l', e ∈ l ∨ e.2.chunk = chunk := by
  intro e he
  rcases idxLogO_shape r chunk seg with k | ⟨i, d, hd, k⟩ | ⟨p, k⟩ <;> rw [k] at h <;> cases h
  · rcases mem_logInsert he with rfl | k1
    · exact .inr hd
    · exact .inl k1
  · exact .inl (List.mem_filter.mp he).1

/-- Every index operation acts pointwise per index: it may insert one entry (`new`) and keeps
an old entry according to a test (`keep`) that does not look at the map. -/
theorem idxLogO_pointwise (r : Record) (chunk : Nat) (seg : Seg) :
    ∃ (new : Option (Nat × LogData)) (keep : Nat × LogData → Prop), ∀ {l l' : Log},
      idxLogO r chunk seg l = some l' →
      (∀ e, new = some e ∨ (e ∈ l ∧ keep e) → e ∈ l') ∧
      (SortedLog l → ∀ e ∈ l', new = some e ∨ (e ∈ l ∧ keep e)) := by
  rcases idxLogO_shape r chunk seg with k | ⟨i, d, _, k⟩ | ⟨p, k⟩
  · exact ⟨none, fun _ => True, fun h => by rw [k] at h; cases h⟩
  · refine ⟨some (i, d), fun e => e.1 ≠ i, fun {l l'} h => ?_⟩
    rw [k] at h; cases h
    refine ⟨?_, fun hs e he => (mem_logInsert_sorted hs he).imp_left (congrArg some ·.symm)⟩
    rintro e (e1 | ⟨e1, e2⟩)
    · cases e1; exact mem_logInsert_self i d l
    · exact mem_logInsert_of_ne e1 e2
  · refine ⟨none, fun e => p e = true, fun {l l'} h => ?_⟩
    rw [k] at h; cases h
    simp [List.mem_filter]

theorem idxLogO_mono {r : Record} {chunk : Nat} {seg : Seg} {l l' l0 : Log}
    (hs0 : SortedLog l0) (hsub : ∀ e ∈ l0, e ∈ l) (h : idxLogO r chunk seg l = some l') :
    ∃ l0', idxLogO r chunk seg l0 = some l0' ∧ (∀ e ∈ l0', e ∈ l') := by
  obtain ⟨new, keep, hpw⟩ := idxLogO_pointwise r chunk seg
  have hsome := idxLogO_isSome r chunk seg l0 l
  rw [h] at hsome
  obtain ⟨l0', h0⟩ := Option.isSome_iff_exists.1 hsome
  exact ⟨l0', h0, fun e he => (hpw h).1 e
    (((hpw h0).2 hs0 e he).imp_right fun k => ⟨hsub e k.1, k.2⟩)⟩

theorem idxLogO_m1 {r : Record} {chunk : Nat} {seg : Seg} {l l' l0 l0' : Log}
    {P : Nat × LogData → Prop}
    (hs : SortedLog l) (hrel : ∀ e ∈ l, e ∈ l0 ∨ P e)
    (h : idxLogO r chunk seg l = some l') (h0 : idxLogO r chunk seg l0 = some l0') :
    ∀ e ∈ l', e ∈ l0' ∨ P e := by
  obtain ⟨new, keep, hpw⟩ := idxLogO_pointwise r chunk seg
  intro e he
  rcases (hpw h).2 hs e he with hn | ⟨h1, h2⟩
  · exact .inl ((hpw h0).1 e (.inl hn))
  · exact (hrel e h1).imp_left fun h3 => (hpw h0).1 e (.inr ⟨h3, h2⟩)

theorem idxRun_sorted {ops : List JOp} {l l' : Log} (hs : SortedLog l)
    (h : idxRun ops l = some l') : SortedLog l' := by
  induction ops generalizing l with
  | nil => simp only [idxRun, Option.some.injEq] at h; subst h; exact hs
  | cons op ops ih =>
    simp only [idxRun] at h
    split at h
    · cases h
    · rename_i l1 h1
      exact ih (idxLogO_sorted hs h1) h

theorem idxRun_mem_chunk {ops : List JOp} {id : Nat} (hc : ∀ op ∈ ops, op.chunk = id) {l l' : Log}
    (h : idxRun ops l = some l') : ∀ e ∈ l', e ∈ l ∨ e.2.chunk = id := by
  induction ops generalizing l with
  | nil => cases h; exact fun e he => .inl he
  | cons op ops ih =>
    simp only [idxRun] at h
    split at h
    · cases h
    · rename_i l1 h1
      intro e he
      rcases ih (fun o ho => hc o (List.mem_cons_of_mem _ ho)) h e he with k | k
      · exact (idxLogO_mem_chunk h1 e k).imp_right fun k1 => k1.trans (hc op List.mem_cons_self)
      · exact .inr k

theorem idxRun_mono {ops : List JOp} {l l' l0 : Log}
    (hs0 : SortedLog l0) (hsub : ∀ e ∈ l0, e ∈ l) (h : idxRun ops l = some l') :
    ∃ l0', idxRun ops l0 = some l0' ∧ (∀ e ∈ l0', e ∈ l') := by
  induction ops generalizing l l0 with
  | nil => simp only [idxRun, Option.some.injEq] at h; subst h; exact ⟨l0, rfl, hsub⟩
  | cons op ops ih =>
    simp only [idxRun] at h ⊢
    split at h
    · cases h
    · rename_i l1 h1
      obtain ⟨l01, h01, hsub1⟩ := idxLogO_mono hs0 hsub h1
      rw [h01]
      exact ih (idxLogO_sorted hs0 h01) hsub1 h

/-- (`m1`: monotone up to one exception.) What a run from `l` yields is yielded from `l0` as well,
except for entries that satisfy `P` — as those of `l` outside `l0` did. -/
theorem idxRun_m1 {ops : List JOp} {l l' l0 l0' : Log} {P : Nat × LogData → Prop}
    (hs : SortedLog l) (hrel : ∀ e ∈ l, e ∈ l0 ∨ P e)
    (h : idxRun ops l = some l') (h0 : idxRun ops l0 = some l0') :
    ∀ e ∈ l', e ∈ l0' ∨ P e := by
  induction ops generalizing l l0 with
  | nil =>
    cases h
    cases h0
    exact hrel
  | cons op ops ih =>
    simp only [idxRun] at h h0
    split at h
    · cases h
    · rename_i l1 h1
      split at h0
      · cases h0
      · rename_i l01 h01
        exact ih (idxLogO_sorted hs h1) (idxLogO_m1 hs hrel h1 h01) h h0

theorem idxRun_forget {ops : List JOp} {m l' : Log} (hs : SortedLog m)
    (h : idxRun ops m = some l') (hgone : ∀ e ∈ m, e ∉ l') : idxRun ops [] = some l' := by
  obtain ⟨l0', h0, hsub⟩ := idxRun_mono SortedLog.nil (fun e he => by cases he) h
  have hm1 := idxRun_m1 (P := fun e => e ∈ m) hs (fun e he => Or.inr he) h h0
  have : l0' = l' := by
    apply sorted_ext (fun e : Nat × LogData => e.1) _ _ (idxRun_sorted SortedLog.nil h0)
      (idxRun_sorted hs h)
    intro e
    constructor
    · exact hsub e
    · intro he
      rcases hm1 e he with h1 | h1
      · exact h1
      · exact absurd he (hgone e h1)
  rw [h0, this]

/-! ### Checks a legal history satisfies at every record

`State` records other than chunk heads keep `last`; a truncation point is at
or above every entry it keeps; a purge point is below every entry it keeps.
These are what the payload cache needs during replay (`Proofs/ReplayCache`). -/

def RecCheck (r : Record) (st : RState) (l : Log) : Prop :=
  match r with
  | .state x => x.last = st.last
  | .truncateAfter (some key) => ∀ e ∈ l, e.1 < key.index + 1 → key.lt e.2.id = false
  | .purgeUpto u => ∀ e ∈ l, u.index < e.1 → u.lt e.2.id = true
  | _ => True

theorem RecCheck.mono {r : Record} {st : RState} {l l0 : Log} (h : RecCheck r st l)
    (hsub : ∀ e ∈ l0, e ∈ l) : RecCheck r st l0 := by
  cases r with
  | saveVote v => trivial
  | commit id => trivial
  | append id p => trivial
  | state x => exact h
  | truncateAfter o =>
    cases o with
    | none => trivial
    | some key => exact fun e he => h e (hsub e he)
  | purgeUpto u => exact fun e he => h e (hsub e he)

/-- `RecCheck` holds at every record of the run, against the state and index map reached there. -/
def RunOK : List JOp → RState → Log → Prop
  | [], _, _ => True
  | op :: ops, st, l =>
    RecCheck op.r st l ∧ ∀ st' l', st.apply op.r = .ok st' →
      idxLogO op.r op.chunk op.seg l = some l' → RunOK ops st' l'

def stRunO (ops : List JOp) (st : RState) : Option RState := stRun (ops.map (·.r)) st

theorem stRunO_cons (op : JOp) (ops : List JOp) (st : RState) :
    stRunO (op :: ops) st = match st.apply op.r with
      | .ok st' => stRunO ops st'
      | _ => none := by
  simp only [stRunO, List.map_cons, stRun]

theorem stRunO_append (a b : List JOp) (st : RState) :
    stRunO (a ++ b) st = (stRunO a st).bind (stRunO b) := by
  simp only [stRunO, List.map_append, stRun_append]
  rfl

theorem RunOK_append {a b : List JOp} {st : RState} {l : Log} :
    RunOK (a ++ b) st l ↔ RunOK a st l ∧
      ∀ st' l', stRunO a st = some st' → idxRun a l = some l' → RunOK b st' l' := by
  induction a generalizing st l with
  | nil =>
    simp only [List.nil_append, RunOK, true_and]
    constructor
    · intro h st' l' h1 h2
      simp only [stRunO, List.map_nil, stRun, Option.some.injEq] at h1
      simp only [idxRun, Option.some.injEq] at h2
      subst h1; subst h2; exact h
    · intro h; exact h st l rfl rfl
  | cons op ops ih =>
    simp only [List.cons_append, RunOK]
    constructor
    · rintro ⟨h1, h2⟩
      refine ⟨⟨h1, fun st' l' ha hi => ((ih.mp (h2 st' l' ha hi))).1⟩, ?_⟩
      intro st2 l2 hs hi
      rw [stRunO_cons] at hs
      simp only [idxRun] at hi
      cases ha : st.apply op.r with
      | err k => rw [ha] at hs; cases hs
      | panic m => rw [ha] at hs; cases hs
      | ok st' =>
        rw [ha] at hs
        cases hl : idxLogO op.r op.chunk op.seg l with
        | none => rw [hl] at hi; cases hi
        | some l' =>
          rw [hl] at hi
          exact (ih.mp (h2 st' l' ha hl)).2 st2 l2 hs hi
    · rintro ⟨⟨h1, h2⟩, h3⟩
      refine ⟨h1, fun st' l' ha hl => ih.mpr ⟨h2 st' l' ha hl, ?_⟩⟩
      intro st2 l2 hs hi
      apply h3 st2 l2
      · rw [stRunO_cons, ha]; exact hs
      · simp only [idxRun, hl]; exact hi

theorem RunOK.mono {ops : List JOp} {st : RState} {l l0 : Log} (h : RunOK ops st l)
    (hs0 : SortedLog l0) (hsub : ∀ e ∈ l0, e ∈ l) : RunOK ops st l0 := by
  induction ops generalizing st l l0 with
  | nil => trivial
  | cons op ops ih =>
    obtain ⟨h1, h2⟩ := h
    refine ⟨h1.mono hsub, fun st' l0' ha hl0 => ?_⟩
    have hsome := idxLogO_isSome op.r op.chunk op.seg l l0
    rw [hl0] at hsome
    cases hl : idxLogO op.r op.chunk op.seg l with
    | none => rw [hl] at hsome; cases hsome
    | some l' =>
      obtain ⟨l0'', k1, k2⟩ := idxLogO_mono hs0 hsub hl
      rw [hl0] at k1
      injection k1 with k1
      subst k1
      exact ih (h2 st' l' ha hl) (idxLogO_sorted hs0 hl0) k2

theorem idxRun_prefix {a b : List JOp} {l l' : Log} (h : idxRun (a ++ b) l = some l') :
    ∃ l1, idxRun a l = some l1 ∧ idxRun b l1 = some l' :=
  Option.bind_eq_some_iff.1 (idxRun_append a b l ▸ h)

theorem stRunO_prefix {a b : List JOp} {st st' : RState} (h : stRunO (a ++ b) st = some st') :
    ∃ st1, stRunO a st = some st1 ∧ stRunO b st1 = some st' :=
  Option.bind_eq_some_iff.1 (stRunO_append a b st ▸ h)

end RaftLog
