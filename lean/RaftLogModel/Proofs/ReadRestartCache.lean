/-
C07 across restarts: the payload cache while `open` replays the journal, for ARBITRARY cache limits (0
included; Proofs/ReplayCache.lean covers limits under which nothing is evicted). What survives: the cache
invariant; a cached payload for the id of an index entry is the payload of the `Append` record the entry
points to; an entry whose id is ABOVE the eviction boundary in force is resident (eviction only drops ids at
or below the boundary; truncations and purges keep the ids of the entries they keep, `RecCheck`). The facts
ride along the walk of `openLoop` as a `LoadStep` (Proofs/ReplayOpen.lean); `OpenedC7c` is what the read
invariant needs of the store `open` returns.
-/
import RaftLogModel.Proofs.ReplayCache
import RaftLogModel.Proofs.ReadPathStore
namespace RaftLog

/-- `done` = the journal records replayed so far. -/
structure CK0C7c (sm : Store) (done : List JOp) : Prop where
  cinv : CacheInv sm
  sorted : SortedLog sm.log
  idx : ∀ e ∈ sm.log, e.2.id.index = e.1
  pts : ∀ e ∈ sm.log, ∃ p, opAt e p ∈ done
  val : ∀ e ∈ sm.log, ∀ p, (e.2.id, p) ∈ sm.cache.items → opAt e p ∈ done

def CKresC7c (j : Nat) (sm : Store) : Prop :=
  ∀ e ∈ sm.log, e.2.chunk = j → optLe (some e.2.id) sm.cache.lastEvictable = false →
    ∃ p, (e.2.id, p) ∈ sm.cache.items

theorem CK0C7c.of_fields {sm sm2 : Store} {done : List JOp} (h : CK0C7c sm done)
    (h1 : sm2.st = sm.st) (h2 : sm2.log = sm.log) (h3 : sm2.cache.items = sm.cache.items)
    (h4 : sm2.cache.size = sm.cache.size) : CK0C7c sm2 done := by
  refine ⟨h.cinv.of_fields h1 h3 h4, by rw [h2]; exact h.sorted, by rw [h2]; exact h.idx,
    by rw [h2]; exact h.pts, ?_⟩
  rw [h2, h3]; exact h.val

/-- By `idxCache_spec`: what leaves the cache is at or below the boundary, or above a truncation point and then
its index entry goes too (`RecCheck`). The second case of `hck` is the head record of the journal: a `State`
record applied to the empty store, for which `RecCheck` need not hold. -/
theorem ck_step_C7c {sm : Store} {done : List JOp} {op : JOp} {st1 : RState} {l1 : Log}
    (h : CK0C7c sm done) (hst : sm.st.apply op.r = .ok st1)
    (hidx : idxLogO op.r op.chunk op.seg sm.log = some l1)
    (hck : RecCheck op.r sm.st sm.log ∨ (sm.cache.items = [] ∧ ∃ x, op.r = .state x)) :
    CK0C7c { sm with st := st1, log := l1, cache := idxCache op.r sm.cache } (done ++ [op]) ∧
      ∀ j, CKresC7c j sm →
        CKresC7c j { sm with st := st1, log := l1, cache := idxCache op.r sm.cache } := by
  obtain ⟨rec, chunk, ⟨off, size⟩⟩ := op
  simp only at hst hidx hck ⊢
  have hcinv := h.cinv.replayStep hst hidx hck
  have hsl : SortedLog l1 := idxLogO_sorted h.sorted hidx
  obtain rfl := idxLogO_eq hidx
  have habove : ∀ id p, rec = .append id p → ∀ e ∈ sm.cache.items, e.1.lt id = true := fun id p hrec =>
    items_lt_of_gt_last h.cinv (apply_append_last (hrec ▸ hst)).2
  have hsub := (idxCache_spec rec h.cinv.ok habove).1
  -- an index entry was there before (and no record with its id is appended), or is the new one
  have hcls : ∀ e ∈ idxLog rec chunk ⟨off, size⟩ sm.log, (e ∈ sm.log ∧ ∀ p, rec ≠ .append e.2.id p) ∨
      ∃ id p, rec = .append id p ∧ e = (id.index, ⟨id, chunk, off, size⟩) := by
    intro e he
    cases rec with
    | append id p0 =>
      rcases mem_logInsert_sorted h.sorted he with h1 | ⟨h1, hne⟩
      · exact .inr ⟨id, p0, rfl, h1⟩
      · refine .inl ⟨h1, fun p hrec => hne ?_⟩
        rw [← h.idx e h1, (Record.append.inj hrec).1]
    | truncateAfter o => exact .inl ⟨(List.mem_filter.mp he).1, fun _ hrec => nomatch hrec⟩
    | purgeUpto u => exact .inl ⟨(List.mem_filter.mp he).1, fun _ hrec => nomatch hrec⟩
    | saveVote v => exact .inl ⟨he, fun _ hrec => nomatch hrec⟩
    | commit i => exact .inl ⟨he, fun _ hrec => nomatch hrec⟩
    | state x => exact .inl ⟨he, fun _ hrec => nomatch hrec⟩
  refine ⟨⟨hcinv, hsl, ?_, ?_, ?_⟩, ?_⟩
  · intro e he
    rcases hcls e he with ⟨h1, _⟩ | ⟨id, p, _, rfl⟩
    · exact h.idx e h1
    · rfl
  · intro e he
    rcases hcls e he with ⟨h1, _⟩ | ⟨id, p, rfl, rfl⟩
    · obtain ⟨p, hp⟩ := h.pts e h1
      exact ⟨p, List.mem_append_left _ hp⟩
    · exact ⟨p, List.mem_append_right _ (List.mem_singleton.mpr rfl)⟩
  · intro e he p hp
    rcases hcls e he with ⟨h1, hna⟩ | ⟨id, p0, rfl, rfl⟩
    · exact List.mem_append_left _ (h.val e h1 p ((hsub _ hp).resolve_right (hna p)))
    · rcases hsub _ hp with k | k
      · have := items_lt_of_gt_last h.cinv (apply_append_last hst).2 _ k
        simp [LogId.lt_irrefl] at this
      · obtain rfl := (Record.append.inj k).2
        exact List.mem_append_right _ (List.mem_singleton.mpr rfl)
  · intro j hr e he hj hgt
    have hgt' : optLe (some e.2.id) sm.cache.lastEvictable = false :=
      idxCache_lastEvictable rec sm.cache ▸ hgt
    have key : ∀ q, (e.2.id, q) ∈ sm.cache.items ∨ rec = .append e.2.id q →
        ∃ p, (e.2.id, p) ∈ (idxCache rec sm.cache).items :=
      fun q hq => (idxCache_keeps h.cinv.ok habove (hck.imp_right (·.2)) he hq).resolve_right
        (by rw [hgt']; exact Bool.false_ne_true)
    rcases hcls e he with ⟨h1, _⟩ | ⟨id, p0, hrec, rfl⟩
    · obtain ⟨q, hq⟩ := hr e h1 hj hgt'
      exact key q (.inl hq)
    · exact key p0 (.inr hrec)

theorem opsFrom_chunk_C7c {chunk start : Nat} {rs : List Record} {op : JOp}
    (h : op ∈ opsFrom chunk start rs) : op.chunk = chunk := (opsFrom_off_lt h).2.2

/-- At a chunk boundary (`ops`: the records of `all` still to be replayed): every index entry lies in a closed
chunk. -/
structure CKBndC7c (all ops : List JOp) (a : OpenAcc) : Prop where
  ck : ∃ done, done ++ ops = all ∧ CK0C7c a.sm done
  hok : HOK ops a.sm
  lastId : a.lastLogId = prevLastOf a.sm.closed
  cl : ∀ e ∈ a.sm.log, ∃ c ∈ a.sm.closed, c.id = e.2.chunk

/-- Inside a chunk: the boundary in force is the closing `last` of the chunk before, and an
index entry of a chunk not yet closed whose id is above it is resident. -/
structure CKMidC7c (all ops : List JOp) (a : OpenAcc) : Prop where
  ck : ∃ done, done ++ ops = all ∧ CK0C7c a.sm done
  hok : HOK ops a.sm
  lastId : a.lastLogId = prevLastOf a.sm.closed
  bnd : a.sm.cache.lastEvictable = a.lastLogId
  res : ∀ e ∈ a.sm.log, (∀ c ∈ a.sm.closed, c.id ≠ e.2.chunk) →
    optLe (some e.2.id) a.sm.cache.lastEvictable = false → ∃ p, (e.2.id, p) ∈ a.sm.cache.items

theorem ck_loadStep_C7c (all : List JOp) : LoadStep (CKBndC7c all) (CKMidC7c all) := by
  refine ⟨?_, ?_, ?_⟩
  · intro ops a ⟨⟨d, hd, hc⟩, hok, hl, hcl⟩
    refine ⟨⟨d, hd, hc.of_fields rfl rfl rfl rfl⟩, hok.of_fields rfl rfl rfl, hl, rfl, ?_⟩
    intro e he hnc _
    obtain ⟨c, hcm, hid⟩ := hcl e he
    exact absurd hid (hnc c hcm)
  · intro op ops a st1 l1 ⟨⟨d, hd, hc⟩, hok, hl, hb, hres⟩ ha hi
    obtain ⟨g1, g2⟩ := ck_step_C7c hc ha hi hok.head
    refine ⟨⟨d ++ [op], by rw [List.append_assoc]; exact hd, g1⟩, hok.tail ha hi, hl,
      (idxCache_lastEvictable op.r a.sm.cache).trans hb, ?_⟩
    intro e he hnc hgt
    exact g2 e.2.chunk (fun e' he' hj' hgt' => hres e' he' (by rw [hj']; exact hnc) hgt') e he rfl hgt
  · intro ops a id rs sm2 hsr hnew hB ⟨⟨d, hd, hc⟩, hok, hl, _, _⟩
    refine ⟨⟨d, hd, hc.of_fields rfl rfl rfl rfl⟩, hok.of_fields rfl rfl rfl,
      (prevLastOf_concat sm2.closed ⟨offsetsFrom id (sizes rs), sm2.st⟩).symm, ?_⟩
    intro e he
    rcases hnew e he with h1 | h1
    · obtain ⟨c, hcm, hid⟩ := hB.cl e h1
      exact ⟨c, List.mem_append_left _ (by rw [hsr.closed]; exact hcm), hid⟩
    · exact ⟨_, List.mem_append_right _ (List.mem_singleton.mpr rfl),
        by rw [h1]; exact offsetsFrom_headD id (sizes rs)⟩

theorem emptyStore_ck_C7c (cfg : Cfg) : CK0C7c (emptyStore cfg) [] :=
  ⟨⟨⟨rfl, List.Pairwise.nil⟩, fun e he => (by cases he)⟩, SortedLog.nil,
    fun e he => (by cases he), fun e he => (by cases he), fun e he => (by cases he)⟩

theorem CKBndC7c.init {all : List JOp} {cfg : Cfg} (fs : Fs) (hok : HOK all (emptyStore cfg)) :
    CKBndC7c all all { sm := emptyStore cfg, fs := fs } :=
  ⟨⟨[], rfl, emptyStore_ck_C7c cfg⟩, hok, rfl, fun e he => by cases he⟩

theorem cval_of_log_C7c {log : Log} {items : Items} {r : RefLog}
    (hlog : logKeys log = entKeys r.entries) (hwf : r.WF)
    (hpay : ∀ x ∈ log, ∀ p, (x.2.id, p) ∈ items → (x.2.id, p) ∈ r.entries) :
    ∀ e ∈ items, ∀ a ∈ r.entries, a.1 = e.1 → a.2 = e.2 := by
  intro e he a ha hae
  obtain ⟨le, hle, _, hlk⟩ := mem_log_of_keys hlog ha
  have hpe := hpay le hle e.2 (by rw [hlk, hae]; exact he)
  rw [hlk] at hpe
  exact hwf.payload_unique ha hpe

theorem prevLastOf_cases (l : List Closed) :
    prevLastOf l = none ∨ ∃ c ∈ l, prevLastOf l = c.state.last := by
  unfold prevLastOf
  cases hl : l.getLast? with
  | none => exact .inl rfl
  | some c => exact .inr ⟨c, List.mem_of_getLast? hl, rfl⟩

/-- What the read invariant needs of the cache of a store `open` has just built (`RdInvC7b.of_open`,
Proofs/ReadRestartInv.lean). -/
structure OpenedC7c (s : Store) (r : RefLog) : Prop where
  cinv : CacheInv s
  val : ∀ x ∈ s.log, ∀ p, (x.2.id, p) ∈ s.cache.items → (x.2.id, p) ∈ r.entries
  res : CKresC7c s.openId s
  bnd : s.cache.lastEvictable = none ∨ ∃ c ∈ s.closed, s.cache.lastEvictable = c.state.last

theorem openStore_ck_C7c (cfg : Cfg) {s : Store} {fs : Fs} {w : Worker} {r : RefLog}
    (h : RInv s fs w r) (hinf : ∀ id, w.inflight id = []) (hp : s.pending = [])
    (hlinked : fs.linkedIds = s.chunkIds) {s' : Store} {w' : Worker} {fs' : Fs} {evs : List Ev}
    (ho : openStore cfg fs = (.ok (s', w'), fs', evs)) : OpenedC7c s' r := by
  obtain ⟨jc, jo, g, gp, gr⟩ := h.rep
  obtain ⟨hd, tl, x, hhd, hx⟩ := allOps_head_state g
  obtain ⟨a', k0, k, ⟨⟨d, hd', hc⟩, _⟩, a1, id, rs, sm2, ha', hM⟩ :=
    openStore_inv (ck_loadStep_C7c (allOps s jc jo)) cfg g h.j hinf hp hlinked
      (.init fs (.inr ⟨rfl, hd, tl, x, hhd, hx, gr hd tl hhd x hx⟩))
  -- the state at the end of the reused chunk, before it is closed
  have e1 : a'.sm.cache = sm2.cache := by rw [ha']; rfl
  have e2 : a'.sm.log = sm2.log := by rw [ha']; rfl
  have e3 : sm2.closed = s.closed := by
    have := congrArg List.dropLast (k.closed.symm.trans (by rw [ha']; rfl :
      a'.sm.closed = sm2.closed ++ [⟨offsetsFrom id (sizes rs), sm2.st⟩]))
    simpa [List.dropLast_concat] using this.symm
  have hle : a'.sm.cache.lastEvictable = prevLastOf s.closed := by
    rw [e1, hM.bnd]; exact hM.lastId.trans (by rw [e3])
  simp only [List.append_nil] at hd'
  rw [hd'] at hc
  have kst : a'.sm.st = s.st := k.store.st
  have klog : a'.sm.log = s.log := k.store.log
  rw [k0] at ho
  injection ho with e
  injection e with e
  injection e with e
  subst e
  refine ⟨hc.cinv.of_fields rfl rfl rfl,
    fun x hx p hp => gp x (klog ▸ hx) p (hc.val x hx p hp), ?_, hle ▸ prevLastOf_cases s.closed⟩
  intro x hx hch hgt
  show ∃ p, (x.2.id, p) ∈ a'.sm.cache.items
  rw [e1]
  apply hM.res x (by rw [← e2]; exact hx)
  · intro c hcm hid
    rw [e3] at hcm
    have := h.j.closed_lt hcm
    have : x.2.chunk = s.openId := hch
    omega
  · rw [← e1]; exact hgt

end RaftLog
