/-
C03, prefixes of the journal against prefixes of the entry-level writes (`HistG`, the history part of `HInv`).
Only prefixes that end at or beyond a marker `B` mirror a prefix of the writes: `B` is the journal end right after
the last purge that took chunks out of the chunk table (0 if none), because replaying a journal whose oldest
chunks are gone gives the index map of the full history only once the purge record that made them obsolete has
been replayed.
-/
import RaftLogModel.Proofs.CrashOpen
namespace RaftLog

/-- The entry-level writes of one op issued on the reference log `r`: one per appended entry; a purge below
the purge point journals nothing and is no write. -/
def Op.expand1 (r : RefLog) : Op → List Op
  | .append es => es.map (fun e => Op.append [e])
  | .purge upto => if upto.index < nextIndex r.purged then [] else [.purge upto]
  | .saveVote v => [.saveVote v]
  | .commit id => [.commit id]
  | .truncate idx => [.truncate idx]
  | .saveUserData d => [.saveUserData d]

/-- The expansion ends at the first op the reference log rejects; every statement that uses it also assumes
`RefLog.run … = some _`, so nothing is lost. -/
def expandOps : RefLog → List Op → List Op
  | _, [] => []
  | r, op :: rest =>
    match r.call op with
    | .ok r' => op.expand1 r ++ expandOps r' rest
    | .error _ => []

theorem run_append1_C3 {r r1 : RefLog} {id : LogId} {p : Bytes} (h : r.append1 id p = .ok r1) :
    r.run [.append [(id, p)]] = some r1 := by
  have hc : r.call (.append [(id, p)]) = .ok r1 := by
    simp [RefLog.call, RefLog.appendAll, h]
  exact RefLog.run_single.2 ⟨by simp [RefLog.legal, hc], hc⟩

theorem run_appendAll_C3 (es : List (LogId × Bytes)) : ∀ (r r' : RefLog), r.appendAll es = .ok r' →
    r.run (es.map (fun e => Op.append [e])) = some r' := by
  induction es with
  | nil =>
    intro r r' h
    simp only [RefLog.appendAll] at h
    injection h with h; subst h; rfl
  | cons e rest ih =>
    obtain ⟨id, p⟩ := e
    intro r r' h
    simp only [RefLog.appendAll] at h
    split at h
    · rename_i r1 h1
      have := run_append1_C3 h1
      have e2 : (((id, p) :: rest).map (fun e => Op.append [e]))
          = [Op.append [(id, p)]] ++ rest.map (fun e => Op.append [e]) := rfl
      rw [e2, RefLog.run_append, this]
      exact ih r1 r' h
    · cases h

theorem run_expand1_C3 {r r' : RefLog} {op : Op} (hl : r.legal op = true) (hc : r.call op = .ok r') :
    r.run (op.expand1 r) = some r' := by
  cases op with
  | saveVote v => exact RefLog.run_single.2 ⟨hl, hc⟩
  | commit id => exact RefLog.run_single.2 ⟨hl, hc⟩
  | truncate idx => exact RefLog.run_single.2 ⟨hl, hc⟩
  | saveUserData d => exact RefLog.run_single.2 ⟨hl, hc⟩
  | append es => exact run_appendAll_C3 es r r' hc
  | purge upto =>
    simp only [Op.expand1]
    by_cases hn : upto.index < nextIndex r.purged
    · rw [if_pos hn]
      simp only [RefLog.call, if_pos hn] at hc
      injection hc with hc; subst hc; rfl
    · rw [if_neg hn]
      exact RefLog.run_single.2 ⟨hl, hc⟩

theorem expandOps_append (a b : List Op) : ∀ (r r1 : RefLog), r.run a = some r1 →
    expandOps r (a ++ b) = expandOps r a ++ expandOps r1 b := by
  induction a with
  | nil => intro r r1 h; cases h; rfl
  | cons op rest ih =>
    intro r r1 h
    obtain ⟨r2, _, hc, h2⟩ := RefLog.run_cons.1 h
    simp only [List.cons_append, expandOps, hc, List.append_assoc]
    rw [ih r2 r1 h2]

theorem run_expandOps_C3 (ops : List Op) : ∀ (r r' : RefLog), r.run ops = some r' →
    r.run (expandOps r ops) = some r' := by
  induction ops with
  | nil => intro r r' h; exact h
  | cons op rest ih =>
    intro r r' h
    obtain ⟨r2, hl, hc, h2⟩ := RefLog.run_cons.1 h
    simp only [expandOps, hc]
    rw [RefLog.run_append, run_expand1_C3 hl hc]
    exact ih r2 r' h2

/-- The entry-level writes follow a call: every journalled record is one write. -/
theorem CallGhost.writes : CallGhost (fun (W : List Op) r op W' => W' = W ++ op.expand1 r)
    (fun W _ r r' _ W' => ∃ Wn, W' = W ++ Wn ∧ r.run Wn = some r' ∧ Wn.length = 1) where
  single := by
    intro W W' s r r' o rc _ hg hl hc hna hnp _
    refine ⟨o.expand1 r, hg, run_expand1_C3 hl hc, ?_⟩
    cases o with
    | append es => exact absurd rfl (hna es)
    | purge u => simp [Op.expand1, hnp u rfl]
    | _ => rfl
  nil := fun hg => by simpa [Op.expand1] using hg
  cons := fun {W W' _ _ _ id p rest} _ hg hc1 =>
    ⟨W ++ [.append [(id, p)]], ⟨_, rfl, run_append1_C3 hc1, rfl⟩, by simpa [Op.expand1] using hg⟩
  noop := fun hg hnn => by simpa [Op.expand1, hnn] using hg

/-- State and index KEYS of the reference log, not payloads: C03 claims no more of a recovered store (payloads are
C05's, `Proofs/RecovPayload*.lean`). -/
def Mirrors (P : List JOp) (W' : List Op) : Prop :=
  ∃ r', RefLog.run {} W' = some r' ∧ stRunO P {} = some r'.state ∧
    ∃ l, idxRun P [] = some l ∧ logKeys l = entKeys r'.entries

theorem mirrors_nil_C3 : Mirrors [] [] :=
  ⟨{}, rfl, rfl, [], rfl, rfl⟩

/-- A rotation head: the first record of its chunk. -/
def JOp.isHead (op : JOp) : Bool := op.seg.off == op.chunk

def cntW (P : List JOp) : Nat := (P.filter (fun op => !op.isHead)).length

theorem cntW_append (a b : List JOp) : cntW (a ++ b) = cntW a + cntW b := by
  simp [cntW, List.filter_append]

theorem cntW_prefix_le {P L : List JOp} (h : P <+: L) : cntW P ≤ cntW L := by
  obtain ⟨t, rfl⟩ := h
  rw [cntW_append]; omega

theorem sizeSum_prefix_le {P L : List JOp} (h : P <+: L) : sizeSum P ≤ sizeSum L := by
  obtain ⟨t, rfl⟩ := h
  rw [sizeSum_append]; omega

/-- The journal position `E` corresponds to the write count `K`: a prefix of the
journal ends at `E` and holds (with the `N0` dropped ones) exactly `K` writes —
or `E` lies in the dropped part and at least `K` writes were dropped. -/
def CntAt (L : List JOp) (start N0 E K : Nat) : Prop :=
  (∃ Q, Q <+: L ∧ start + sizeSum Q = E ∧ N0 + cntW Q = K) ∨ (E ≤ start ∧ K ≤ N0)

/-- `L`: the retained journal, its first record at offset `start`. `N0`: the writes whose records were dropped
with their chunks, so that a prefix `P` of `L` stands for the first `N0 + cntW P` writes. The third conjunct (`B`
is 0 or a record boundary of `L`) is what puts a replayed prefix that contains everything acknowledged at or
beyond an acknowledged marker (`HistG.replayed_C5b`). -/
def HistG (L : List JOp) (start : Nat) (W : List Op) (B E K : Nat) : Prop :=
  ∃ N0, W.length = N0 + cntW L ∧
    (∀ P, P <+: L → B ≤ start + sizeSum P → Mirrors P (W.take (N0 + cntW P))) ∧
    (B = 0 ∨ ∃ Q, Q <+: L ∧ B = start + sizeSum Q) ∧ CntAt L start N0 E K

theorem HistG.snoc {L : List JOp} {start : Nat} {W Wn : List Op} {B E K : Nat} {op : JOp}
    (h : HistG L start W B E K) (hlen : Wn.length = if op.isHead then 0 else 1)
    (hfull : Mirrors (L ++ [op]) (W ++ Wn)) :
    HistG (L ++ [op]) start (W ++ Wn) B E K := by
  obtain ⟨N0, h1, h2, h3, h4⟩ := h
  have hc : cntW (L ++ [op]) = cntW L + Wn.length := by
    rw [cntW_append, hlen]
    cases hh : op.isHead <;> simp [cntW, hh]
  refine ⟨N0, by rw [List.length_append, hc]; omega, ?_, ?_, ?_⟩
  · intro P hP hB
    rcases List.prefix_concat_iff.mp hP with e | e
    · subst e
      have : N0 + cntW (L ++ [op]) = (W ++ Wn).length := by rw [List.length_append, hc]; omega
      rw [this, List.take_length]
      exact hfull
    · have hle : N0 + cntW P ≤ W.length := by have := cntW_prefix_le e; omega
      rw [List.take_append_of_le_length hle]
      exact h2 P e hB
  · rcases h3 with e | ⟨Q, hQ, e⟩
    · exact Or.inl e
    · exact Or.inr ⟨Q, hQ.trans (List.prefix_append _ _), e⟩
  · rcases h4 with ⟨Q, hQ, e1, e2⟩ | e
    · exact Or.inl ⟨Q, hQ.trans (List.prefix_append _ _), e1, e2⟩
    · exact Or.inr e

theorem HistG.retarget {L : List JOp} {start : Nat} {W : List Op} {B E K : Nat}
    (h : HistG L start W B E K) : HistG L start W B (start + sizeSum L) W.length := by
  obtain ⟨N0, h1, h2, h3, _⟩ := h
  exact ⟨N0, h1, h2, h3, Or.inl ⟨L, List.prefix_refl _, rfl, h1.symm⟩⟩

theorem RefLog.run_wf_C3b (ops : List Op) : ∀ (r r' : RefLog), r.WF → r.run ops = some r' → r'.WF :=
  RefLog.run_inv (fun hl hc h => RefLog.call_wf h hl hc) ops

theorem RefLog.append1_purged_C3b {r r' : RefLog} {id : LogId} {p : Bytes}
    (h : r.append1 id p = .ok r') : r'.purged = r.purged := by
  unfold RefLog.append1 at h
  split at h
  · cases h
  · split at h
    · split at h
      · cases h
      · injection h with h
        subst h
        rfl
    · injection h with h
      subst h
      rfl

theorem RefLog.call_purged_mono_C3b {r r' : RefLog} {op : Op} (hc : r.call op = .ok r') :
    optLe r.purged r'.purged = true := by
  refine RefLog.call_cases (P := fun _ r' => optLe r.purged r'.purged = true) hc
    (fun _ _ _ hpu _ _ _ => hpu ▸ optLe_refl _)
    (fun es hb => ?_) (fun _ _ _ => optLe_refl _) (fun _ _ => optLe_refl _) (fun upto _ => ?_)
  · rw [RefLog.appendAll_inv (I := fun x => x.purged = r.purged)
      (fun _ _ _ _ _ h h1 => (RefLog.append1_purged_C3b h1).trans h) rfl hb]
    exact optLe_refl _
  · show optLe r.purged (if optLt r.purged (some upto) then some upto else r.purged) = true
    split
    · rename_i h; exact optLe_of_lt h
    · exact optLe_refl _

theorem RefLog.purge_le_purged {r r' : RefLog} {upto : LogId} (hc : r.call (.purge upto) = .ok r')
    (hnn : ¬ upto.index < nextIndex r.purged) : optLe (some upto) r'.purged = true := by
  simp only [RefLog.call, if_neg hnn] at hc
  injection hc with hc
  subst hc
  simp only
  split
  · exact optLe_refl _
  · rename_i h; exact optLe_of_not_lt (by simpa using h)

theorem RefLog.run_purged_mono_C3b (ops : List Op) (r r' : RefLog) (hr : r.run ops = some r') :
    optLe r.purged r'.purged = true :=
  RefLog.run_inv (P := fun x => optLe r.purged x.purged = true)
    (fun _ hc h => optLe_trans h (RefLog.call_purged_mono_C3b hc)) ops r r' (optLe_refl _) hr

theorem sizeSum_eq_zero_C3b {t : List JOp} (hpos : ∀ op ∈ t, 0 < op.seg.size) (h : sizeSum t = 0) :
    t = [] := by
  cases t with
  | nil => rfl
  | cons op t' =>
    exfalso
    have := hpos op List.mem_cons_self
    simp only [sizeSum, List.map_cons, sumNat] at h
    omega

theorem prefix_of_sizeSum_le_C3b {Q P L : List JOp} (hQ : Q <+: L) (hP : P <+: L)
    (hpos : ∀ op ∈ L, 0 < op.seg.size) (h : sizeSum Q ≤ sizeSum P) : Q <+: P := by
  rcases List.prefix_or_prefix_of_prefix hQ hP with k | k
  · exact k
  · obtain ⟨t, rfl⟩ := k
    rw [sizeSum_append] at h
    have ht : t = [] := by
      apply sizeSum_eq_zero_C3b _ (by omega)
      intro op hop
      obtain ⟨u, hu⟩ := hQ
      exact hpos op (by rw [← hu]; simp [hop])
    subst ht
    rw [List.append_nil]
    exact List.prefix_refl _

def CovC3b (W : List Op) (k : Nat) (cl : Option LogId) : Prop :=
  ∀ n, k ≤ n → n ≤ W.length → ∀ r', RefLog.run {} (W.take n) = some r' → optLe cl r'.purged = true

theorem CovC3b.extend {W : List Op} (Wn : List Op) {k : Nat} {cl : Option LogId} {r : RefLog}
    (h : CovC3b W k cl) (hk : k ≤ W.length) (hr : RefLog.run {} W = some r) :
    CovC3b (W ++ Wn) k cl := by
  intro n hkn hn r'' hr''
  by_cases hle : n ≤ W.length
  · rw [List.take_append_of_le_length hle] at hr''
    exact h n hkn hle r'' hr''
  · have hcur := h W.length hk (Nat.le_refl _) r (by rw [List.take_length]; exact hr)
    have e : (W ++ Wn).take n = W ++ Wn.take (n - W.length) := by
      rw [List.take_append]
      rw [List.take_of_length_le (by omega)]
    rw [e, RefLog.run_append, hr] at hr''
    simp only [Option.bind_some] at hr''
    exact optLe_trans hcur (RefLog.run_purged_mono_C3b _ r r'' hr'')

theorem CovC3b.of_end {W : List Op} {cl : Option LogId} {r : RefLog} (hr : RefLog.run {} W = some r)
    (h : optLe cl r.purged = true) : CovC3b W W.length cl := by
  intro n hkn hn r' hr'
  rw [Nat.le_antisymm hn hkn, List.take_length, hr] at hr'
  cases hr'
  exact h

/-- The chunk `D` leaves the front of the journal, at the time of the purge that made it obsolete or later.
`(m, k)` is a second tracked pair (`hmk`) beyond `D`; it becomes the marker: from `m` on, what `D` put into the
index map is purged (`hcov`, `hD`), and the rest starts with a `State` record (`hhead`), so a prefix of the rest
replays to the same state and keys as `D` followed by it. -/
theorem HistG.pop_one_C3b {L D : List JOp} {start0 : Nat} {W : List Op} {B0 m k E K : Nat}
    {cl : Option LogId}
    (hold : HistG (D ++ L) start0 W B0 E K) (hmk : HistG (D ++ L) start0 W B0 m k)
    (hB : B0 ≤ m) (hm : start0 + sizeSum D < m)
    (hcov : CovC3b W k cl)
    (hD : ∃ lD, idxRun D [] = some lD ∧ ∀ e ∈ lD, optLe (some e.2.id) cl = true)
    (hhead : ∃ x op tl, L = op :: tl ∧ op.r = .state x)
    (hpos : ∀ op ∈ D ++ L, 0 < op.seg.size) :
    HistG L (start0 + sizeSum D) W m E K := by
  obtain ⟨N0, hN, hmir, _, hc⟩ := hold
  obtain ⟨N0', hN', _, _, hck⟩ := hmk
  have hNN : N0' = N0 := by omega
  subst hNN
  have hposL : ∀ op ∈ L, 0 < op.seg.size := fun op hop => hpos op (List.mem_append_right _ hop)
  -- the prefix that ends at `m`
  have hck' : ∃ Q, Q <+: D ++ L ∧ start0 + sizeSum Q = m ∧ N0' + cntW Q = k := by
    rcases hck with h | ⟨e1, _⟩
    · exact h
    · omega
  obtain ⟨Q, hQ, e1, e2⟩ := hck'
  have hDQ : D <+: Q := by
    rcases List.prefix_or_prefix_of_prefix hQ (List.prefix_append D L) with k1 | k1
    · have := sizeSum_prefix_le k1; omega
    · exact k1
  obtain ⟨Q', rfl⟩ := hDQ
  have hQ' : Q' <+: L := (List.prefix_append_right_inj _).mp hQ
  rw [sizeSum_append] at e1
  rw [cntW_append] at e2 hN
  refine ⟨N0' + cntW D, by omega, ?_, Or.inr ⟨Q', hQ', by omega⟩, ?_⟩
  · intro P hP hBP
    have hQP : Q' <+: P := prefix_of_sizeSum_le_C3b hQ' hP hposL (by omega)
    have hcq := cntW_prefix_le hQP
    have hcp := cntW_prefix_le hP
    have hmir1 := hmir (D ++ P) ((List.prefix_append_right_inj D).mpr hP)
      (by rw [sizeSum_append]; omega)
    rw [cntW_append] at hmir1
    obtain ⟨r', hr', hst, l, hl, hkeys⟩ := hmir1
    have hn : N0' + cntW D + cntW P = N0' + (cntW D + cntW P) := Nat.add_assoc _ _ _
    rw [hn]
    have hpur := hcov (N0' + (cntW D + cntW P)) (by omega) (by omega) r' hr'
    have hwf : r'.WF := RefLog.run_wf_C3b _ {} r' RefLog.wf_empty hr'
    -- `P` starts with the `State` record
    obtain ⟨x, op, tl, hL, hx⟩ := hhead
    have hPne : P ≠ [] := by
      intro e; subst e
      have h0 : sizeSum ([] : List JOp) = 0 := rfl
      rw [h0] at hBP
      omega
    cases P with
    | nil => exact absurd rfl hPne
    | cons op0 P' =>
      rw [hL] at hP
      have hop0 : op0 = op := (List.cons_prefix_cons.mp hP).1
      subst hop0
      refine ⟨r', hr', ?_, l, ?_, hkeys⟩
      · obtain ⟨st1, _, k2⟩ := stRunO_prefix hst
        rw [stRunO_cons, hx] at k2 ⊢
        simpa [RState.apply] using k2
      · obtain ⟨lD', k1, k2⟩ := idxRun_prefix hl
        obtain ⟨lD, d1, d2⟩ := hD
        rw [d1] at k1
        injection k1 with k1
        subst k1
        apply idxRun_forget (idxRun_sorted SortedLog.nil d1) k2
        intro e he hmem
        have hk : (e.1, e.2.id) ∈ logKeys l := List.mem_map.mpr ⟨e, hmem, rfl⟩
        rw [hkeys] at hk
        obtain ⟨y, hy, hye⟩ := List.mem_map.mp hk
        simp only [Prod.mk.injEq] at hye
        have h1 := (hwf.above y hy).1
        rw [hye.2] at h1
        have h2 := optLe_trans (d2 e he) hpur
        have h3 := optLt_of_le_of_lt h2 h1
        rw [optLt_irrefl] at h3
        cases h3
  · rcases hc with ⟨Q0, hQ0, f1, f2⟩ | ⟨f1, f2⟩
    · rcases List.prefix_or_prefix_of_prefix hQ0 (List.prefix_append D L) with k1 | k1
      · right
        have h1 := sizeSum_prefix_le k1
        have h2 := cntW_prefix_le k1
        omega
      · left
        obtain ⟨Q1, rfl⟩ := k1
        refine ⟨Q1, (List.prefix_append_right_inj _).mp hQ0, ?_, ?_⟩
        · rw [sizeSum_append] at f1; omega
        · rw [cntW_append] at f2; omega
    · right
      omega

theorem HistG.count_le_C3b {L : List JOp} {start : Nat} {W : List Op} {B E K : Nat}
    (h : HistG L start W B E K) : K ≤ W.length := by
  obtain ⟨N0, hN, _, _, hc⟩ := h
  rcases hc with ⟨Q, hQ, _, e2⟩ | ⟨_, e2⟩
  · have := cntW_prefix_le hQ; omega
  · omega

theorem HistG.replayed_C5b {L P : List JOp} {start A Bh E K : Nat} {W : List Op}
    (hh : HistG L start W Bh E K) (hack : Bh ≤ A) (hP : P <+: L)
    (hlow : ∀ Q, Q <+: L → start + sizeSum Q ≤ A → Q <+: P) :
    ∃ N0, W.length = N0 + cntW L ∧ Mirrors P (W.take (N0 + cntW P)) ∧ (E ≤ A → K ≤ N0 + cntW P) ∧
      Bh ≤ start + sizeSum P := by
  obtain ⟨N0, hN, hmir, hbd, hcnt⟩ := hh
  have hB : Bh ≤ start + sizeSum P := by
    rcases hbd with e0 | ⟨Q, hQ, e0⟩
    · rw [e0]; exact Nat.zero_le _
    · rw [e0]
      exact Nat.add_le_add_left (sizeSum_prefix_le (hlow Q hQ (e0 ▸ hack))) _
  refine ⟨N0, hN, hmir P hP hB, fun hEA => ?_, hB⟩
  rcases hcnt with ⟨Q, hQ, e1, e2⟩ | ⟨e1, e2⟩
  · rw [← e2]
    exact Nat.add_le_add_left (cntW_prefix_le (hlow Q hQ (e1 ▸ hEA))) _
  · exact Nat.le_trans e2 (Nat.le_add_right _ _)

theorem opsFrom_size_C3 {chunk start : Nat} {rs : List Record} {op : JOp}
    (h : op ∈ opsFrom chunk start rs) : op.seg.size = (encRecord op.r).length := by
  induction rs generalizing start with
  | nil => cases h
  | cons r rs ih =>
    simp only [opsFrom, List.mem_cons] at h
    rcases h with e | e
    · subst e; rfl
    · exact ih e

theorem allOps_size_pos_C3 (s : Store) (jc : List (Closed × List Record)) (jo : List Record) :
    ∀ op ∈ allOps s jc jo, 0 < op.seg.size := by
  intro op hop
  have : ∃ chunk start rs, op ∈ opsFrom chunk start rs := by
    rcases List.mem_append.mp hop with h | h
    · obtain ⟨p, _, hp⟩ := mem_flatOps.mp h
      exact ⟨_, _, _, hp⟩
    · exact ⟨_, _, _, h⟩
  obtain ⟨chunk, start, rs, h⟩ := this
  rw [opsFrom_size_C3 h]
  exact encRecord_length_pos _

theorem RepG.journal_end_C3 {s : Store} {fs : Fs} {w : Worker} {jc : List (Closed × List Record)}
    {jo : List Record} (g : RepG s fs w jc jo) (hj : JInv s fs w) :
    s.jstart + sizeSum (allOps s jc jo) = s.openEnd := by
  have h1 := liveChunks_start_C3 g hj
  have h3 := g.openRecs.lastOff_eq
  rw [allOps, sizeSum_append, chunkOps, sizeSum_opsFrom_eq_C3]
  simp only [Store.openEnd, Store.openId] at h1 h3 ⊢
  omega

theorem jstart_rotate_C3 {s s' : Store} (hclosed : s'.closed = s.closed ++ [⟨s.openOffsets, s.st⟩]) :
    s'.jstart = s.jstart := by
  unfold Store.jstart
  rw [hclosed]
  cases s.closed with
  | nil => rfl
  | cons c rest => rfl

theorem mirrors_full_C3 {s : Store} {fs : Fs} {w : Worker} {jc : List (Closed × List Record)}
    {jo : List Record} {r : RefLog} {W : List Op} (g : RepG s fs w jc jo) (hst : s.st = r.state)
    (hlog : logKeys s.log = entKeys r.entries) (hrun : RefLog.run {} W = some r) :
    Mirrors (allOps s jc jo) W := by
  obtain ⟨k1, k2⟩ := g.flat_run
  exact ⟨r, hrun, by rw [k1, hst], s.log, k2, hlog⟩

end RaftLog
