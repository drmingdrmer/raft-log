/-
What the events of worker steps and runs show: acknowledgements come out in callback-queue
order, each at most once (all of them, positively, on the all-ok run); unlinks come out in list order.
-/
import RaftLogModel.Proofs.WorkerTerm
namespace RaftLog

@[simp] theorem cbsOf_nil : cbsOf [] = [] := rfl
@[simp] theorem cbsOf_append (a b : List Ev) : cbsOf (a ++ b) = cbsOf a ++ cbsOf b := by
  simp [cbsOf]
@[simp] theorem unlinksOf_nil : unlinksOf [] = [] := rfl
@[simp] theorem unlinksOf_append (a b : List Ev) : unlinksOf (a ++ b) = unlinksOf a ++ unlinksOf b := by
  simp [unlinksOf]

@[simp] theorem cbsOf_cbEvs (l : List (Nat × Bool)) : cbsOf (cbEvs l) = l := by
  induction l with
  | nil => rfl
  | cons p l ih =>
    simp only [cbEvs, List.map_cons, cbsOf, List.filterMap_cons] at *
    rw [ih]
@[simp] theorem unlinksOf_cbEvs (l : List (Nat × Bool)) : unlinksOf (cbEvs l) = [] := by
  induction l with
  | nil => rfl
  | cons p l ih =>
    simp only [cbEvs, List.map_cons, unlinksOf, List.filterMap_cons] at *
    rw [ih]

theorem cbsOf_misc (l : List Ev) (h : ∀ e ∈ l, e.isMisc = true) : cbsOf l = [] := by
  apply filterMap_eq_nil_of_forall
  intro e he
  have := h e he
  cases e <;> first | rfl | cases this

theorem unlinksOf_misc (l : List Ev) (h : ∀ e ∈ l, e.isMisc = true) : unlinksOf l = [] := by
  apply filterMap_eq_nil_of_forall
  intro e he
  have := h e he
  cases e <;> first | rfl | cases this

theorem mem_cbsOf {evs : List Ev} {i : Nat} {ok : Bool} : (i, ok) ∈ cbsOf evs ↔ Ev.cb i ok ∈ evs := by
  simp only [cbsOf, List.mem_filterMap]
  constructor
  · rintro ⟨e, he, h⟩
    cases e <;> simp_all
  · intro h; exact ⟨_, h, rfl⟩

theorem mem_unlinksOf {evs : List Ev} {i : Nat} {ok : Bool} :
    (i, ok) ∈ unlinksOf evs ↔ ∃ t, Ev.unlink t i ok ∈ evs := by
  simp only [unlinksOf, List.mem_filterMap]
  constructor
  · rintro ⟨e, he, h⟩
    cases e <;> simp_all
    exact ⟨_, he⟩
  · rintro ⟨t, h⟩; exact ⟨_, h, rfl⟩

def stepUnlinks (c : WCtx) (out : Outcome) : List (Nat × Bool) :=
  match c.w.pc with
  | .unlinking (i :: _) => [(i, out != .eio)]
  | _ => []

/-- A projection of the events that forgets `write`s and `sync`s sees of a step's system call only the
`unlink` of the head of the list (`cbsOf`, `unlinksOf`, `resolvedC4S` are such projections). -/
theorem stepSys_filterMap {α} (f : Ev → Option α) (hw : ∀ t i b o, f (.write t i b o) = none)
    (hs : ∀ t i o, f (.sync t i o) = none) (c : WCtx) (out : Outcome) :
    (stepSys c out).filterMap f =
      match c.w.pc with
      | .unlinking (i :: _) => (f (.unlink "w" i (out != .eio))).toList
      | _ => [] := by
  unfold stepSys
  cases hpc : c.w.pc with
  | writing todo b t =>
    cases todo with
    | nil => rfl
    | cons d rest =>
      cases out with
      | ok | eio => simp [hw]
      | short k =>
        dsimp only
        generalize (if k = 0 then 1 else k) = k'
        split <;> simp [hw]
  | syncOld b t | syncNew b t => cases c.w.files <;> simp [hs]
  | unlinking ids =>
    cases ids with
    | nil => rfl
    | cons i rest => cases h : f (.unlink "w" i (out != .eio)) <;> simp [h]
  | dead | idle | got r => rfl

theorem cbsOf_stepSys (c : WCtx) (out : Outcome) : cbsOf (stepSys c out) = [] := by
  rw [cbsOf, stepSys_filterMap _ (fun _ _ _ _ => rfl) (fun _ _ _ => rfl)]
  split <;> rfl

theorem unlinksOf_stepSys (c : WCtx) (out : Outcome) : unlinksOf (stepSys c out) = stepUnlinks c out := by
  rw [unlinksOf, stepSys_filterMap _ (fun _ _ _ _ => rfl) (fun _ _ _ => rfl), stepUnlinks]
  split <;> rfl

theorem WCtx.step_cbsOf (c : WCtx) (out : Outcome) (hw : c.w.WF) :
    cbsOf (c.step out).evs = cbsOf c.evs ++ stepCbs c out := by
  obtain ⟨cbs, rest, h1, h2, _, h3⟩ := c.step_trace out
  rw [h1, h3 hw]
  simp [cbsOf_stepSys, cbsOf_misc rest h2]

theorem WCtx.step_unlinksOf (c : WCtx) (out : Outcome) :
    unlinksOf (c.step out).evs = unlinksOf c.evs ++ stepUnlinks c out := by
  obtain ⟨cbs, rest, h1, h2, _⟩ := c.step_trace out
  rw [h1]
  simp [unlinksOf_stepSys, unlinksOf_misc rest h2]

theorem mem_step_evs_unlink {c : WCtx} {out : Outcome} {th : String} {i : Nat} {ok : Bool}
    (h : Ev.unlink th i ok ∈ (c.step out).evs) :
    Ev.unlink th i ok ∈ c.evs ∨ Ev.unlink th i ok ∈ stepSys c out := by
  obtain ⟨cbs, rest, h1, h2, _⟩ := c.step_trace out
  rw [h1] at h
  simp only [List.mem_append] at h
  rcases h with ((h | h) | h) | h
  · exact .inl h
  · exact .inr h
  · simp [cbEvs] at h
  · have := h2 _ h; cases this

theorem mem_stepSys_unlink {c : WCtx} {out : Outcome} {th : String} {i : Nat} {ok : Bool}
    (h : Ev.unlink th i ok ∈ stepSys c out) :
    ∃ rest, c.w.pc = .unlinking (i :: rest) ∧ th = "w" ∧ ok = (out != .eio) := by
  have h1 : (i, ok) ∈ unlinksOf (stepSys c out) := mem_unlinksOf.mpr ⟨th, h⟩
  rw [unlinksOf_stepSys] at h1
  unfold stepUnlinks at h1
  split at h1
  · rename_i j rest hpc
    simp only [List.mem_singleton, Prod.mk.injEq] at h1
    obtain ⟨rfl, rfl⟩ := h1
    refine ⟨rest, hpc, ?_, rfl⟩
    simp only [stepSys, hpc, List.mem_singleton, Ev.unlink.injEq] at h
    exact h.1
  · cases h1

theorem mem_stepCbs_true {c : WCtx} {out : Outcome} {i : Nat} (h : (i, true) ∈ stepCbs c out) :
    ∃ b t, c.w.pc = .syncNew b t ∧ out ≠ .eio ∧ i ∈ b.filterMap WReq.cbId := by
  unfold stepCbs at h
  cases hpc : c.w.pc with
  | syncNew b t =>
    simp only [hpc, batchCbs, List.mem_map, Prod.mk.injEq] at h
    obtain ⟨j, hj, rfl, ho⟩ := h
    exact ⟨b, t, rfl, by simpa using ho, hj⟩
  | syncOld b t =>
    simp only [hpc] at h
    split at h
    · simp [batchCbs] at h
    · cases h
  | _ => simp [hpc] at h

theorem WCtx.step_ack (c : WCtx) (out : Outcome) (i : Nat) (hw : c.w.WF)
    (hnew : Ev.cb i true ∉ c.evs) (h : Ev.cb i true ∈ (c.step out).evs) :
    ∃ b t, c.w.pc = .syncNew b t ∧ out ≠ .eio ∧ i ∈ b.filterMap WReq.cbId := by
  have h1 := mem_cbsOf.mpr h
  rw [c.step_cbsOf out hw, List.mem_append] at h1
  exact h1.elim (fun h1 => absurd (mem_cbsOf.mp h1) hnew) mem_stepCbs_true

@[simp] theorem WCtx.runOuts_nil (c : WCtx) : c.runOuts [] = c := rfl
@[simp] theorem WCtx.runOuts_cons (c : WCtx) (o : Outcome) (outs : List Outcome) :
    c.runOuts (o :: outs) = (c.step o).runOuts outs := rfl

theorem WCtx.runOuts_dead (c : WCtx) (outs : List Outcome) (h : c.w.pc = .dead) : c.runOuts outs = c :=
  WCtx.runOuts_induct (P := (· = c)) (C := fun _ => True) (fun _ o _ e => e ▸ c.step_dead o h) rfl
    fun _ _ => trivial

theorem WCtx.runOuts_wf (c : WCtx) (outs : List Outcome) (h : c.w.WF) : (c.runOuts outs).w.WF :=
  WCtx.runOuts_induct (C := fun _ => True) (fun c o _ h => c.step_wf o h) h fun _ _ => trivial

theorem stepCbs_of_dies {c : WCtx} {out : Outcome} (h : c.dies out = true) : stepCbs c out = [] := by
  obtain ⟨_, ⟨d, rest, b, t, hpc⟩ | ⟨i, rest, hpc⟩⟩ := WCtx.dies_cases h <;> simp [stepCbs, hpc]

theorem WCtx.runOuts_cbs_prefix (c : WCtx) (outs : List Outcome) (hw : c.w.WF) :
    ∃ l, cbsOf (c.runOuts outs).evs = cbsOf c.evs ++ l ∧ l.map Prod.fst <+: cbQueue c.w := by
  induction outs generalizing c with
  | nil => exact ⟨[], by simp, List.nil_prefix⟩
  | cons o outs ih =>
    rw [WCtx.runOuts_cons]
    cases hd : c.dies o with
    | true =>
      rw [WCtx.runOuts_dead _ _ (by rw [(c.step_dies o hd).1])]
      exact ⟨[], by rw [c.step_cbsOf o hw, stepCbs_of_dies hd], List.nil_prefix⟩
    | false =>
      obtain ⟨l, h1, h2⟩ := ih (c.step o) (c.step_wf o hw)
      refine ⟨stepCbs c o ++ l, by rw [h1, c.step_cbsOf o hw, List.append_assoc], ?_⟩
      rw [c.step_cbQueue o hw hd, List.map_append]
      exact (List.prefix_append_right_inj _).mpr h2

theorem stepCbs_true (c : WCtx) (out : Outcome) (ho : out ≠ .eio) : ∀ p ∈ stepCbs c out, p.2 = true := by
  intro p hp
  unfold stepCbs at hp
  split at hp
  · have ho' : (out != Outcome.eio) = true := by simpa using ho
    simp [batchCbs, ho'] at hp; obtain ⟨_, _, rfl⟩ := hp; rfl
  · simp [ho] at hp
  · cases hp

theorem WCtx.dies_noEio (c : WCtx) (out : Outcome) (ho : out ≠ .eio) : c.dies out = false := by
  cases h : c.dies out with
  | false => rfl
  | true => exact absurd (WCtx.dies_cases h).1 ho

theorem WCtx.dies_ok (c : WCtx) : c.dies .ok = false := c.dies_noEio .ok (by simp)

theorem stepCbs_ok_true (c : WCtx) : ∀ p ∈ stepCbs c .ok, p.2 = true := stepCbs_true c .ok (by simp)

theorem cbQueue_dead {w : Worker} (hw : w.WF) (hp : w.pc = .dead) : cbQueue w = [] := by
  simp [cbQueue, hp, WPc.batch, hw.dead_queue hp]

theorem cbQueue_of_quiet {w : Worker} (hw : w.WF) (hq : w.quiet = true) : cbQueue w = [] := by
  rcases Worker.quiet_cases hq with ⟨hpc, hqe⟩ | hpc
  · simp [cbQueue, hpc, WPc.batch, hqe]
  · exact cbQueue_dead hw hpc

theorem WCtx.runQuiet_cbs (n : Nat) (c : WCtx) (hw : c.w.WF) :
    ∃ l, cbsOf (WCtx.runQuiet n c).evs = cbsOf c.evs ++ l ∧
      l.map Prod.fst ++ cbQueue (WCtx.runQuiet n c).w = cbQueue c.w ∧ ∀ p ∈ l, p.2 = true := by
  refine (WCtx.runQuiet_induct_wf (P := fun c' => ∃ l, cbsOf c'.evs = cbsOf c.evs ++ l ∧
    l.map Prod.fst ++ cbQueue c'.w = cbQueue c.w ∧ ∀ p ∈ l, p.2 = true) ?_ n c hw ⟨[], by simp⟩).2
  rintro c' hw' ⟨l, h1, h2, h3⟩
  refine ⟨l ++ stepCbs c' .ok, by rw [c'.step_cbsOf .ok hw', h1, List.append_assoc], ?_, ?_⟩
  · rw [List.map_append, List.append_assoc, ← c'.step_cbQueue .ok hw' c'.dies_ok, h2]
  · exact fun p hp => (List.mem_append.mp hp).elim (h3 p) (stepCbs_ok_true c' p)

theorem map_fst_all_true {l : List (Nat × Bool)} (h : ∀ p ∈ l, p.2 = true) :
    l = (l.map Prod.fst).map fun i => (i, true) := by
  induction l with
  | nil => rfl
  | cons p l ih =>
    have h1 := h p (by simp)
    have h2 := ih (fun q hq => h q (by simp [hq]))
    obtain ⟨i, ok⟩ := p
    simp only at h1
    subst h1
    simp only [List.map_cons]
    rw [← h2]

theorem WCtx.runQuiet_wf (n : Nat) (c : WCtx) (hw : c.w.WF) : (WCtx.runQuiet n c).w.WF :=
  WCtx.runQuiet_induct (P := fun c => c.w.WF) (fun c hc => c.step_wf .ok hc) n c hw

theorem WCtx.runQuiet_cbs_exact (n : Nat) (c : WCtx) (hw : c.w.WF) (hn : c.w.drainCost ≤ n) :
    cbsOf (WCtx.runQuiet n c).evs = cbsOf c.evs ++ (cbQueue c.w).map fun i => (i, true) := by
  obtain ⟨l, h1, h2, h3⟩ := WCtx.runQuiet_cbs n c hw
  rw [cbQueue_of_quiet (WCtx.runQuiet_wf n c hw) (WCtx.runQuiet_quiet n c hn), List.append_nil] at h2
  rw [h1, ← h2, ← map_fst_all_true h3]

theorem stepUnlinks_of_not_unlinking {c : WCtx} {out : Outcome} (h : ∀ ids, c.w.pc ≠ .unlinking ids) :
    stepUnlinks c out = [] := by
  unfold stepUnlinks
  split
  · rename_i i rest hpc; exact absurd hpc (h _)
  · rfl

theorem WCtx.runOuts_unlinking (c : WCtx) (ids : List Nat) (outs : List Outcome)
    (hpc : c.w.pc = .unlinking ids) (hlen : outs.length = ids.length) (hok : ∀ o ∈ outs, o ≠ .eio) :
    unlinksOf (c.runOuts outs).evs = unlinksOf c.evs ++ ids.map fun i => (i, true) := by
  induction ids generalizing c outs with
  | nil =>
    cases outs with
    | nil => simp
    | cons _ _ => simp at hlen
  | cons i rest ih =>
    cases outs with
    | nil => simp at hlen
    | cons o outs =>
      have ho : o ≠ .eio := hok o (by simp)
      have ho' : (o != Outcome.eio) = true := by simpa using ho
      rw [WCtx.runOuts_cons]
      have hstep : unlinksOf (c.step o).evs = unlinksOf c.evs ++ [(i, true)] := by
        rw [c.step_unlinksOf o]; simp [stepUnlinks, hpc, ho']
      cases rest with
      | nil =>
        have : outs = [] := by simpa using hlen
        subst this
        simp [hstep]
      | cons j rest =>
        have hpc' : (c.step o).w.pc = .unlinking (j :: rest) := by rw [WCtx.step_ulMore hpc ho]; rfl
        rw [ih (c.step o) outs hpc' (by simpa using hlen) (fun o' h' => hok o' (by simp [h'])), hstep]
        simp

end RaftLog
