/-
C03: the durability invariant `DInv` under the caller-thread steps (journalling a record, chunk
rotation, purge, flush).
-/
import RaftLogModel.Proofs.CrashDurInv
namespace RaftLog

theorem WU.push {s : Store} {fs fs' : Fs} {w : Worker} (h : WU fs w) (hj : JInv s fs w)
    (q : List WReq)
    (hfd : ∀ n ∈ w.announced, (fdata fs' n).length = (fdata fs n).length)
    (hids : ∀ i ∈ Fs.ids fs', i ∈ Fs.ids fs ∨ i ∈ annIds q)
    (hq : uptoOK fs' s.openId ((fdata fs s.openId).length + (w.inflight s.openId).length) q) :
    WU fs' (w.push q) := by
  have hcurfd : (fdata fs' w.cur).length = (fdata fs w.cur).length :=
    hfd _ List.mem_cons_self
  have hrestfd : ∀ n ∈ annIds w.rest, (fdata fs' n).length = (fdata fs n).length :=
    fun n hn => hfd n (by simp [Worker.announced, hn])
  have hlast : lastAnn w.cur w.rest = s.openId := by
    have h1 := lastAnn_getLast w.cur w.rest
    have h2 := hj.annLast
    rw [Worker.announced] at h2
    rw [h2] at h1
    exact (Option.some.inj h1).symm
  have hend : endBase fs' w.cur ((fdata fs' w.cur).length + w.pc.todoBytes.length) w.rest
      = (s.openId, (fdata fs s.openId).length + (w.inflight s.openId).length) := by
    rw [endBase_congr w.rest _ _ hrestfd, hcurfd, endBase_infl fs w.rest w.cur w.pc.todoBytes hj.annAsc,
      hlast]
    rfl
  refine ⟨?_, ?_, ?_⟩
  · show uptoOK fs' w.cur ((fdata fs' w.cur).length + w.pc.todoBytes.length) (w.push q).rest
    rw [Worker.push_rest, uptoOK_append, hend]
    refine ⟨?_, hq⟩
    rw [hcurfd, uptoOK_congr w.rest _ _ hrestfd]
    exact h.u1
  · intro r hr
    have := h.u2 r hr
    show r.upto ≤ w.cur + (fdata fs' w.cur).length + w.pc.todoBytes.length
    rw [hcurfd]; exact this
  · intro i hi hlt
    show i ∈ annIds (w.push q).rest
    rw [Worker.push_rest, annIds_append]
    rcases hids i hi with k | k
    · exact List.mem_append_left _ (h.u3 i k hlt)
    · exact List.mem_append_right _ k

theorem DInv.of_chunks {s s2 : Store} {fs : Fs} {w : Worker} {A : Nat} (h : DInv s fs w A)
    (ha2 : A ≤ s2.openEnd)
    (hch : ∀ offs ∈ s2.chunks, ∃ offs0 ∈ s.chunks, offs0.headD 0 = offs.headD 0 ∧
      min (lastOff offs - offs.headD 0) (A - offs.headD 0)
        ≤ min (lastOff offs0 - offs0.headD 0) (A - offs0.headD 0)) : DInv s2 fs w A := by
  refine ⟨h.wu, h.a1, ha2, fun offs ho => ?_, fun offs ho f hf => ?_⟩
  · obtain ⟨offs0, h0, e, hle⟩ := hch offs ho
    rw [← e] at hle ⊢
    exact Nat.le_trans hle (h.dw offs0 h0)
  · obtain ⟨offs0, h0, e, hle⟩ := hch offs ho
    rw [← e] at hf
    exact Nat.le_trans hle (h.dd offs0 h0 f hf)

theorem DInv.of_fields {s s2 : Store} {fs : Fs} {w : Worker} {A : Nat} (h : DInv s fs w A)
    (h3 : s2.openOffsets = s.openOffsets) (h5 : s2.closed = s.closed) : DInv s2 fs w A := by
  have e1 : s2.chunks = s.chunks := by simp only [Store.chunks, h3, h5]
  refine h.of_chunks (by rw [Store.openEnd, h3]; exact h.a2) fun offs ho => ?_
  exact ⟨offs, e1 ▸ ho, rfl, Nat.le_refl _⟩

theorem DInv.journal {s s3 : Store} {fs : Fs} {w : Worker} {A x : Nat} (h : DInv s fs w A)
    (hj : JInv s fs w) (hoff : s3.openOffsets = s.openOffsets ++ [x]) (hx : s.openEnd ≤ x)
    (hc : s3.closed = s.closed) : DInv s3 fs w A := by
  have hhd : (s.openOffsets ++ [x]).headD 0 = s.openOffsets.headD 0 :=
    headD_append_of_ne_nil hj.openBytes.ne_nil _
  have hlo : lastOff (s.openOffsets ++ [x]) = x := lastOff_append _ _
  refine h.of_chunks (by rw [Store.openEnd, hoff, hlo]; exact Nat.le_trans h.a2 hx) fun offs ho => ?_
  simp only [Store.chunks, hc, hoff, List.mem_append, List.mem_map, List.mem_singleton] at ho
  rcases ho with ⟨c, hcm, rfl⟩ | rfl
  · exact ⟨c.offsets, List.mem_append_left _ (List.mem_map.mpr ⟨c, hcm, rfl⟩), rfl, Nat.le_refl _⟩
  · refine ⟨s.openOffsets, List.mem_append_right _ (List.mem_singleton.mpr rfl), hhd.symm, ?_⟩
    rw [hhd, hlo]
    exact min_sub_le_min_sub h.a2

theorem DInv.dropClosed {s s2 : Store} {fs : Fs} {w : Worker} {A : Nat} (h : DInv s fs w A)
    (pre : List Closed) (h3 : s2.openOffsets = s.openOffsets) (h5 : s.closed = pre ++ s2.closed) :
    DInv s2 fs w A := by
  refine h.of_chunks (by rw [Store.openEnd, h3]; exact h.a2) fun offs ho => ⟨offs, ?_, rfl, Nat.le_refl _⟩
  simp only [Store.chunks, h5, h3, List.map_append, List.mem_append, List.mem_map,
    List.mem_singleton] at ho ⊢
  rcases ho with ⟨c, hc, rfl⟩ | rfl
  · exact Or.inl (Or.inr ⟨c, hc, rfl⟩)
  · exact Or.inr rfl

theorem DInv.rotate {s : Store} {fs : Fs} {w : Worker} {A : Nat} (h : DInv s fs w A) (hj : JInv s fs w) :
    DInv s.rotated (effFs (rotateEffs s) fs) (w.push (effQ (rotateEffs s))) A := by
  have hfd_ne : ∀ i, i ≠ s.openEnd → fdata (effFs (rotateEffs s) fs) i = fdata fs i :=
    fun _ hi => fdata_rotate_ne s fs hi
  have hfind_ne : ∀ i, i ≠ s.openEnd → (effFs (rotateEffs s) fs).find i = fs.find i :=
    fun _ hi => Fs.find_rotate_ne s fs hi
  have hids3 := fun i => (Fs.ids_rotate s fs i).1
  have e2 : s.rotated.openEnd = s.openEnd + (encRecord (.state s.st)).length := rfl
  have hchunks : s.rotated.chunks = s.chunks ++ [[s.openEnd, s.openEnd + (encRecord (.state s.st)).length]] := by
    simp [Store.chunks]
  rw [effQ_rotateEffs]
  generalize effFs (rotateEffs s) fs = fs' at *
  generalize hN : s.openEnd = newId at *
  have hlt : s.openId < newId := by rw [← hN]; exact hj.openId_lt
  have ha2 : A ≤ newId := by rw [← hN]; exact h.a2
  have hnew_notin : newId ∉ Fs.ids fs := by
    intro hm; have := hj.fsLt _ hm; omega
  have hann_ne : ∀ n ∈ w.announced, n ≠ newId := by
    intro n hn e
    have := hj.ann_le n hn
    omega
  have htot : newId = s.openId + ((fdata fs s.openId).length + (w.inflight s.openId).length)
      + s.pending.length := hN ▸ hj.openEnd_eq
  have hwu : WU fs' (w.push ((if s.pending.isEmpty then [] else [.write newId s.pending none]) ++
      [.appendFile newId s.st.last])) := by
    apply h.wu.push hj
    · intro n hn; rw [hfd_ne n (hann_ne n hn)]
    · intro i hi
      rcases hids3 i hi with k | k
      · exact Or.inl k
      · right
        rw [k, annIds_append]
        simp [annIds]
    · by_cases hp : s.pending.isEmpty = true
      · have hp' : s.pending = [] := by simpa using hp
        rw [hp'] at htot
        simp only [hp, if_true, List.nil_append, uptoOK, and_true]
        simpa using htot
      · simp only [hp, Bool.false_eq_true, if_false, List.cons_append, List.nil_append, uptoOK,
          and_true]
        omega
  -- a live chunk of `s.rotated` is a chunk of `s`, whose file is untouched, or the new chunk beyond `A`
  have hsplit : ∀ offs ∈ s.rotated.chunks, (offs ∈ s.chunks ∧ offs.headD 0 ≠ newId) ∨ offs.headD 0 = newId := by
    intro offs ho
    rw [hchunks] at ho
    rcases List.mem_append.mp ho with k | k
    · exact Or.inl ⟨k, fun e => hnew_notin (e ▸ hj.live_ids_C3 offs k)⟩
    · rw [List.mem_singleton.mp k]; exact Or.inr rfl
  refine ⟨hwu, ?_, by rw [e2]; exact Nat.le_trans ha2 (Nat.le_add_right _ _), ?_, ?_⟩
  · intro i hi
    rw [Worker.push_rest, annIds_append] at hi
    rcases List.mem_append.mp hi with k | k
    · exact h.a1 i k
    · have : i = newId := by
        rw [annIds_append] at k
        by_cases hp : s.pending.isEmpty = true <;> simpa [hp, annIds] using k
      rw [this]; exact ha2
  · intro offs ho
    rcases hsplit offs ho with ⟨k, hne⟩ | e
    · rw [hfd_ne _ hne]; exact h.dw offs k
    · rw [e]; exact min_sub_zero_le ha2
  · intro offs ho f hf
    rcases hsplit offs ho with ⟨k, hne⟩ | e
    · rw [hfind_ne _ hne] at hf; exact h.dd offs k f hf
    · rw [e]; exact min_sub_zero_le ha2

theorem DInv.tryCloseFull {s s' : Store} {fs : Fs} {w : Worker} {fsHas : Nat → Bool} {effs : List Eff}
    {A : Nat} (h : DInv s fs w A) (hj : JInv s fs w)
    (heq : s.tryCloseFull fsHas = (.ok (), s', effs)) :
    DInv s' (effFs effs fs) (w.push (effQ effs)) A := by
  rcases s.tryCloseFull_outcomes fsHas with ⟨_, e⟩ | ⟨_, _, e⟩ | ⟨_, _, e⟩ <;> rw [e] at heq <;> cases heq
  · simpa [effFs, effQ] using h
  · exact h.rotate hj

theorem DInv.flush {s : Store} {fs : Fs} {w : Worker} {A : Nat} (h : DInv s fs w A)
    (hj : JInv s fs w) (cb : Option Nat) :
    DInv (s.flush cb).1 (effFs (s.flush cb).2 fs) (w.push (effQ (s.flush cb).2)) A := by
  have htot := hj.openEnd_eq
  rw [effFs_flush, effQ_flush]
  have hwu : WU fs (w.push ([.write s.openEnd s.pending cb] ++
      (if s.removed.isEmpty then [] else [.removeChunks s.removed]))) := by
    apply h.wu.push hj
    · intro n _; rfl
    · intro i hi; exact Or.inl hi
    · -- the `write` ends at the journal end; a removal request carries no position
      by_cases hr : s.removed.isEmpty = true
      · simp only [hr, if_true, List.append_nil, uptoOK, and_true]
        omega
      · simp only [hr, Bool.false_eq_true, if_false, List.cons_append, List.nil_append, uptoOK, and_true]
        omega
  have hd : DInv (s.flush cb).1 fs w A := h.of_fields rfl rfl
  refine ⟨hwu, ?_, hd.a2, hd.dw, hd.dd⟩
  intro i hi
  rw [Worker.push_rest, annIds_append] at hi
  rcases List.mem_append.mp hi with k | k
  · exact h.a1 i k
  · exfalso
    by_cases hr : s.removed.isEmpty = true <;> simp [hr, annIds] at k

theorem DInv.settle {s : Store} {fs : Fs} {w : Worker} {A : Nat} (h : DInv s fs w A) :
    DInv s fs w.settle A := by
  have k1 := w.settle_rest
  have k2 := w.settle_files
  have k3 := w.settle_todoBytes
  have hcur := w.settle_cur
  refine ⟨⟨?_, ?_, ?_⟩, by rw [k1]; exact h.a1, h.a2, h.dw, h.dd⟩
  · rw [hcur, k1, k3]; exact h.wu.u1
  · rw [hcur, k3, Worker.settle_batchW]; exact h.wu.u2
  · rw [hcur, k1]; exact h.wu.u3

end RaftLog
