/-
What the caller thread does, said once: an accepted record is journalled and applied (`Store.applied`), then the
open chunk is closed if it is full (`Store.closeFull`); an accepted purge hands the obsolete closed chunks to the
removal list (`Store.popped`); the effects reach the files through `effFs` and the worker's queue through `effQ`.
A property kept by these moves (`Moves`, `CallerInv`) is kept by every call, for any `fsHas` and whatever the call
returns (`Moves.call`, `CallerInv.call`); what a call returns is a matter of the store alone (`call_growth`,
`appendAndApply_accepted`).
-/
import RaftLogModel.Proofs.StoreBasic
import RaftLogModel.Proofs.Parse
import RaftLogModel.Proofs.FsBasic
import RaftLogModel.Model.Sys
namespace RaftLog

theorem lastOff_append (l : List Nat) (x : Nat) : lastOff (l ++ [x]) = x := by
  simp [lastOff]

theorem headD_append_of_ne_nil {l : List Nat} (h : l ≠ []) (x : List Nat) :
    (l ++ x).headD 0 = l.headD 0 := by
  cases l with
  | nil => exact absurd rfl h
  | cons a as => rfl

/-- The store after journalling and applying `r` (new state `st'`), before the
rotation check. -/
def Store.applied (s : Store) (r : Record) (st' : RState) : Store :=
  { s with pending := s.pending ++ encRecord r,
           openOffsets := s.openOffsets ++ [s.openEnd + (encRecord r).length],
           log := idxLog r s.openId ⟨s.openEnd, (encRecord r).length⟩ s.log,
           cache := idxCache r s.cache, st := st' }

theorem Store.openId_of_snoc {s s3 : Store} {x : Nat} (hne : s.openOffsets ≠ [])
    (hoff : s3.openOffsets = s.openOffsets ++ [x]) : s3.openId = s.openId := by
  simp only [Store.openId, hoff]; exact headD_append_of_ne_nil hne _

theorem Store.applied_openId {s : Store} {r : Record} {st' : RState} (hne : s.openOffsets ≠ []) :
    (s.applied r st').openId = s.openId :=
  Store.openId_of_snoc hne rfl

theorem Store.applied_openEnd (s : Store) (r : Record) (st' : RState) :
    (s.applied r st').openEnd = s.openEnd + (encRecord r).length := by
  simp [Store.applied, Store.openEnd, lastOff_append]

theorem Store.journalled_openEnd (s : Store) (r : Record) :
    (s.journalled r).openEnd = s.openEnd + (encRecord r).length := by
  simp [Store.openEnd, lastOff_append]

theorem Store.rotated_openEnd (s : Store) :
    s.rotated.openEnd = s.openEnd + (encRecord (.state s.st)).length := rfl

/-- `Store.applied` with the chunk id `c` in the new index entry. `append_and_apply` reads the chunk id
after journalling: it is `s.openId` unless the open chunk has no offsets at all (`Store.journalled_openId`). -/
def Store.appliedAt (c : Nat) (s : Store) (r : Record) (st' : RState) : Store :=
  { s with pending := s.pending ++ encRecord r,
           openOffsets := s.openOffsets ++ [s.openEnd + (encRecord r).length],
           log := idxLog r c ⟨s.openEnd, (encRecord r).length⟩ s.log,
           cache := idxCache r s.cache, st := st' }

theorem Store.applied_eq_appliedAt (s : Store) (r : Record) (st' : RState) :
    s.applied r st' = s.appliedAt s.openId r st' := rfl

theorem Store.journalled_openId {s : Store} (r : Record) (hne : s.openOffsets ≠ []) :
    (s.journalled r).openId = s.openId :=
  Store.openId_of_snoc hne rfl

theorem Store.appliedAt_of_indexed {s s2 : Store} {r : Record} (st' : RState)
    (h : s.indexed r = some s2) : { s2 with st := st' } = s.appliedAt (s.journalled r).openId r st' := by
  rw [applyIndex_some h]
  rfl

theorem Store.applied_of_indexed {s s2 : Store} {r : Record} (st' : RState) (hne : s.openOffsets ≠ [])
    (h : s.indexed r = some s2) : { s2 with st := st' } = s.applied r st' := by
  rw [Store.appliedAt_of_indexed st' h, s.journalled_openId r hne]
  rfl

def Store.popped (s : Store) (upto : LogId) : Store :=
  { s with closed := (popObsolete upto s.closed).2,
           removed := s.removed ++ (popObsolete upto s.closed).1 }

/-- `try_close_full_chunk` when `create_new` succeeds: the store and the effects. -/
def Store.closeFull (s : Store) : Store × List Eff :=
  if s.isOpenFull then (s.rotated, rotateEffs s) else (s, [])

theorem Store.closeFull_of_not_full {s : Store} (h : s.isOpenFull = false) : s.closeFull = (s, []) := by
  simp [Store.closeFull, h]

theorem Store.closeFull_of_full {s : Store} (h : s.isOpenFull = true) :
    s.closeFull = (s.rotated, rotateEffs s) := by
  simp [Store.closeFull, h]

theorem Store.closeFull_store {I : Store → Prop} (rotated : ∀ {s}, I s → I s.rotated) {s : Store}
    (h : I s) : I s.closeFull.1 := by
  unfold Store.closeFull
  split
  · exact rotated h
  · exact h

theorem mem_rotateEffs_create {s : Store} {i : Nat} (h : Eff.create i ∈ rotateEffs s) :
    i = s.openEnd := by
  unfold rotateEffs at h
  split at h <;> simpa using h

/-- What `applyEffs` does to the files and (`effQ`, `Worker.push`) to the queue of a live worker: `applyEffs_live`. -/
def effFs : List Eff → Fs → Fs
  | [], fs => fs
  | .create id :: r, fs => effFs r (fs.create id)
  | .createFailed _ :: r, fs => effFs r fs
  | .writeHead id bs :: r, fs => effFs r (fs.write id bs)
  | .send _ :: r, fs => effFs r fs

def effQ : List Eff → List WReq
  | [] => []
  | .create _ :: r => effQ r
  | .createFailed _ :: r => effQ r
  | .writeHead _ _ :: r => effQ r
  | .send q :: r => q :: effQ r

def Worker.push (w : Worker) (q : List WReq) : Worker := { w with queue := w.queue ++ q }

@[simp] theorem Worker.push_nil (w : Worker) : w.push [] = w := by simp [Worker.push]
theorem Worker.push_push (w : Worker) (a b : List WReq) : (w.push a).push b = w.push (a ++ b) := by
  simp [Worker.push]
@[simp] theorem Worker.push_pc (w : Worker) (q : List WReq) : (w.push q).pc = w.pc := rfl
@[simp] theorem Worker.push_files (w : Worker) (q : List WReq) : (w.push q).files = w.files := rfl

theorem effFs_append (a b : List Eff) (fs : Fs) : effFs (a ++ b) fs = effFs b (effFs a fs) := by
  induction a generalizing fs with
  | nil => rfl
  | cons e r ih => cases e <;> simp [effFs, ih]

theorem effQ_append (a b : List Eff) : effQ (a ++ b) = effQ a ++ effQ b := by
  induction a with
  | nil => rfl
  | cons e r ih => cases e <;> simp [effQ, ih]

theorem effFs_rotateEffs (s : Store) (fs : Fs) :
    effFs (rotateEffs s) fs = (fs.create s.openEnd).write s.openEnd (encRecord (.state s.st)) := by
  unfold rotateEffs
  split <;> rfl

theorem effQ_rotateEffs (s : Store) :
    effQ (rotateEffs s) = (if s.pending.isEmpty then [] else [.write s.openEnd s.pending none]) ++
      [.appendFile s.openEnd s.st.last] := by
  unfold rotateEffs
  split <;> rfl

theorem effFs_flush (s : Store) (cb : Option Nat) (fs : Fs) : effFs (s.flush cb).2 fs = fs := by
  unfold Store.flush
  by_cases hr : s.removed.isEmpty = true <;> simp [hr, effFs]

theorem effQ_flush (s : Store) (cb : Option Nat) :
    effQ (s.flush cb).2 = [.write s.openEnd s.pending cb] ++
      (if s.removed.isEmpty then [] else [.removeChunks s.removed]) := by
  unfold Store.flush
  by_cases hr : s.removed.isEmpty = true <;> simp [hr, effQ]

theorem Fs.ids_rotate (s : Store) (fs : Fs) (i : Nat) :
    i ∈ Fs.ids (effFs (rotateEffs s) fs) ↔ i ∈ Fs.ids fs ∨ i = s.openEnd := by
  rw [effFs_rotateEffs, Fs.ids_write]
  exact Fs.mem_ids_create fs _ i

theorem Fs.nodup_rotate (s : Store) {fs : Fs} (h : (Fs.ids fs).Nodup) :
    (Fs.ids (effFs (rotateEffs s) fs)).Nodup := by
  rw [effFs_rotateEffs, Fs.ids_write]
  exact Fs.ids_create_nodup h _

theorem Fs.has_rotate (s : Store) (fs : Fs) (i : Nat) :
    (effFs (rotateEffs s) fs).has i = (if i = s.openEnd then true else fs.has i) := by
  rw [effFs_rotateEffs, Fs.has_write, Fs.has_create]

theorem Fs.find_rotate_ne (s : Store) (fs : Fs) {i : Nat} (h : i ≠ s.openEnd) :
    (effFs (rotateEffs s) fs).find i = fs.find i := by
  rw [effFs_rotateEffs]
  exact (find_create_write fs s.openEnd _).2 i h

theorem fdata_rotate_ne (s : Store) (fs : Fs) {i : Nat} (h : i ≠ s.openEnd) :
    fdata (effFs (rotateEffs s) fs) i = fdata fs i := by
  rw [effFs_rotateEffs, fdata_write _ _ _ _ (Fs.ids_create_self fs s.openEnd), fdata_create_ne fs h,
    if_neg fun e => h e.symm, List.append_nil]

theorem fdata_rotate_self (s : Store) (fs : Fs) :
    fdata (effFs (rotateEffs s) fs) s.openEnd = encRecord (.state s.st) := by
  rw [effFs_rotateEffs, fdata_write _ _ _ _ (Fs.ids_create_self fs s.openEnd), fdata_create_self, if_pos rfl,
    List.nil_append]

theorem applyEffs_live (effs : List Eff) : ∀ (fs : Fs) (w : Worker) (evs : List Ev), w.pc ≠ .dead →
    (applyEffs effs fs w evs).1 = true ∧ (applyEffs effs fs w evs).2.1 = effFs effs fs ∧
      (applyEffs effs fs w evs).2.2.1 = w.push (effQ effs) := by
  induction effs with
  | nil => intro fs w evs _; exact ⟨rfl, rfl, by simp [applyEffs, effQ]⟩
  | cons e rest ih =>
    intro fs w evs h
    cases e with
    | create id => simp only [applyEffs, effFs, effQ]; exact ih _ _ _ h
    | createFailed id => simp only [applyEffs, effFs, effQ]; exact ih _ _ _ h
    | writeHead id bs => simp only [applyEffs, effFs, effQ]; exact ih _ _ _ h
    | send r =>
      simp only [applyEffs, effFs, effQ]
      have := ih fs { w with queue := w.queue ++ [r] } evs h
      refine ⟨this.1, this.2.1, ?_⟩
      rw [this.2.2]
      simp [Worker.push]

/-- `P s e` — the call has reached store `s` and issued the effects `e` — is kept by what the caller thread
does while it journals records with `G`. The chunk id `c` is `s.openId` as soon as the open chunk has an
offset (`Moves.of_rotated` hides it). -/
structure Moves (P : Store → List Eff → Prop) (G : Store → Record → Prop) : Prop where
  accept : ∀ {s e r st'} (c : Nat), (s.openOffsets ≠ [] → c = s.openId) → P s e → G s r →
    s.st.apply r = .ok st' →
    P (s.appliedAt c r st').closeFull.1 (e ++ (s.appliedAt c r st').closeFull.2)
  /-- the same when `create_new` fails: the record stays applied, the call returns the error -/
  failed : ∀ {s e r st'} (c : Nat), (s.openOffsets ≠ [] → c = s.openId) → P s e → G s r →
    s.st.apply r = .ok st' → (s.appliedAt c r st').isOpenFull = true →
    P (s.appliedAt c r st') (e ++ [.createFailed (s.appliedAt c r st').openEnd])
  /-- `next_log_index` overflows after the record was journalled: the call panics -/
  overflow : ∀ {s e r}, P s e → G s r → s.indexed r = none → P (s.journalled r) e

/-- The usual way to `Moves`: `P` knows that the open chunk has an offset, holds between `applied` and the
rotation too, and does not look at a failed `create_new`. -/
theorem Moves.of_rotated {P : Store → List Eff → Prop} {G : Store → Record → Prop}
    (ne : ∀ {s e}, P s e → s.openOffsets ≠ [])
    (applied : ∀ {s e r st'}, P s e → G s r → s.st.apply r = .ok st' → P (s.applied r st') e)
    (rotated : ∀ {s e}, P s e → s.isOpenFull = true → P s.rotated (e ++ rotateEffs s))
    (skip : ∀ {s e} i, P s e → P s (e ++ [.createFailed i]))
    (overflow : ∀ {s e r}, P s e → G s r → s.indexed r = none → P (s.journalled r) e) : Moves P G := by
  refine ⟨fun {s e r st'} c hc h hg hst => ?_, fun c hc h hg hst _ => ?_, overflow⟩
  · obtain rfl := hc (ne h)
    have h3 := applied h hg hst
    cases hf : (s.applied r st').isOpenFull with
    | false => rw [← Store.applied_eq_appliedAt, Store.closeFull_of_not_full hf, List.append_nil]; exact h3
    | true => rw [← Store.applied_eq_appliedAt, Store.closeFull_of_full hf]; exact rotated h3 hf
  · obtain rfl := hc (ne h)
    exact skip _ (applied h hg hst)

theorem Moves.appendAndApply {P : Store → List Eff → Prop} {G : Store → Record → Prop} (hM : Moves P G)
    {s : Store} {e : List Eff} (fsHas : Nat → Bool) {r : Record} (h : P s e) (hg : G s r) :
    P (s.appendAndApply fsHas r).2.1 (e ++ (s.appendAndApply fsHas r).2.2) := by
  refine Store.appendAndApply_elim (s.appendAndApply fsHas r) rfl ?_ ?_ ?_ ?_
  · exact fun _ _ => by rw [List.append_nil]; exact h
  · exact fun _ _ => by rw [List.append_nil]; exact h
  · exact fun _ _ hn => by rw [List.append_nil]; exact hM.overflow h hg hn
  · intro st' s2 hst hs2 s3 hs3
    rw [hs3, Store.appliedAt_of_indexed st' hs2]
    have hc := s.journalled_openId r
    refine ⟨fun hf => ?_, fun hf _ => hM.failed _ hc h hg hst hf, fun hf _ => ?_⟩
    · have := hM.accept _ hc h hg hst
      rwa [Store.closeFull_of_not_full hf] at this
    · have := hM.accept _ hc h hg hst
      rwa [Store.closeFull_of_full hf] at this

/-- Along a batch: `G` for every entry that is not refused up front (index u64::MAX). -/
theorem Moves.appendBatch {P : Store → List Eff → Prop} {G : Store → Record → Prop} (hM : Moves P G)
    (es : List (LogId × Bytes))
    (hG : ∀ {s e}, P s e → ∀ x ∈ es, x.1.index + 1 ≠ U64 → G s (.append x.1 x.2))
    (fsHas : Nat → Bool) (s : Store) (seg : Seg) (e : List Eff) (h : P s e) :
    P (Store.appendBatch fsHas es s seg e).2.1 (Store.appendBatch fsHas es s seg e).2.2 := by
  refine Store.appendBatch_elim (P := fun _ s e => P s e) (R := fun x => P x.2.1 x.2.2) es
    (fun _ _ _ _ _ _ h => h) (fun fsHas s e id p hm hU h res s' e' hres => ?_) fsHas s seg e h
  have := hM.appendAndApply fsHas h (hG h (id, p) hm hU)
  rw [hres] at this
  cases res <;> exact this

/-- `G` is asked of the record a single-record op journals
(`CallRec`) and of the entries of a batch; after an accepted purge the obsolete closed chunks go to the
removal list (`hpop`). -/
theorem Moves.call {P : Store → List Eff → Prop} {G : Store → Record → Prop} (hM : Moves P G)
    (fsHas : Nat → Bool) (op : Op)
    (hrec : ∀ {s e r}, P s e → CallRec s op r → G s r)
    (hent : ∀ {s e} es, op = .append es → P s e → ∀ x ∈ es, x.1.index + 1 ≠ U64 → G s (.append x.1 x.2))
    (hpop : ∀ {s e} upto, op = .purge upto → P s e → P (s.popped upto) e)
    {s : Store} (h : P s []) : P (s.call fsHas op).2.1 (s.call fsHas op).2.2 := by
  rcases s.call_cases fsHas op with ⟨x, e, _⟩ | ⟨es, seg0, rfl, e⟩ | ⟨r, hr, e⟩ |
    ⟨upto, seg, s', effs, hr, ha, e⟩ <;> rw [e]
  · exact h
  · exact hM.appendBatch es (hent es rfl) fsHas s seg0 [] h
  · exact hM.appendAndApply fsHas h (hrec h hr)
  · have := hM.appendAndApply fsHas h (hrec h hr)
    rw [ha] at this
    cases hr
    exact hpop upto rfl this

/-- In `rotated` the files and the queue are those AFTER the rotation's effects. A failed `create_new` needs no
field: `createFailed` touches neither files nor queue (`CallerInv.moves`). `popped` is asked for every `upto`, whether
or not a purge of it would be accepted. -/
structure CallerInv (I : Store → Fs → Worker → Prop) (G : Store → Record → Prop) : Prop where
  ne : ∀ {s fs w}, I s fs w → s.openOffsets ≠ []
  applied : ∀ {s fs w r st'}, I s fs w → G s r → s.st.apply r = .ok st' → I (s.applied r st') fs w
  rotated : ∀ {s fs w}, I s fs w → s.isOpenFull = true →
    I s.rotated (effFs (rotateEffs s) fs) (w.push (effQ (rotateEffs s)))
  overflow : ∀ {s fs w r}, I s fs w → G s r → s.indexed r = none → I (s.journalled r) fs w
  popped : ∀ {s fs w} (upto : LogId), I s fs w → I (s.popped upto) fs w

theorem CallerInv.moves {I : Store → Fs → Worker → Prop} {G : Store → Record → Prop} (hI : CallerInv I G)
    (fs : Fs) (w : Worker) : Moves (fun s e => I s (effFs e fs) (w.push (effQ e))) G :=
  .of_rotated hI.ne hI.applied
    (fun h hf => by
      have := hI.rotated h hf
      rwa [← effFs_append, Worker.push_push, ← effQ_append] at this)
    (fun i h => by simpa [effFs_append, effQ_append, effFs, effQ] using h)
    hI.overflow

theorem CallerInv.appendAndApply {I : Store → Fs → Worker → Prop} {G : Store → Record → Prop}
    (hI : CallerInv I G) {s : Store} {fs : Fs} {w : Worker} (fsHas : Nat → Bool) {r : Record}
    (h : I s fs w) (hg : G s r) :
    I (s.appendAndApply fsHas r).2.1 (effFs (s.appendAndApply fsHas r).2.2 fs)
      (w.push (effQ (s.appendAndApply fsHas r).2.2)) :=
  (hI.moves fs w).appendAndApply (e := []) fsHas (by simpa [effFs, effQ] using h) hg

theorem CallerInv.call {I : Store → Fs → Worker → Prop} {G : Store → Record → Prop}
    (hI : CallerInv I G) (fsHas : Nat → Bool) (op : Op)
    (hrec : ∀ {s fs w r}, I s fs w → CallRec s op r → G s r)
    (hent : ∀ {s fs w} es, op = .append es → I s fs w → ∀ x ∈ es, x.1.index + 1 ≠ U64 →
      G s (.append x.1 x.2))
    {s : Store} {fs : Fs} {w : Worker} (h : I s fs w) :
    I (s.call fsHas op).2.1 (effFs (s.call fsHas op).2.2 fs) (w.push (effQ (s.call fsHas op).2.2)) :=
  (hI.moves fs w).call fsHas op hrec hent (fun upto _ h => hI.popped upto h) (by simpa [effFs, effQ] using h)

theorem CallerInv.mono {I : Store → Fs → Worker → Prop} {G G' : Store → Record → Prop} (hI : CallerInv I G)
    (h : ∀ {s r}, G' s r → G s r) : CallerInv I G' :=
  ⟨hI.ne, fun hi hg => hI.applied hi (h hg), hI.rotated, fun hi hg => hI.overflow hi (h hg), hI.popped⟩

/-- A further invariant `K` on top of `I`: only `K`'s own part is to be shown, with `I` at hand. -/
theorem CallerInv.and {I K : Store → Fs → Worker → Prop} {G : Store → Record → Prop} (hI : CallerInv I G)
    (applied : ∀ {s fs w r st'}, I s fs w → K s fs w → G s r → s.st.apply r = .ok st' →
      K (s.applied r st') fs w)
    (rotated : ∀ {s fs w}, I s fs w → K s fs w → s.isOpenFull = true →
      K s.rotated (effFs (rotateEffs s) fs) (w.push (effQ (rotateEffs s))))
    (overflow : ∀ {s fs w r}, I s fs w → K s fs w → G s r → s.indexed r = none → K (s.journalled r) fs w)
    (popped : ∀ {s fs w} (upto : LogId), I s fs w → K s fs w → K (s.popped upto) fs w) :
    CallerInv (fun s fs w => I s fs w ∧ K s fs w) G where
  ne h := hI.ne h.1
  applied h hg hst := ⟨hI.applied h.1 hg hst, applied h.1 h.2 hg hst⟩
  rotated h hf := ⟨hI.rotated h.1 hf, rotated h.1 h.2 hf⟩
  overflow h hg hn := ⟨hI.overflow h.1 hg hn, overflow h.1 h.2 hg hn⟩
  popped upto h := ⟨hI.popped upto h.1, popped upto h.1 h.2⟩

theorem Moves.of_store {I : Store → Prop} {G : Store → Record → Prop}
    (ne : ∀ {s}, I s → s.openOffsets ≠ [])
    (applied : ∀ {s r st'}, I s → G s r → s.st.apply r = .ok st' → I (s.applied r st'))
    (rotated : ∀ {s}, I s → I s.rotated)
    (overflow : ∀ {s r}, I s → G s r → s.indexed r = none → I (s.journalled r)) :
    Moves (fun s _ => I s) G :=
  .of_rotated ne applied (fun h _ => rotated h) (fun _ h => h) overflow

/-- An invariant of the store that does not look at the chunk ids in the index map needs no offset in the
open chunk. -/
theorem Moves.of_store_at {I : Store → Prop} {G : Store → Record → Prop}
    (applied : ∀ {s r st'} (c : Nat), I s → G s r → s.st.apply r = .ok st' → I (s.appliedAt c r st'))
    (rotated : ∀ {s}, I s → I s.rotated)
    (overflow : ∀ {s r}, I s → G s r → s.indexed r = none → I (s.journalled r)) :
    Moves (fun s _ => I s) G :=
  ⟨fun c _ h hg hst => Store.closeFull_store (I := I) rotated (applied c h hg hst),
    fun c _ h hg hst _ => applied c h hg hst, overflow⟩

/-- `Growth` of Proofs/RefineCall.lean without the cache. -/
structure Growth0 (s s' : Store) (effs : List Eff) : Prop where
  openEnd : s.openEnd ≤ s'.openEnd
  creates : ∀ i, Eff.create i ∈ effs → s.openEnd ≤ i ∧ i < s'.openEnd

theorem Growth0.refl (s : Store) : Growth0 s s [] :=
  ⟨Nat.le_refl _, (by intro i hi; cases hi)⟩

theorem Growth0.trans {s s1 s2 : Store} {e1 e2 : List Eff}
    (h1 : Growth0 s s1 e1) (h2 : Growth0 s1 s2 e2) : Growth0 s s2 (e1 ++ e2) := by
  refine ⟨Nat.le_trans h1.openEnd h2.openEnd, ?_⟩
  intro i hi
  rcases List.mem_append.mp hi with h | h
  · have := h1.creates i h; have := h2.openEnd; omega
  · have := h2.creates i h; have := h1.openEnd; omega

theorem Growth0.fsHas {s s' : Store} {effs : List Eff} (g : Growth0 s s' effs) {fsHas : Nat → Bool}
    (hfs : ∀ i, s.openEnd ≤ i → fsHas i = false) :
    ∀ i, s'.openEnd ≤ i → (fsHas i || effs.any (fun e => e == Eff.create i)) = false :=
  fsHas_after_creates hfs g.openEnd fun i hi => (g.creates i hi).2

theorem apply_ne_exists {st : RState} {r : Record} (h : st.apply r = .err .exists) : False := by
  rcases st.apply_cases r with h1 | ⟨k, h1, hk⟩ | ⟨m, l, h1, _⟩ <;> rw [h1] at h <;> cases h
  rcases hk with hk | hk | hk <;> cases hk

/-- With no file at or beyond the journal end `create_new` does not fail. -/
theorem appendAndApply_growth (s : Store) {fsHas : Nat → Bool} (r : Record)
    (hfs : ∀ i, s.openEnd ≤ i → fsHas i = false) :
    Growth0 s (s.appendAndApply fsHas r).2.1 (s.appendAndApply fsHas r).2.2 ∧
      (s.appendAndApply fsHas r).1 ≠ .err .exists ∧
      ∀ i, Eff.createFailed i ∉ (s.appendAndApply fsHas r).2.2 := by
  have hpos := encRecord_length_pos r
  refine Store.appendAndApply_elim (s.appendAndApply fsHas r) rfl ?_ ?_ ?_ ?_
  · exact fun k hk => ⟨.refl s, fun e => by cases e; exact apply_ne_exists hk, fun _ hi => nomatch hi⟩
  · exact fun _ _ => ⟨.refl s, (fun e => nomatch e), fun _ hi => nomatch hi⟩
  · exact fun _ _ _ => ⟨⟨by rw [s.journalled_openEnd]; omega, (fun _ hi => nomatch hi)⟩,
      (fun e => nomatch e), fun _ hi => nomatch hi⟩
  · intro st' s2 _ hs2 s3 hs3
    have e3 : s3.openEnd = s.openEnd + (encRecord r).length := by
      rw [hs3, applyIndex_some hs2]; exact s.journalled_openEnd r
    refine ⟨fun _ => ?notFull, fun _ he => ?createFails, fun _ _ => ?rotated⟩
    case notFull =>
      exact ⟨⟨Nat.le_of_lt (by omega : s.openEnd < s3.openEnd), fun _ hi => nomatch hi⟩,
        (fun e => nomatch e), fun _ hi => nomatch hi⟩
    case createFails => rw [hfs _ (by omega)] at he; cases he
    case rotated =>
      refine ⟨⟨?_, fun i hi => ?_⟩, (fun e => nomatch e), fun i hi => ?_⟩
      · show s.openEnd ≤ s3.rotated.openEnd
        rw [Store.rotated_openEnd]; omega
      · have := encRecord_length_pos (.state s3.st)
        show s.openEnd ≤ i ∧ i < s3.rotated.openEnd
        rw [mem_rotateEffs_create hi, Store.rotated_openEnd]
        omega
      · have : Eff.createFailed i ∈ rotateEffs s3 := hi
        unfold rotateEffs at this
        split at this <;> simp at this

theorem appendBatch_growth (es : List (LogId × Bytes)) (fsHas : Nat → Bool) (s : Store) (seg : Seg)
    (effs : List Eff) (hfs : ∀ i, s.openEnd ≤ i → fsHas i = false) :
    (∃ effs', (Store.appendBatch fsHas es s seg effs).2.2 = effs ++ effs' ∧
      Growth0 s (Store.appendBatch fsHas es s seg effs).2.1 effs' ∧ ∀ i, Eff.createFailed i ∉ effs') ∧
      (Store.appendBatch fsHas es s seg effs).1 ≠ .err .exists := by
  refine Store.appendBatch_elim
    (P := fun fsHas s1 e => (∀ i, s1.openEnd ≤ i → fsHas i = false) ∧
      ∃ e', e = effs ++ e' ∧ Growth0 s s1 e' ∧ ∀ i, Eff.createFailed i ∉ e')
    (R := fun x => (∃ e', x.2.2 = effs ++ e' ∧ Growth0 s x.2.1 e' ∧ ∀ i, Eff.createFailed i ∉ e') ∧
      x.1 ≠ .err .exists) es
    (fun _ _ _ _ _ hx h => ⟨h.2, hx⟩) (fun fsHas s1 e id p _ _ h res s' e' hres => ?_)
    fsHas s seg effs ⟨hfs, [], (List.append_nil _).symm, .refl s, fun _ hi => nomatch hi⟩
  obtain ⟨hfs1, e1, rfl, g1, n1⟩ := h
  obtain ⟨g, hne, n⟩ := appendAndApply_growth s1 (.append id p) hfs1
  rw [hres] at g hne n
  have g2 : ∃ e2, effs ++ e1 ++ e' = effs ++ e2 ∧ Growth0 s s' e2 ∧ ∀ i, Eff.createFailed i ∉ e2 :=
    ⟨e1 ++ e', List.append_assoc _ _ _, g1.trans g,
      fun i hi => (List.mem_append.1 hi).elim (n1 i) (n i)⟩
  cases res with
  | ok _ => exact ⟨g.fsHas hfs1, g2⟩
  | err k => exact ⟨g2, hne⟩
  | panic m => exact ⟨g2, hne⟩

theorem call_growth (s : Store) {fsHas : Nat → Bool} (op : Op)
    (hfs : ∀ i, s.openEnd ≤ i → fsHas i = false) :
    Growth0 s (s.call fsHas op).2.1 (s.call fsHas op).2.2 ∧ (s.call fsHas op).1 ≠ .err .exists ∧
      ∀ i, Eff.createFailed i ∉ (s.call fsHas op).2.2 := by
  rcases s.call_cases fsHas op with ⟨x, e, hx⟩ | ⟨es, seg0, rfl, e⟩ | ⟨r, _, e⟩ |
    ⟨upto, seg, s', effs, _, ha, e⟩ <;> rw [e]
  · refine ⟨.refl s, fun hx' => ?_, fun _ hi => nomatch hi⟩
    cases hx'
    rcases hx with ⟨h, _⟩ | ⟨h, _⟩ <;> cases h
  · obtain ⟨⟨e', h1, g, n⟩, hne⟩ := appendBatch_growth es fsHas s seg0 [] hfs
    rw [h1]
    exact ⟨g, hne, n⟩
  · exact appendAndApply_growth s r hfs
  · obtain ⟨g, _, n⟩ := appendAndApply_growth s (.purgeUpto upto) hfs
    rw [ha] at g n
    exact ⟨⟨g.openEnd, g.creates⟩, (fun e => nomatch e), n⟩

theorem appendAndApply_accepted {s : Store} {fsHas : Nat → Bool} {r : Record} {st' : RState}
    (hst : s.st.apply r = .ok st') (hidx : s.indexed r ≠ none) (hne : s.openOffsets ≠ [])
    (hfs : fsHas (s.openEnd + (encRecord r).length) = false) :
    s.appendAndApply fsHas r = (.ok ⟨s.openEnd, (encRecord r).length⟩,
      (s.applied r st').closeFull.1, (s.applied r st').closeFull.2) := by
  refine Store.appendAndApply_elim (s.appendAndApply fsHas r) rfl ?_ ?_ ?_ ?_
  · exact fun k hk => by rw [hk] at hst; cases hst
  · exact fun m hm => by rw [hm] at hst; cases hst
  · exact fun _ _ hn => absurd hn hidx
  · intro st'' s2 hst'' hs2 s3 hs3
    cases hst.symm.trans hst''
    rw [hs3, Store.applied_of_indexed st' hne hs2]
    refine ⟨fun hf => by rw [Store.closeFull_of_not_full hf], fun _ he => ?_,
      fun hf _ => by rw [Store.closeFull_of_full hf]⟩
    rw [Store.applied_openEnd, hfs] at he
    cases he

theorem Store.closeFull_inv {I : Store → Fs → Worker → Prop}
    (rotated : ∀ {s fs w}, I s fs w → s.isOpenFull = true →
      I s.rotated (effFs (rotateEffs s) fs) (w.push (effQ (rotateEffs s))))
    {s : Store} {fs : Fs} {w : Worker} (h : I s fs w) :
    I s.closeFull.1 (effFs s.closeFull.2 fs) (w.push (effQ s.closeFull.2)) := by
  cases hf : s.isOpenFull with
  | false => rw [Store.closeFull_of_not_full hf]; simpa [effFs, effQ] using h
  | true => rw [Store.closeFull_of_full hf]; exact rotated h hf

end RaftLog
