/-
The side conditions of the history theorems on the ops of a history (`Op.WF`: ids below
2^64 and payloads below 2^32; `Op.small`: no index `u64::MAX`) are decidable, so for a
concrete history they are settled by evaluation together with the run.
-/
import RaftLogModel.Proofs.JournalStore
import RaftLogModel.Proofs.NoPanic
namespace RaftLog

instance smallId.decidable (id : LogId) : Decidable (smallId id) := inferInstanceAs (Decidable (_ < _))

instance LogId.decidableWF (id : LogId) : Decidable id.WF := inferInstanceAs (Decidable (_ ∧ _))

instance bytesWF.decidable (p : Bytes) : Decidable (bytesWF p) := inferInstanceAs (Decidable (_ < _))

instance Op.decidableSmall : ∀ op : Op, Decidable op.small
  | .saveVote _ | .truncate _ | .commit _ | .saveUserData _ => isTrue trivial
  | .append es => inferInstanceAs (Decidable (∀ e ∈ es, smallId e.1))
  | .purge id => inferInstanceAs (Decidable (smallId id))

instance Op.decidableWF : ∀ op : Op, Decidable op.WF
  | .truncate _ | .saveUserData none => isTrue trivial
  | .saveVote id | .purge id | .commit id => inferInstanceAs (Decidable id.WF)
  | .append es => inferInstanceAs (Decidable (∀ e ∈ es, e.1.WF ∧ bytesWF e.2))
  | .saveUserData (some b) => inferInstanceAs (Decidable (bytesWF b))

end RaftLog
