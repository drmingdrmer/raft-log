/-
C11 / C02 / C03 groundwork: the byte-level journal invariant. For every chunk
of the live store, the bytes already in its file, followed by the bytes still
on their way inside the flush worker, followed (for the open chunk) by the
pending buffer, are the concatenated encodings of a well-formed record list
that starts with a `State` record and whose sizes give exactly the chunk's
offsets. Property statements: `Props/C11Journal.lean`.
-/
import RaftLogModel.Proofs.CallerMoves
import RaftLogModel.Proofs.WorkerInv
namespace RaftLog

theorem offsetsFrom_snoc (start : Nat) (sz : List Nat) (x : Nat) :
    offsetsFrom start (sz ++ [x]) = offsetsFrom start sz ++ [lastOff (offsetsFrom start sz) + x] := by
  induction sz generalizing start with
  | nil => simp [offsetsFrom, lastOff]
  | cons y ys ih =>
    simp only [List.cons_append, offsetsFrom]
    rw [ih, lastOff_cons_of_ne_nil _ (offsetsFrom_ne_nil _ _)]

def Incr (l : List Nat) : Prop := l.Pairwise (· < ·)

theorem offsetsFrom_lower (start : Nat) (sz : List Nat) : ∀ o ∈ offsetsFrom start sz, start ≤ o := by
  induction sz generalizing start with
  | nil => intro o ho; simp [offsetsFrom] at ho; omega
  | cons x xs ih =>
    intro o ho
    simp only [offsetsFrom, List.mem_cons] at ho
    rcases ho with h | h
    · omega
    · have := ih _ o h; omega

theorem offsetsFrom_incr (start : Nat) (sz : List Nat) (h : ∀ x ∈ sz, 0 < x) :
    Incr (offsetsFrom start sz) := by
  induction sz generalizing start with
  | nil => simp [offsetsFrom, Incr]
  | cons x xs ih =>
    simp only [offsetsFrom, Incr, List.pairwise_cons]
    refine ⟨?_, ih _ (fun y hy => h y (List.mem_cons_of_mem _ hy))⟩
    intro o ho
    have := offsetsFrom_lower _ _ o ho
    have := h x List.mem_cons_self
    omega

theorem recSizes_pos (rs : List Record) : ∀ x ∈ recSizes rs, 0 < x := by
  intro x hx
  simp only [recSizes, List.mem_map] at hx
  obtain ⟨r, _, rfl⟩ := hx
  exact encRecord_length_pos r

/-- `bytes` are the encodings of well-formed records, the first a `State`
record, whose sizes generate exactly `offs` from the chunk id `offs.head`. -/
def ChunkOK (offs : List Nat) (bytes : Bytes) : Prop :=
  ∃ rs : List Record, AllWF rs ∧ (∃ st rest, rs = .state st :: rest) ∧
    offsetsFrom (offs.headD 0) (recSizes rs) = offs ∧ bytes = encAll rs

theorem ChunkOK.length {offs : List Nat} {b : Bytes} (h : ChunkOK offs b) : 2 ≤ offs.length := by
  obtain ⟨rs, _, ⟨st, rest, rfl⟩, ho, _⟩ := h
  rw [← ho]; simp [recSizes]

theorem ChunkOK.incr {offs : List Nat} {b : Bytes} (h : ChunkOK offs b) : Incr offs := by
  obtain ⟨rs, _, _, ho, _⟩ := h
  rw [← ho]; exact offsetsFrom_incr _ _ (recSizes_pos rs)

theorem ChunkOK.lastOff_eq {offs : List Nat} {b : Bytes} (h : ChunkOK offs b) :
    lastOff offs = offs.headD 0 + b.length := by
  obtain ⟨rs, _, _, ho, hb⟩ := h
  rw [hb, encAll_length, ← lastOff_offsetsFrom, ho]

theorem ChunkOK.head_lt {offs : List Nat} {b : Bytes} (h : ChunkOK offs b) :
    offs.headD 0 < lastOff offs := by
  have h1 := h.lastOff_eq
  obtain ⟨rs, _, ⟨st, rest, rfl⟩, _, hb⟩ := h
  have := encRecord_length_pos (.state st)
  rw [hb] at h1
  simp only [encAll_cons, List.length_append] at h1
  omega

theorem ChunkOK.ne_nil {offs : List Nat} {b : Bytes} (h : ChunkOK offs b) : offs ≠ [] := by
  have := h.length
  intro h0; subst h0; simp at this

/-- `ChunkOK` with the record list named. -/
def ChunkRecs (offs : List Nat) (rs : List Record) (bytes : Bytes) : Prop :=
  AllWF rs ∧ (∃ st rest, rs = .state st :: rest) ∧
    offsetsFrom (offs.headD 0) (recSizes rs) = offs ∧ bytes = encAll rs

/-! The four parts by the names `ChunkFile` (Proofs/ReplayOpen.lean) gives them. -/
theorem ChunkRecs.wf {offs : List Nat} {rs : List Record} {b : Bytes} (h : ChunkRecs offs rs b) : AllWF rs := h.1
theorem ChunkRecs.head {offs : List Nat} {rs : List Record} {b : Bytes} (h : ChunkRecs offs rs b) :
    ∃ st rest, rs = .state st :: rest := h.2.1
theorem ChunkRecs.offsets {offs : List Nat} {rs : List Record} {b : Bytes} (h : ChunkRecs offs rs b) :
    offsetsFrom (offs.headD 0) (recSizes rs) = offs := h.2.2.1
theorem ChunkRecs.data {offs : List Nat} {rs : List Record} {b : Bytes} (h : ChunkRecs offs rs b) :
    b = encAll rs := h.2.2.2

theorem ChunkRecs.chunkOK {offs : List Nat} {rs : List Record} {b : Bytes} (h : ChunkRecs offs rs b) :
    ChunkOK offs b := ⟨rs, h.wf, h.head, h.offsets, h.data⟩

theorem ChunkRecs.lastOff_eq {offs : List Nat} {rs : List Record} {b : Bytes}
    (h : ChunkRecs offs rs b) : lastOff offs = offs.headD 0 + (encAll rs).length := by
  have := h.chunkOK.lastOff_eq
  rw [h.data] at this
  exact this

theorem ChunkRecs.snoc {offs : List Nat} {rs : List Record} {b : Bytes} (h : ChunkRecs offs rs b)
    {r : Record} (hr : r.WF) :
    ChunkRecs (offs ++ [lastOff offs + (encRecord r).length]) (rs ++ [r]) (b ++ encRecord r) := by
  have hne := h.chunkOK.ne_nil
  obtain ⟨hwf, ⟨st, rest, hrs⟩, ho, hb⟩ := h
  refine ⟨?_, ⟨st, rest ++ [r], by rw [hrs]; rfl⟩, ?_, ?_⟩
  · intro x hx
    rcases List.mem_append.mp hx with h1 | h1
    · exact hwf x h1
    · simp at h1; subst h1; exact hr
  · rw [headD_append_of_ne_nil hne]
    simp only [recSizes, List.map_append, List.map_cons, List.map_nil]
    rw [offsetsFrom_snoc]
    simp only [recSizes] at ho
    rw [ho]
  · rw [encAll_append, hb]; simp

theorem ChunkRecs.fresh (id : Nat) {st : RState} (h : st.WF) :
    ChunkRecs [id, id + (encRecord (.state st)).length] [.state st] (encRecord (.state st)) := by
  refine ⟨?_, ⟨st, [], rfl⟩, ?_, by simp⟩
  · intro x hx
    simp at hx
    subst hx
    exact h
  · simp [recSizes, offsetsFrom]

theorem ChunkOK.snoc {offs : List Nat} {b : Bytes} (h : ChunkOK offs b) {r : Record} (hr : r.WF) :
    ChunkOK (offs ++ [lastOff offs + (encRecord r).length]) (b ++ encRecord r) := by
  obtain ⟨rs, h⟩ := h
  exact (ChunkRecs.snoc (rs := rs) h hr).chunkOK

theorem ChunkOK.fresh (id : Nat) {st : RState} (h : st.WF) :
    ChunkOK [id, id + (encRecord (.state st)).length] (encRecord (.state st)) :=
  (ChunkRecs.fresh id h).chunkOK

/-- The data of the queued `write` requests that will land in file `id`.
Requests are processed FIFO; a `write` goes to the file that is newest when it
is processed: the id of the last `appendFile` processed before it (`cur` at the
start). -/
def inflightFrom (cur : Nat) : List WReq → Nat → Bytes
  | [], _ => []
  | .write _ d _ :: q, id => (if cur = id then d else []) ++ inflightFrom cur q id
  | .appendFile n _ :: q, id => inflightFrom n q id
  | .removeChunks _ :: q, id => inflightFrom cur q id

def annIds : List WReq → List Nat
  | [] => []
  | .write _ _ _ :: q => annIds q
  | .appendFile n _ :: q => n :: annIds q
  | .removeChunks _ :: q => annIds q

/-- The shape `Worker.inflight` and `WView.inflight` share: `tb`, the bytes of the batch in hand not yet written, go
to the newest file `cur`; then what the requests still to handle will write. -/
def infl (cur : Nat) (tb : Bytes) (rest : List WReq) (id : Nat) : Bytes :=
  (if cur = id then tb else []) ++ inflightFrom cur rest id

/-- The bytes still on their way to file `id` inside the worker. -/
def Worker.inflight (w : Worker) (id : Nat) : Bytes := infl w.cur w.pc.todoBytes w.rest id

/-- The newest file the worker knows, followed by the ids it will be told
about, in order. -/
def Worker.announced (w : Worker) : List Nat := w.cur :: annIds w.rest

/-- Consecutive offset lists abut: each ends where the next begins. -/
def Chained : List (List Nat) → Prop
  | [] => True
  | [_] => True
  | a :: b :: rest => lastOff a = b.headD 0 ∧ Chained (b :: rest)

def Store.chunks (s : Store) : List (List Nat) := s.closed.map (·.offsets) ++ [s.openOffsets]

def Store.chunkIds (s : Store) : List Nat := s.chunks.map (fun offs => offs.headD 0)

structure JInv (s : Store) (fs : Fs) (w : Worker) : Prop where
  wok : w.pc.ok w.files
  /-- values that get journalled are well-formed -/
  stWF : s.st.WF
  logWF : ∀ e ∈ s.log, e.2.id.WF
  fsLt : ∀ i ∈ Fs.ids fs, i < s.openEnd
  /-- worker tracking: the last announced file is the open chunk, ids are
  announced in ascending order, every announced file exists -/
  annLast : w.announced.getLast? = some s.openId
  annAsc : Incr w.announced
  annFs : ∀ a ∈ w.announced, a ∈ Fs.ids fs
  /-- layout: chunks abut; every closed chunk ends at or before the open one
  starts (lengths ≥ 2 and monotonicity follow from `ChunkOK`) -/
  chained : Chained s.chunks
  closedLe : ∀ c ∈ s.closed, lastOff c.offsets ≤ s.openId
  closedFs : ∀ c ∈ s.closed, c.id ∈ Fs.ids fs
  openBytes : ChunkOK s.openOffsets (fdata fs s.openId ++ w.inflight s.openId ++ s.pending)
  closedBytes : ∀ c ∈ s.closed, ChunkOK c.offsets (fdata fs c.id ++ w.inflight c.id)

/-- The journal invariant of a system with a live store and worker. -/
def J (y : Sys) : Prop :=
  ∃ s, y.store = some s ∧ y.worker.pc ≠ .dead ∧ JInv s y.fs y.worker

end RaftLog
