/-
C01: a legal, accepted, small call keeps `Refines` while the payload cache has room (`call_refines`), and
the system-level form `SysRef` along histories (`run_sysRef`). State, index map and the result of the call
are those of the cache-free relation; the call is `call_ghost` (Proofs/CallRef.lean) with the cache budget
left as its ghost. What is shown here is the cache's half of one journalled record (`Refines.applied`).
-/
import RaftLogModel.Proofs.ReadPathRef
namespace RaftLog

/-- How a call moved the journal end, which files it created and how much the
cache grew (`n` entries, `b` bytes at most). -/
structure Growth (s s' : Store) (effs : List Eff) (n b : Nat) : Prop where
  openEnd : s.openEnd ≤ s'.openEnd
  creates : ∀ i, Eff.create i ∈ effs → s.openEnd ≤ i ∧ i < s'.openEnd
  items : s'.cache.items.length ≤ s.cache.items.length + n
  size : s'.cache.size ≤ s.cache.size + b
  maxItems : s'.cache.maxItems = s.cache.maxItems
  capacity : s'.cache.capacity = s.cache.capacity

theorem Refines.of_noCache {s : Store} {r : RefLog} (h : RefinesNoCache s r)
    (hres : ∀ e ∈ r.entries, e ∈ s.cache.items)
    (hroom : s.cache.items.length ≤ s.cache.maxItems ∧ s.cache.size ≤ s.cache.capacity) : Refines s r :=
  ⟨h.st, h.log, fun e he => Cache.get_of_mem h.cinv.ok.sorted (hres e he), h.wf, h.cinv, h.pf, hroom⟩

theorem Refines.rotated {s : Store} {r : RefLog} (h : Refines s r) : Refines s.rotated r :=
  ⟨h.st, h.log, h.resident, h.wf, h.cinv.of_fields rfl rfl rfl, h.pf.rotated, h.room⟩

theorem Refines.of_fields {s s2 : Store} {r : RefLog} (h : Refines s r) (h1 : s2.st = s.st)
    (h2 : s2.log = s.log) (h3 : s2.cache = s.cache) (h4 : s2.openOffsets = s.openOffsets) :
    Refines s2 r :=
  .of_noCache (h.noCache.of_fields h1 h2 h3 h4) (h3 ▸ fun _ he => Cache.mem_of_get (h.resident _ he))
    (h3 ▸ h.room)

theorem Refines.mem_cache {s : Store} {r : RefLog} (h : Refines s r) {e : LogId × Bytes}
    (he : e ∈ r.entries) : e ∈ s.cache.items :=
  Cache.mem_of_get (h.resident e he)

theorem Op.count_bytes_of_not_append {op : Op} (h : ∀ es, op ≠ .append es) : op.count = 0 ∧ op.bytes = 0 := by
  cases op <;> first | exact ⟨rfl, rfl⟩ | exact absurd rfl (h _)

/-- What a journalled record may add to the cache: an `Append` one entry and its payload. -/
def Record.room : Record → Nat × Nat
  | .append _ p => (1, p.length)
  | _ => (0, 0)

/-- The cache budget left (entries, bytes) as the ghost of a call. The record comes with what is known of it
(`RecOf`, or the accepted `append1`): `Refines.applied` needs it. -/
theorem CallGhost.room :
    CallGhost (fun (g : Nat × Nat) _ op g' => g = (op.count + g'.1, op.bytes + g'.2))
      (fun g s r r' rc g' => g = (rc.room.1 + g'.1, rc.room.2 + g'.2) ∧
        (RecOf s r r' rc ∨ ∃ id p, rc = .append id p ∧ r.append1 id p = .ok r')) where
  single := by
    intro g g' s r r' o rc _ hg _ _ hna _ hk
    rw [(Op.count_bytes_of_not_append hna).1, (Op.count_bytes_of_not_append hna).2] at hg
    refine ⟨?_, .inl hk⟩
    rcases hk with ⟨⟨v, rfl⟩ | ⟨i, rfl⟩ | ⟨x, rfl, _⟩, _⟩ | ⟨x, rfl, _⟩ | ⟨u, rfl, _⟩ <;> exact hg
  nil := fun {g g' _} hg => by
    obtain ⟨a, b⟩ := g'
    simpa [Op.count, Op.bytes, Op.entries, sumLen] using hg.symm
  cons := fun {g g' _ _ _ id p rest} _ hg hc1 =>
    ⟨(rest.length + g'.1, sumLen rest + g'.2),
      ⟨by rw [hg]; simp only [Op.count, Op.bytes, Op.entries, sumLen, Record.room, List.length_cons]
          exact Prod.ext (by simp only; omega) (by simp only; omega), .inr ⟨id, p, rfl, hc1⟩⟩, rfl⟩
  noop := fun {g g' _ _} hg _ => by
    obtain ⟨a, b⟩ := g'
    simpa [Op.count, Op.bytes, Op.entries, sumLen] using hg.symm

/-- While the budget `g` covers what the record may add nothing is evicted, so every live entry stays
resident. -/
theorem Refines.applied {s : Store} {r r' : RefLog} {rec : Record} {g g' : Nat × Nat} (h : Refines s r)
    (ok : StepOK s r r' rec)
    (hk : RecOf s r r' rec ∨ ∃ id p, rec = .append id p ∧ r.append1 id p = .ok r')
    (hg : g = (rec.room.1 + g'.1, rec.room.2 + g'.2))
    (hn : s.cache.items.length + g.1 ≤ s.cache.maxItems) (hb : s.cache.size + g.2 ≤ s.cache.capacity) :
    Refines (s.applied rec r'.state) r' ∧
      (idxCache rec s.cache).items.length + g'.1 ≤ s.cache.items.length + g.1 ∧
      (idxCache rec s.cache).size + g'.2 ≤ s.cache.size + g.2 ∧
      (idxCache rec s.cache).maxItems = s.cache.maxItems ∧
      (idxCache rec s.cache).capacity = s.cache.capacity := by
  subst hg
  dsimp only at hn hb ⊢
  -- the entries of `r'` are resident in the new cache, which grew by at most `rec.room`
  have key : (∀ e ∈ r'.entries, e ∈ (idxCache rec s.cache).items) ∧
      (idxCache rec s.cache).items.length ≤ s.cache.items.length + rec.room.1 ∧
      (idxCache rec s.cache).size ≤ s.cache.size + rec.room.2 ∧
      (idxCache rec s.cache).maxItems = s.cache.maxItems ∧
      (idxCache rec s.cache).capacity = s.cache.capacity := by
    rcases hk with (⟨hkind, hent, _⟩ | ⟨o, rfl, ho, rfl⟩ | ⟨upto, rfl, hl, hnn, rfl⟩) | ⟨id, p, rfl, hc⟩
    · -- a record that leaves the entries alone leaves the cache alone
      have hc : idxCache rec s.cache = s.cache := by
        rcases hkind with ⟨v, rfl⟩ | ⟨id, rfl⟩ | ⟨x, rfl, _⟩ <;> rfl
      rw [hc]
      exact ⟨fun e he => h.mem_cache (hent ▸ he), Nat.le_add_right _ _, Nat.le_add_right _ _, rfl, rfl⟩
    · refine ⟨fun e he => ?_, ?_⟩
      · have hmem : e ∈ r.entries := (List.mem_filter.1 he).1
        cases o with
        | none => simp [RefLog.truncateTo, nextIndex] at he
        | some k =>
          exact (Cache.truncateAfter_facts s.cache k).1 e (h.mem_cache hmem)
            (RefLog.truncateTo_keys h.wf ho e he k rfl)
      · cases o with
        | none => simp [idxCache, Cache.clear, Record.room]
        | some k => exact (Cache.truncateAfter_facts s.cache k).2.2
    · refine ⟨fun e he => ?_, (Cache.purgeUpto_facts s.cache upto).2.2⟩
      obtain ⟨he1, he2⟩ := List.mem_filter.1 he
      exact (Cache.purgeUpto_facts s.cache upto).1 e (h.mem_cache he1)
        ((LogId.not_le_iff_lt _ _).2 (RefLog.purge_keys h.wf hl hnn e he1 (by simpa using he2)))
    · -- there is room: the insert is an append at the end, nothing is evicted
      obtain ⟨hnle, _, hent⟩ := RefLog.append1_shape hc
      have hlast : s.st.last = r.last := h.abs.last
      have hins := Cache.insert_noevict s.cache id p
        (items_lt_of_gt_last h.cinv (by rw [hlast]; exact hnle))
        (by simp only [Record.room] at hn; omega) (by simp only [Record.room] at hb; omega)
      simp only [idxCache, hins, Record.room]
      refine ⟨fun e he => ?_, by simp⟩
      rw [hent] at he
      exact (List.mem_append.1 he).elim (fun h1 => List.mem_append_left _ (h.mem_cache h1))
        (List.mem_append_right _)
  obtain ⟨hres, h1, h2, h3, h4⟩ := key
  exact ⟨.of_noCache (h.noCache.applied ok) hres
    ⟨by show (idxCache rec s.cache).items.length ≤ (idxCache rec s.cache).maxItems; omega,
     by show (idxCache rec s.cache).size ≤ (idxCache rec s.cache).capacity; omega⟩,
    by omega, by omega, h3, h4⟩

theorem call_refines {s : Store} {r r' : RefLog} (fsHas : Nat → Bool) {op : Op}
    (h : Refines s r) (hfs : ∀ i, s.openEnd ≤ i → fsHas i = false)
    (hl : r.legal op = true) (hc : r.call op = .ok r') (hsm : op.small)
    (hn : s.cache.items.length + op.count ≤ s.cache.maxItems)
    (hb : s.cache.size + op.bytes ≤ s.cache.capacity) :
    ∃ seg s' effs, s.call fsHas op = (.ok seg, s', effs) ∧ Refines s' r' ∧
      Growth s s' effs op.count op.bytes := by
  obtain ⟨seg, s1, effs, ⟨href, h1, h2, h3, h4⟩, hgr, heq | ⟨upto, rfl, _, rfl, heq⟩⟩ :=
    call_ghost CallGhost.room (fs := []) (w := { files := [], pc := .dead })
      (I := fun g r s1 _ _ => Refines s1 r ∧
        s1.cache.items.length + g.1 ≤ s.cache.items.length + op.count ∧
        s1.cache.size + g.2 ≤ s.cache.size + op.bytes ∧ s1.cache.maxItems = s.cache.maxItems ∧
        s1.cache.capacity = s.cache.capacity) (g := (op.count, op.bytes)) (g' := (0, 0)) fsHas
      (abs := fun q => q.1.abs)
      (applied := fun ⟨q0, q1, q2, q3, q4⟩ ok _ hgr => by
        obtain ⟨k0, k1, k2, k3, k4⟩ := q0.applied ok hgr.2 hgr.1 (by omega) (by omega)
        exact ⟨k0, Nat.le_trans k1 q1, Nat.le_trans k2 q2, k3.trans q3, k4.trans q4⟩)
      (rotated := fun q _ => ⟨q.1.rotated, q.2⟩) ⟨h, Nat.le_refl _, Nat.le_refl _, rfl, rfl⟩ hfs hl hc hsm rfl
  -- `I` looks at the store alone, hence the dummy files and worker; the second case is an accepted purge
  -- that dropped closed chunks: `I` is given for the store before the drop
  · exact ⟨seg, s1, effs, heq, href, hgr.openEnd, hgr.creates, h1, h2, h3, h4⟩
  · exact ⟨seg, _, effs, heq, href.of_fields rfl rfl rfl rfl, hgr.openEnd, hgr.creates, h1, h2, h3, h4⟩

theorem SysRef.call {y : Sys} {r r' : RefLog} {n b : Nat} {op : Op}
    (h : SysRef y r (op.count + n) (op.bytes + b))
    (hl : r.legal op = true) (hc : r.call op = .ok r') (hsm : op.small) :
    SysRef (y.step (.call op)) r' n b ∧
    ∃ s seg, y.store = some s ∧ (s.call y.fs.has op).1 = .ok seg ∧
      ((y.call op).1 = .ok seg ∨ (y.call op).1 = .err .sendFailed) := by
  obtain ⟨s, hs, href, hfs, hn, hb⟩ := h
  have hfs' := Fs.has_false_of_lt hfs
  obtain ⟨seg, s', effs, heq, href', hg⟩ :=
    call_refines y.fs.has href hfs' hl hc hsm (by omega) (by omega)
  have p1 : (y.call op).2.1.store = some s' := by rw [(y.call_some op hs).1, heq]
  have p2 : (y.call op).2.1.fs = (applyEffs effs y.fs y.worker []).2.1 := by rw [(y.call_some op hs).1, heq]
  refine ⟨⟨s', p1, href', ?_, ?_, ?_⟩, s, seg, hs, by rw [heq], ?_⟩
  · show ∀ i ∈ Fs.ids (y.call op).2.1.fs, i < s'.openEnd
    rw [p2]
    exact applyEffs_ids_lt _ _ _ _ (fun i h1 => Nat.lt_of_lt_of_le (hfs i h1) hg.openEnd)
      (fun i h1 => (hg.creates i h1).2)
  · have := hg.items; have := hg.maxItems; omega
  · have := hg.size; have := hg.capacity; omega
  · rw [y.call_result op hs, heq]
    cases (applyEffs effs y.fs y.worker []).1 <;> simp

theorem flush_no_create (s : Store) (cb : Option Nat) (i : Nat) : Eff.create i ∉ (s.flush cb).2 := by
  unfold Store.flush
  by_cases h : s.removed.isEmpty <;> simp [h]

theorem SysRef.flush {y : Sys} {r : RefLog} {n b : Nat} (h : SysRef y r n b) (cb : Option Nat) :
    SysRef (y.step (.flush cb)) r n b := by
  obtain ⟨s, hs, href, hfs, hn, hb⟩ := h
  have hp : ∃ s2, (y.flush cb).2.1.store = some s2 ∧ s2.st = s.st ∧ s2.log = s.log ∧
      s2.cache = s.cache ∧ s2.openOffsets = s.openOffsets ∧
      (y.flush cb).2.1.fs = (applyEffs (s.flush cb).2 y.fs y.worker []).2.1 := by
    rw [(y.flush_some cb hs).1]
    cases (applyEffs (s.flush cb).2 y.fs y.worker []).1 <;> simp [Store.flush]
  obtain ⟨s2, h0, h1, h2, h3, h4, h5⟩ := hp
  refine ⟨s2, h0, href.of_fields h1 h2 h3 h4, ?_, by rw [h3]; exact hn, by rw [h3]; exact hb⟩
  show ∀ i ∈ Fs.ids (y.flush cb).2.1.fs, i < s2.openEnd
  rw [h5, show s2.openEnd = s.openEnd by simp [Store.openEnd, h4]]
  exact applyEffs_ids_lt _ _ _ _ hfs (fun i h6 => absurd h6 (flush_no_create s cb i))

/-- A worker run changes the worker, the files' contents and the cache's eviction boundary only. -/
theorem SysRef.of_wctx {y : Sys} {r : RefLog} {n b : Nat} {s : Store} (h : SysRef y r n b)
    (hs : y.store = some s) (c : WCtx) (hsame : SameItems c.cache s.cache)
    (hids : Fs.ids c.fs = Fs.ids y.fs) :
    SysRef { y with worker := c.w, fs := c.fs, store := some { s with cache := c.cache } } r n b := by
  obtain ⟨s0, hs0, href, hfs, hn, hb⟩ := h
  rw [hs] at hs0
  cases hs0
  refine ⟨_, rfl, href.of_same hsame, fun i hi => hfs i (hids ▸ hi), ?_, ?_⟩
  · simp only [hsame.1, hsame.2.2.1]; exact hn
  · simp only [hsame.2.1, hsame.2.2.2]; exact hb

theorem SysRef.worker {y : Sys} {r : RefLog} {n b : Nat} (h : SysRef y r n b) (out : Outcome) :
    SysRef (y.step (.worker out)) r n b := by
  have ⟨s, hs, _⟩ := h
  rw [Sys.step_eq_workerStep, y.workerStep_eq out hs]
  exact h.of_wctx hs _ (WCtx.step_same _ out) (WCtx.step_ids _ out)

theorem SysRef.workerIdle {y : Sys} {r : RefLog} {n b : Nat} (h : SysRef y r n b) :
    SysRef (y.step .workerIdle) r n b :=
  Sys.workerIdle_induct' (P := (SysRef · r n b)) (fun _ h => h.worker .ok) h

/-- The induction is by hand, not `Sys.run_induct`: the budget `opsCount (stepOps steps)` is that of the REST of the
history, so the invariant is indexed by what is still to come; and `SysRef` allows a dead worker, so it is no
`Sys.Live`. `c01_refines_store` (Props/C01.lean) is the same walk at store level. -/
theorem run_sysRef (steps : List Step) : ∀ (y : Sys) (r r' : RefLog),
    SysRef y r (opsCount (stepOps steps)) (opsBytes (stepOps steps)) →
    (∀ st ∈ steps, st.c01 = true) → r.run (stepOps steps) = some r' →
    (∀ op ∈ stepOps steps, op.small) →
    SysRef (y.run steps) r' 0 0 ∧
    ∀ pre op post, steps = pre ++ Step.call op :: post →
      ∃ s seg, (y.run pre).store = some s ∧ (s.call (y.run pre).fs.has op).1 = .ok seg ∧
        (((y.run pre).call op).1 = .ok seg ∨ ((y.run pre).call op).1 = .err .sendFailed) := by
  induction steps with
  | nil =>
    intro y r r' h _ hr _
    simp only [stepOps, RefLog.run, Option.some.injEq] at hr
    subst hr
    exact ⟨h, fun pre op post hsplit => nomatch (List.nil_eq_append_iff.mp hsplit).2⟩
  | cons st rest ih =>
    intro y r r' h hst hr hsm
    have hrest : ∀ st' ∈ rest, st'.c01 = true := fun s hs => hst s (List.mem_cons_of_mem _ hs)
    -- a non-call step: same reference log, same budget
    have hother : stepOps (st :: rest) = stepOps rest → SysRef (y.step st) r
        (opsCount (stepOps rest)) (opsBytes (stepOps rest)) → (∀ op, st ≠ .call op) →
        SysRef ((y.step st).run rest) r' 0 0 ∧
        ∀ pre op post, st :: rest = pre ++ Step.call op :: post →
          ∃ s seg, (y.run pre).store = some s ∧ (s.call (y.run pre).fs.has op).1 = .ok seg ∧
            (((y.run pre).call op).1 = .ok seg ∨ ((y.run pre).call op).1 = .err .sendFailed) := by
      intro he h' hne
      rw [he] at hr hsm
      obtain ⟨g1, g2⟩ := ih (y.step st) r r' h' hrest hr hsm
      refine ⟨g1, ?_⟩
      intro pre op post hsplit
      rcases List.cons_eq_append_iff.mp hsplit with ⟨_, hcall⟩ | ⟨pre', rfl, hrest'⟩
      · exact absurd (List.cons.inj hcall).1.symm (hne op)
      · exact g2 pre' op post hrest'
    cases st with
    | drain => have := hst _ List.mem_cons_self; cases this
    | drop => have := hst _ List.mem_cons_self; cases this
    | openWith c => have := hst _ List.mem_cons_self; cases this
    | flush cb =>
      exact hother rfl (SysRef.flush h cb) (by intro op hh; cases hh)
    | worker out =>
      exact hother rfl (SysRef.worker h out) (by intro op hh; cases hh)
    | workerIdle =>
      exact hother rfl (SysRef.workerIdle h) (by intro op hh; cases hh)
    | call op =>
      obtain ⟨r1, hl, hc, hr⟩ := RefLog.run_cons.1 hr
      simp only [stepOps, opsCount, opsBytes] at h
      obtain ⟨h1, hok⟩ := SysRef.call h hl hc (hsm op (by simp [stepOps]))
      obtain ⟨g1, g2⟩ := ih (y.step (.call op)) r1 r' h1 hrest hr fun o ho => hsm o (by simp [stepOps, ho])
      refine ⟨g1, ?_⟩
      intro pre op' post hsplit
      rcases List.cons_eq_append_iff.mp hsplit with ⟨rfl, hcall⟩ | ⟨pre', rfl, hrest'⟩
      · cases hcall
        exact hok
      · exact g2 pre' op' post hrest'

end RaftLog
