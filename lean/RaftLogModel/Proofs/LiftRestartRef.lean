/-
Whether the reference log accepts a list of ops depends only on its state
and on the KEYS (index, log id) of its entries — not on the payloads. So "the ops are legal
and accepted" can be stated for any reference log the system refines.
-/
import RaftLogModel.Proofs.Refine
namespace RaftLog

/-- Same state, same entry keys. -/
def RefKeysEqLIFT (r1 r2 : RefLog) : Prop :=
  r1.state = r2.state ∧ entKeys r1.entries = entKeys r2.entries

theorem RefKeysEqLIFT.fields {r1 r2 : RefLog} (h : RefKeysEqLIFT r1 r2) :
    r1.vote = r2.vote ∧ r1.last = r2.last ∧ r1.committed = r2.committed ∧ r1.purged = r2.purged ∧
      r1.userData = r2.userData := by
  have := h.1
  simp only [RefLog.state, RState.mk.injEq] at this
  exact this

theorem entKeys_find_LIFT (idx : Nat) : ∀ (es1 es2 : Items), entKeys es1 = entKeys es2 →
    (es1.find? (fun e => e.1.index = idx)).map (·.1) = (es2.find? (fun e => e.1.index = idx)).map (·.1) := by
  intro es1
  induction es1 with
  | nil =>
    intro es2 h
    cases es2 with
    | nil => rfl
    | cons b l => simp [entKeys] at h
  | cons a l ih =>
    intro es2 h
    cases es2 with
    | nil => simp [entKeys] at h
    | cons b l2 =>
      simp only [entKeys, List.map_cons, List.cons.injEq, Prod.mk.injEq] at h
      obtain ⟨⟨_, hab⟩, hl⟩ := h
      simp only [List.find?_cons]
      rw [hab]
      by_cases hb : b.1.index = idx
      · simp [hb, hab]
      · simp only [hb, decide_false]
        exact ih l2 hl

theorem entKeys_append_LIFT (a b : Items) : entKeys (a ++ b) = entKeys a ++ entKeys b := by
  simp [entKeys]

theorem append1_keys_LIFT {r1 r2 : RefLog} (h : RefKeysEqLIFT r1 r2) (id : LogId) (p1 p2 : Bytes) :
    (∃ a b, r1.append1 id p1 = .ok a ∧ r2.append1 id p2 = .ok b ∧ RefKeysEqLIFT a b) ∨
    (∃ k, r1.append1 id p1 = .error k ∧ r2.append1 id p2 = .error k) := by
  obtain ⟨e1, e2, e3, e4, e5⟩ := h.fields
  unfold RefLog.append1
  rw [← e2]
  by_cases hle : optLe (some id) r1.last = true
  · right; exact ⟨.logIdReversal, by simp [hle], by simp [hle]⟩
  · simp only [hle, Bool.false_eq_true, if_false]
    cases hl : r1.last with
    | none =>
      left
      refine ⟨_, _, rfl, rfl, ?_, ?_⟩
      · simp only [RefLog.state, e1, e3, e4, e5]
      · simp only [entKeys_append_LIFT, h.2]; rfl
    | some l =>
      simp only
      by_cases hne : l.index + 1 ≠ id.index
      · right; exact ⟨.nonConsecutive, by simp [hne], by simp [hne]⟩
      · left
        simp only [hne, if_false]
        refine ⟨_, _, rfl, rfl, ?_, ?_⟩
        · simp only [RefLog.state, e1, e3, e4, e5]
        · simp only [entKeys_append_LIFT, h.2]; rfl

theorem appendAll_keys_LIFT (es : List (LogId × Bytes)) : ∀ {r1 r2 : RefLog}, RefKeysEqLIFT r1 r2 →
    (∃ a b, r1.appendAll es = .ok a ∧ r2.appendAll es = .ok b ∧ RefKeysEqLIFT a b) ∨
    (∃ k, r1.appendAll es = .error k ∧ r2.appendAll es = .error k) := by
  induction es with
  | nil => intro r1 r2 h; exact Or.inl ⟨r1, r2, rfl, rfl, h⟩
  | cons e rest ih =>
    intro r1 r2 h
    obtain ⟨id, p⟩ := e
    simp only [RefLog.appendAll]
    rcases append1_keys_LIFT h id p p with ⟨a, b, ha, hb, hab⟩ | ⟨k, ha, hb⟩
    · rw [ha, hb]; exact ih hab
    · rw [ha, hb]; exact Or.inr ⟨k, rfl, rfl⟩

theorem entKeys_filter_LIFT {es1 es2 : Items} (h : entKeys es1 = entKeys es2) (p : Nat → Bool) :
    entKeys (es1.filter (fun e => p e.1.index)) = entKeys (es2.filter (fun e => p e.1.index)) := by
  rw [entKeys_filter, entKeys_filter, h]

theorem truncateTo_keys_LIFT {r1 r2 : RefLog} (h : RefKeysEqLIFT r1 r2) (o : Option LogId) :
    RefKeysEqLIFT (r1.truncateTo o) (r2.truncateTo o) := by
  obtain ⟨e1, e2, e3, e4, e5⟩ := h.fields
  constructor
  · simp only [RefLog.truncateTo, RefLog.state, e1, e2, e3, e4, e5]
  · exact entKeys_filter_LIFT h.2 (fun i => decide (i < nextIndex o))

theorem entryAt_keys_LIFT {r1 r2 : RefLog} (h : RefKeysEqLIFT r1 r2) (idx : Nat) :
    (r1.entryAt idx).map (·.1) = (r2.entryAt idx).map (·.1) :=
  entKeys_find_LIFT idx _ _ h.2

theorem entryAt_cases_LIFT {r1 r2 : RefLog} (h : RefKeysEqLIFT r1 r2) (idx : Nat) :
    (r1.entryAt idx = none ∧ r2.entryAt idx = none) ∨
    ∃ a b, r1.entryAt idx = some a ∧ r2.entryAt idx = some b ∧ a.1 = b.1 := by
  have hk := entryAt_keys_LIFT h idx
  cases ha : r1.entryAt idx with
  | none =>
    cases hb : r2.entryAt idx with
    | none => exact .inl ⟨rfl, rfl⟩
    | some b => rw [ha, hb] at hk; cases hk
  | some a =>
    cases hb : r2.entryAt idx with
    | none => rw [ha, hb] at hk; cases hk
    | some b =>
      rw [ha, hb] at hk
      exact .inr ⟨a, b, rfl, rfl, Option.some.inj hk⟩

theorem call_keys_LIFT {r1 r2 : RefLog} (h : RefKeysEqLIFT r1 r2) (op : Op) :
    (∃ a b, r1.call op = .ok a ∧ r2.call op = .ok b ∧ RefKeysEqLIFT a b) ∨
    (∃ k, r1.call op = .error k ∧ r2.call op = .error k) := by
  obtain ⟨e1, e2, e3, e4, e5⟩ := h.fields
  cases op with
  | saveVote v =>
    simp only [RefLog.call, ← e1]
    by_cases hv : optLe r1.vote (some v) = true
    · left
      simp only [hv, if_true]
      exact ⟨_, _, rfl, rfl, by simp only [RefLog.state, e2, e3, e4, e5], h.2⟩
    · right; simp only [hv, Bool.false_eq_true, if_false]; exact ⟨_, rfl, rfl⟩
  | commit id =>
    simp only [RefLog.call, ← e3]
    by_cases hv : optLt (some id) r1.committed = true
    · right; simp only [hv, if_true]; exact ⟨_, rfl, rfl⟩
    · left
      simp only [hv, Bool.false_eq_true, if_false]
      exact ⟨_, _, rfl, rfl, by simp only [RefLog.state, e1, e2, e4, e5], h.2⟩
  | saveUserData d =>
    left
    simp only [RefLog.call]
    exact ⟨_, _, rfl, rfl, by simp only [RefLog.state, e1, e2, e3, e4], h.2⟩
  | append es => exact appendAll_keys_LIFT es h
  | truncate idx =>
    simp only [RefLog.call, ← e4]
    by_cases h1 : idx = nextIndex r1.purged
    · left
      simp only [h1, if_true]
      exact ⟨_, _, rfl, rfl, truncateTo_keys_LIFT h _⟩
    · simp only [h1, if_false]
      by_cases h2 : idx = 0
      · right; simp only [h2, if_true]; exact ⟨_, rfl, rfl⟩
      · simp only [h2, if_false]
        rcases entryAt_cases_LIFT h (idx - 1) with ⟨ha, hb⟩ | ⟨a, b, ha, hb, hk⟩
        · rw [ha, hb]
          exact .inr ⟨_, rfl, rfl⟩
        · rw [ha, hb]
          simp only
          rw [hk]
          exact .inl ⟨_, _, rfl, rfl, truncateTo_keys_LIFT h _⟩
  | purge upto =>
    simp only [RefLog.call, ← e4]
    left
    by_cases h1 : upto.index < nextIndex r1.purged
    · simp only [h1, if_true]; exact ⟨_, _, rfl, rfl, h⟩
    · simp only [h1, if_false]
      refine ⟨_, _, rfl, rfl, ?_, ?_⟩
      · simp only [RefLog.state, e1, e2, e3, e4, e5]
      · exact entKeys_filter_LIFT h.2 (fun i => decide (upto.index < i))

theorem legal_keys_LIFT {r1 r2 : RefLog} (h : RefKeysEqLIFT r1 r2) (op : Op) :
    r1.legal op = r2.legal op := by
  obtain ⟨e1, e2, e3, e4, e5⟩ := h.fields
  -- for every op but `purge`, legal = accepted
  have key : ∀ {o1 o2 : Except ErrKind RefLog},
      ((∃ a b, o1 = .ok a ∧ o2 = .ok b ∧ RefKeysEqLIFT a b) ∨ ∃ k, o1 = .error k ∧ o2 = .error k) →
      (match o1 with | .ok _ => true | .error _ => false) =
        (match o2 with | .ok _ => true | .error _ => false) := by
    rintro _ _ (⟨a, b, rfl, rfl, _⟩ | ⟨k, rfl, rfl⟩) <;> rfl
  cases op with
  | purge upto =>
    simp only [RefLog.legal, ← e4, ← e2]
    rcases entryAt_cases_LIFT h upto.index with ⟨ha, hb⟩ | ⟨a, b, ha, hb, hk⟩
    · rw [ha, hb]
    · rw [ha, hb]
      simp only [hk]
  | saveVote v => exact key (call_keys_LIFT h (.saveVote v))
  | commit id => exact key (call_keys_LIFT h (.commit id))
  | saveUserData d => exact key (call_keys_LIFT h (.saveUserData d))
  | append es => exact key (call_keys_LIFT h (.append es))
  | truncate idx => exact key (call_keys_LIFT h (.truncate idx))

theorem run_keys_LIFT (ops : List Op) : ∀ {r1 r2 : RefLog}, RefKeysEqLIFT r1 r2 →
    ∀ r1', r1.run ops = some r1' → ∃ r2', r2.run ops = some r2' ∧ RefKeysEqLIFT r1' r2' := by
  induction ops with
  | nil =>
    intro r1 r2 h r1' hr
    simp only [RefLog.run, Option.some.injEq] at hr
    subst hr
    exact ⟨r2, rfl, h⟩
  | cons op rest ih =>
    intro r1 r2 h r1' hr
    obtain ⟨a, hl, hc, hr1⟩ := RefLog.run_cons.1 hr
    rcases call_keys_LIFT h op with ⟨a', b, ha, hb, hab⟩ | ⟨k, ha, _⟩
    · cases ha.symm.trans hc
      obtain ⟨r2', h2, hk⟩ := ih hab r1' hr1
      exact ⟨r2', RefLog.run_cons.2 ⟨b, legal_keys_LIFT h op ▸ hl, hb, h2⟩, hk⟩
    · rw [ha] at hc; cases hc

end RaftLog
