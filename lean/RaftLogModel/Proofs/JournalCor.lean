/-
Journal invariant: consequences. The on-disk size is the sum of the chunks' extents
(`JInv.onDiskSize_extents`); where a journalled record sits (`call_segment`).
-/
import RaftLogModel.Proofs.JournalSys
namespace RaftLog

theorem Chained.head_eq {a : List Nat} {M : List (List Nat)} (h : Chained (a :: M)) (hM : M ≠ []) :
    lastOff a = (M.headD []).headD 0 := by
  cases M with
  | nil => exact absurd rfl hM
  | cons b M' => exact h.1

theorem chunks_sum (cl : List (List Nat)) (o : List Nat) (hc : Chained (cl ++ [o]))
    (hle : ∀ x ∈ cl ++ [o], x.headD 0 ≤ lastOff x) :
    sumNat ((cl ++ [o]).map (fun x => lastOff x - x.headD 0)) = lastOff o - ((cl ++ [o]).headD []).headD 0 ∧
      ((cl ++ [o]).headD []).headD 0 ≤ lastOff o := by
  induction cl with
  | nil =>
    have := hle o (by simp)
    refine ⟨?_, ?_⟩ <;>
      simp only [List.nil_append, List.map_cons, List.map_nil, sumNat, List.headD_cons, Nat.add_zero]
    exact this
  | cons a cl ih =>
    have hne : cl ++ [o] ≠ [] := by simp
    have h1 := Chained.head_eq (a := a) (M := cl ++ [o]) hc hne
    obtain ⟨i1, i2⟩ := ih hc.tail (fun x hx => hle x (List.mem_cons_of_mem _ hx))
    have ha := hle a (by simp)
    simp only [List.cons_append, List.map_cons, sumNat, List.headD_cons]
    rw [i1]
    omega

/-- `on_disk_size` is the sum of the extents of the live chunks (they abut). -/
theorem JInv.onDiskSize_extents {s : Store} {fs : Fs} {w : Worker} (hj : JInv s fs w) :
    s.onDiskSize = sumNat (s.chunks.map (fun offs => lastOff offs - offs.headD 0)) := by
  have hsum := chunks_sum (s.closed.map (fun c : Closed => c.offsets)) s.openOffsets hj.chained
    (fun x hx => Nat.le_of_lt (hj.chunk_ok x hx).1.head_lt)
  show s.onDiskSize = sumNat ((s.closed.map (fun c : Closed => c.offsets) ++ [s.openOffsets]).map _)
  rw [hsum.1]
  unfold Store.onDiskSize
  cases hc : s.closed with
  | nil => rfl
  | cons c rest => rfl

/-- The record a single-record call journals, if it journals one (a `purge` of an id with index u64::MAX
is refused before that: `call_purge_refused_D12`). -/
def Store.opRecord (s : Store) : Op → Option Record
  | .saveVote v => some (.saveVote v)
  | .commit id => some (.commit id)
  | .saveUserData d => some (.state { s.st with userData := d })
  | .append es =>
    match es with
    | [(id, p)] => some (.append id p)
    | _ => none
  | .truncate idx =>
    match nextIndexChecked s.st.purged with
    | none => none
    | some nxt =>
      if idx = nxt then some (.truncateAfter s.st.purged)
      else if idx = 0 then none
      else match s.logGet (idx - 1) with
        | none => none
        | some d => some (.truncateAfter (some d.id))
  | .purge upto =>
    match nextIndexChecked s.st.purged with
    | none => none
    | some nxt => if upto.index < nxt then none else some (.purgeUpto upto)

/-- Where the record is and what the open chunk's bytes become. -/
def SegGood (s : Store) (fs : Fs) (w : Worker) (r : Record) (res : Res Seg × Store × List Eff) : Prop :=
  ∀ seg, res.1 = .ok seg → seg = ⟨s.openEnd, (encRecord r).length⟩ ∧
    chunkBytes res.2.1 (effFs res.2.2 fs) (w.push (effQ res.2.2)) s.openId
      = chunkBytes s fs w s.openId ++ encRecord r

theorem CallRec.opRecord {s : Store} {op : Op} {r : Record} (hr : CallRec s op r) :
    s.opRecord op = some r := by
  cases hr with
  | truncPurged idx hn => simp [Store.opRecord, hn]
  | truncAt idx nxt e he hn h1 h2 hd => simp [Store.opRecord, hn, h1, h2, hd]
  | purge upto nxt hU hn hlt => simp [Store.opRecord, hn, hlt]
  | _ => rfl

theorem call_segment {s : Store} {fs : Fs} {w : Worker} (fsHas : Nat → Bool) (op : Op) (r : Record)
    (h : JInv s fs w) (hop : op.WF) (hfs : ∀ i, s.openEnd ≤ i → fsHas i = false)
    (hrec : s.opRecord op = some r) : SegGood s fs w r (s.call fsHas op) := by
  rcases s.call_cases fsHas op with ⟨x, e, hx⟩ | ⟨es, seg0, rfl, e⟩ | ⟨r', hr, e⟩ |
    ⟨upto, seg', s', effs, hr, ha, e⟩
  · -- nothing happened: `ok` only for a purge below the purge point, which journals no record
    rw [e]
    intro seg hs
    cases hs
    obtain ⟨_, upto, nxt, rfl, hn, hlt⟩ := hx
    simp [Store.opRecord, hn, hlt] at hrec
  · simp only [Store.opRecord] at hrec
    split at hrec
    · rename_i id p
      simp only [Option.some.injEq] at hrec
      subst hrec
      rw [e]
      by_cases hidx : id.index + 1 = U64
      · simp only [Store.appendBatch, if_pos hidx]
        intro seg hs
        cases hs
      have hcall : Store.appendBatch fsHas [(id, p)] s seg0 [] = s.appendAndApply fsHas (.append id p) := by
        simp only [Store.appendBatch, if_neg hidx]
        rcases s.appendAndApply fsHas (.append id p) with ⟨_ | _ | _, _, _⟩ <;> rfl
      rw [hcall]
      exact (appendAndApply_J fsHas h (r := .append id p) (hop (id, p) List.mem_cons_self) hfs).seg
    · cases hrec
  · cases hr.opRecord.symm.trans hrec
    rw [e]
    exact (appendAndApply_J fsHas h (hr.wf h hop) hfs).seg
  · cases hr.opRecord.symm.trans hrec
    have g := (appendAndApply_J fsHas h (hr.wf h hop) hfs).seg
    rw [ha] at g
    rw [e]
    intro seg hs
    obtain ⟨g1, g2⟩ := g seg hs
    exact ⟨g1, g2 ▸ chunkBytes_congr _ _ _ rfl rfl⟩

end RaftLog
