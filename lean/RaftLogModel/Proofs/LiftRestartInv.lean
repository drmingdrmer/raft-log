/-
`LiftInv` = crash invariant `CrashInvC5b` ∧ "removals are postponed only while the last sync has failed"
(`SysPostD14`) ∧ payload-cache invariant (`SysCacheInv`), and its four closure properties `lift_inv_fresh`,
`lift_inv_history`, `lift_inv_restart`, `lift_inv_recovered` (from `CrashInvC5b` alone): every theorem stated from `LiftInv` or one of its
parts holds after arbitrary mixtures of histories, clean restarts and crash recoveries. At the end: checkers
for the examples of Props/LiftRestart.lean.
-/
import RaftLogModel.Proofs.LiftRestart
import RaftLogModel.Proofs.LiftRestartCache
import RaftLogModel.Proofs.PostponedD14
import RaftLogModel.Props.C15Restart
namespace RaftLog

theorem SysCacheInv.run_exact {y : Sys} (h : SysCacheInv y) (more : List Step)
    (hlive : ∀ st ∈ more, st.live = true) (s : Store) (hs : (y.run more).store = some s) :
    s.cache.size = sumLen s.cache.items ∧ Sorted s.cache.items ∧ KeysLe s.cache.items s.st.last :=
  have := run_cacheInv y more hlive h s hs
  ⟨this.ok.size_eq, this.ok.sorted, this.le_last⟩

def LiftInv (y : Sys) (r : RefLog) (W : List Op) (A E K : Nat) : Prop :=
  CrashInvC5b y r W A E K ∧ SysPostD14 y ∧ SysCacheInv y

theorem LiftInv.crash {y : Sys} {r : RefLog} {W : List Op} {A E K : Nat} (h : LiftInv y r W A E K) :
    CrashInvC5b y r W A E K := h.1

theorem LiftInv.post {y : Sys} {r : RefLog} {W : List Op} {A E K : Nat} (h : LiftInv y r W A E K) :
    SysPostD14 y := h.2.1

theorem LiftInv.cache {y : Sys} {r : RefLog} {W : List Op} {A E K : Nat} (h : LiftInv y r W A E K) :
    SysCacheInv y := h.2.2

theorem lift_inv_fresh (cfg : Cfg) : LiftInv (Sys.fresh cfg) {} [] 0 0 0 :=
  ⟨fresh_CrashInv_C5b cfg, SysPostD14.fresh cfg, fresh_cacheInv cfg⟩

theorem lift_inv_history (steps : List Step) (y : Sys) (r r' : RefLog) (W : List Op) (A E K : Nat)
    (h : LiftInv y r W A E K) (hsteps : ∀ st ∈ steps, st.journal = true)
    (hr : r.run (stepOps steps) = some r') (hwf : ∀ op ∈ stepOps steps, op.WF ∧ op.small)
    (hnd : (y.run steps).worker.pc ≠ .dead) :
    LiftInv (y.run steps) r' (W ++ expandOps r (stepOps steps)) (y.ackRun steps A) E K :=
  ⟨run_CrashInv_C5b steps y r r' W A E K h.crash hsteps hr hwf hnd, h.post.run steps,
    run_cacheInv y steps (fun st hst => Step.live_of_journal (hsteps st hst)) h.cache⟩

theorem LiftInv.retarget_LIFT {y : Sys} {r : RefLog} {W : List Op} {A E K : Nat}
    (h : LiftInv y r W A E K) : ∃ s, y.store = some s ∧ LiftInv y r W A s.openEnd W.length := by
  obtain ⟨s, hs, h1⟩ := h.crash.retarget
  exact ⟨s, hs, h1, h.2⟩

theorem oldSynced_of_covered_LIFT {y : Sys} (hcov : SysCovered y)
    (hw : ∀ s, y.store = some s → y.worker.files.map FileEnt.id = [s.openId] ∧
      pendingAppends y.worker = []) : y.OldSyncedLIFT := by
  intro s hs f hf hdl hl
  obtain ⟨h1, h2⟩ := hw s hs
  rcases hcov f hf hdl hl with k | k
  · rw [h1] at k; simpa using k
  · rw [h2] at k; cases k

/-- `OldSyncedLIFT` holds when the clean worker's file list has one entry: no older file is
waiting for its `fdatasync`. -/
theorem lift_oldSynced_of_single_file {y : Sys} {r : RefLog} {W : List Op} {A E K : Nat}
    (h : CrashInvC5b y r W A E K) (hc : y.Clean) (h1 : y.worker.files.length = 1) :
    y.OldSyncedLIFT := by
  obtain ⟨s, p⟩ := h.store_LIFT
  obtain ⟨_, hi⟩ := p.hist
  obtain ⟨hpc, hqe, _⟩ := hc.idle p.alive
  apply oldSynced_of_covered_LIFT p.covered
  intro s2 hs2
  rw [p.store] at hs2; cases hs2
  obtain ⟨_, hcur⟩ := hi.inv.j.idle_cur_LIFT hpc hqe
  constructor
  · obtain ⟨a, hf⟩ := List.length_eq_one_iff.mp h1
    simp only [Worker.cur, hf, newestId, List.getLast?_singleton] at hcur
    simp [hf, hcur]
  · exact pendingAppends_quiet hpc hqe

theorem lift_inv_restart {y : Sys} {r : RefLog} {W : List Op} {A E K : Nat}
    (h : LiftInv y r W A E K) (hc : y.Clean) (cfg' : Cfg) :
    LiftInv ((y.step .drop).step (.openWith cfg')) r W A E K ∧
    ((y.step .drop).step (.openWith cfg')).Clean ∧
    ((y.step .drop).step (.openWith cfg')).OldSyncedLIFT := by
  have hcs := h.crash.csys
  have h1 := crashInv_clean_restart_LIFT h.crash hc cfg'
  refine ⟨⟨h1, (h.post.step _).step _, c15_restart_step y r cfg' hcs hc⟩,
    hc.restart_LIFT hcs cfg', oldSynced_of_covered_LIFT h1.covered_LIFT ?_⟩
  obtain ⟨s, s', _, k⟩ := restart_eq_LIFT hcs hc cfg'
  intro s2 hs2
  rw [k.sys] at hs2 ⊢
  obtain rfl := Option.some.inj hs2
  have e1 : s'.openId = s.openId := by simp [Store.openId, k.openOffsets]
  exact ⟨by simp [e1], rfl⟩

/-- `recovered_CrashInv_C5b` with the cache invariant and the postponed-removals invariant. -/
theorem lift_inv_recovered {y : Sys} {r : RefLog} {W : List Op} {A E K : Nat}
    (h : CrashInvC5b y r W A E K) (img : Fs) (hc : CrashImage y.fs img) (hnt : NoTornPredecessor img)
    (cfg' : Cfg) (htr : cfg'.truncate = true) :
    let y2 := (({ fs := img, cfg := cfg' } : Sys).open).2.1
    (({ fs := img, cfg := cfg' } : Sys).open).1 = .ok () ∧
    ∃ s' n r' A', y2.store = some s' ∧ RefLog.run {} (W.take n) = some r' ∧ (E ≤ A → K ≤ n) ∧
      LiftInv y2 r' (W.take n) A' s'.openEnd n ∧ y2.Clean ∧ y2.OldSyncedLIFT ∧ s'.cfg = cfg' := by
  obtain ⟨s', w', fs', evs, n, r', A', q1, q3, R⟩ := recovered_CrashInv_C5b h hc hnt cfg' htr
  have hci := recover_cacheInv_LIFT h hc hnt cfg' htr q1
  have hpo : SysPostD14 (({ fs := img, cfg := cfg' } : Sys).open).2.1 :=
    SysPostD14.step (y := { fs := img }) (fun h => absurd rfl h) (.openWith cfg')
  obtain ⟨pl, e4⟩ := R.worker
  rw [open_eq_recovered_C5b q1] at hpo ⊢
  have hstore : ∀ s2, (recoveredSysC5b cfg' s' w' fs').store = some s2 → s2 = s' :=
    fun s2 hs2 => (Option.some.inj hs2).symm
  refine ⟨rfl, s', n, r', A', rfl, R.run, q3, ⟨R.inv, hpo, fun s2 hs2 => hstore s2 hs2 ▸ hci⟩,
    R.clean, oldSynced_of_covered_LIFT R.covered fun s2 hs2 => ?_, R.cfgEq⟩
  obtain rfl := hstore s2 hs2
  show w'.files.map FileEnt.id = [s2.openId] ∧ pendingAppends w' = []
  rw [e4]
  exact ⟨rfl, rfl⟩

theorem unsynced_of_find_LIFT {fs : Fs} {i : Nat}
    (h : (fs.find i).map (fun f => (decide (f.durable < f.data.length), f.linked)) = some (true, true)) :
    ∃ f ∈ fs, f.id = i ∧ f.durable < f.data.length ∧ f.linked = true := by
  obtain ⟨f, hfind, hf⟩ := Option.map_eq_some_iff.mp h
  simp only [Prod.mk.injEq, decide_eq_true_eq] at hf
  exact ⟨f, List.mem_of_find?_eq_some hfind, Fs.find_id hfind, hf⟩

theorem not_covered_of_file_LIFT (y : Sys) (i : Nat)
    (h1 : (y.fs.find i).map (fun f => (decide (f.durable < f.data.length), f.linked)) = some (true, true))
    (h2 : ¬ Trk y.worker i) : ¬ SysCovered y := by
  obtain ⟨f, hmem, rfl, hd, hl⟩ := unsynced_of_find_LIFT h1
  exact fun h => h2 (h f hmem hd hl)

theorem not_oldSynced_of_file_LIFT (y : Sys) (i : Nat)
    (h1 : (y.fs.find i).map (fun f => (decide (f.durable < f.data.length), f.linked)) = some (true, true))
    (h2 : (y.store.map Store.openId == some i) = false) (h3 : y.store.isSome = true) :
    ¬ y.OldSyncedLIFT := by
  obtain ⟨f, hmem, rfl, hd, hl⟩ := unsynced_of_find_LIFT h1
  obtain ⟨s, hs⟩ := Option.isSome_iff_exists.mp h3
  intro h
  rw [hs, Option.map_some, ← h s hs f hmem hd hl] at h2
  simp at h2

/-- `NoTornPredecessor` as a computable check. -/
def noTornB_LIFT (img : Fs) : Bool :=
  (img.linkedIds.zip img.linkedIds.tail).all (fun ab =>
    match img.find ab.1 with
    | some g => (parseChunk g.data).2.1 == .clean && ab.1 + g.data.length == ab.2
    | none => false)

theorem mem_zip_tail_LIFT (a b : Nat) (post : List Nat) : ∀ (pre : List Nat),
    (a, b) ∈ (pre ++ a :: b :: post).zip (pre ++ a :: b :: post).tail := by
  intro pre
  induction pre with
  | nil => simp
  | cons x pre ih =>
    cases pre with
    | nil => simp
    | cons y pre' =>
      simp only [List.cons_append, List.tail_cons, List.zip_cons_cons, List.mem_cons]
      right
      simpa using ih

theorem noTorn_of_noTornB_LIFT {img : Fs} (h : noTornB_LIFT img = true) : NoTornPredecessor img := by
  intro pre a b post hl
  unfold noTornB_LIFT at h
  rw [List.all_eq_true] at h
  have := h (a, b) (by rw [hl]; exact mem_zip_tail_LIFT a b post pre)
  simp only at this
  cases hf : img.find a with
  | none => rw [hf] at this; cases this
  | some g =>
    rw [hf] at this
    simp only [Bool.and_eq_true, beq_iff_eq] at this
    exact ⟨g, rfl, this.1, this.2⟩

theorem run_append_one_LIFT (r : RefLog) (l id : LogId) (p : Bytes) (hl : r.last = some l)
    (h1 : optLe (some id) (some l) = false) (h2 : l.index + 1 = id.index) :
    ∃ r', r.run [.append [(id, p)]] = some r' := by
  simp [RefLog.run, RefLog.legal, RefLog.call, RefLog.appendAll, RefLog.append1, hl, h1, h2]

end RaftLog
