/-
C05: payload mirroring, store level. `PInvC5b s fs w r W` adds to the replay invariant: the entry-level writes
`W` reach `r`; the journal holds the write records of `W` but for the `N0` whose chunks were dropped
(`|W| = N0 + cntW L`); for every prefix `P` of the journal an index entry of the replay of `P` that points to
an `Append` record of `P` carries the payload of the reference log reached by the first `cntW P` writes. It is
meant for a store whose chunk table is never shortened (ALL dropped chunks put back, Proofs/RecovPayloadSys.lean).
-/
import RaftLogModel.Proofs.RecovStore
namespace RaftLog

def LPayC5b (L : List JOp) (W : List Op) (N0 : Nat) : Prop :=
  W.length = N0 + cntW L ∧ ∀ P, P <+: L → ∀ r' l, RefLog.run {} (W.take (N0 + cntW P)) = some r' →
    idxRun P [] = some l → ∀ e ∈ l, ∀ p, opAt e p ∈ P → (e.2.id, p) ∈ r'.entries

theorem LPayC5b.snoc {L : List JOp} {W Wn : List Op} {op : JOp} {N0 : Nat} (h : LPayC5b L W N0)
    (hlen : Wn.length = if op.isHead then 0 else 1)
    (hfull : ∀ r' l, RefLog.run {} (W ++ Wn) = some r' → idxRun (L ++ [op]) [] = some l →
      ∀ e ∈ l, ∀ p, opAt e p ∈ L ++ [op] → (e.2.id, p) ∈ r'.entries) :
    LPayC5b (L ++ [op]) (W ++ Wn) N0 := by
  obtain ⟨h1, h2⟩ := h
  have hc : cntW (L ++ [op]) = cntW L + Wn.length := by
    rw [cntW_append, hlen]
    cases hh : op.isHead <;> simp [cntW, hh]
  refine ⟨by rw [List.length_append, hc]; omega, ?_⟩
  intro P hP r' l hr hl
  rcases List.prefix_concat_iff.mp hP with e | e
  · subst e
    have : N0 + cntW (L ++ [op]) = (W ++ Wn).length := by rw [List.length_append, hc]; omega
    rw [this, List.take_length] at hr
    exact hfull r' l hr hl
  · have hle : N0 + cntW P ≤ W.length := by have := cntW_prefix_le e; omega
    rw [List.take_append_of_le_length hle] at hr
    exact h2 P e r' l hr hl

structure PInvC5b (s : Store) (fs : Fs) (w : Worker) (r : RefLog) (W : List Op) : Prop where
  inv : RInv s fs w r
  run : RefLog.run {} W = some r
  pay : ∃ jc jo N0, RepG s fs w jc jo ∧ LPayC5b (allOps s jc jo) W N0

theorem RInv.payG_C5b {s : Store} {fs : Fs} {w : Worker} {r : RefLog} (h : RInv s fs w r)
    {jc : List (Closed × List Record)} {jo : List Record} (g : RepG s fs w jc jo) : PayG s r jc jo := by
  obtain ⟨jc0, jo0, g0, gp0, _⟩ := h.rep
  obtain ⟨e1, e2⟩ := g.unique_C3b g0
  subst e1; subst e2
  exact gp0

theorem PInvC5b.transport {s s2 : Store} {fs fs2 : Fs} {w w2 : Worker} {r : RefLog} {W : List Op}
    (h : PInvC5b s fs w r W) (hinv : RInv s2 fs2 w2 r)
    (h1 : s2.st = s.st) (h2 : s2.log = s.log) (h3 : s2.openOffsets = s.openOffsets)
    (h5 : s2.closed = s.closed)
    (hb : ∀ id, chunkBytes s2 fs2 w2 id = chunkBytes s fs w id) : PInvC5b s2 fs2 w2 r W := by
  obtain ⟨jc, jo, N0, g, hg⟩ := h.pay
  exact ⟨hinv, h.run, ⟨jc, jo, N0, g.transport h1 h2 h3 h5 hb, by rw [allOps_congr h3]; exact hg⟩⟩

theorem RInv.payG_full_C5b {s : Store} {fs : Fs} {w : Worker} {r : RefLog} {W : List Op}
    (h : RInv s fs w r) {jc : List (Closed × List Record)} {jo : List Record} (g : RepG s fs w jc jo)
    (hrun : RefLog.run {} W = some r) : ∀ r'' l, RefLog.run {} W = some r'' →
      idxRun (allOps s jc jo) [] = some l → ∀ e ∈ l, ∀ p, opAt e p ∈ allOps s jc jo →
        (e.2.id, p) ∈ r''.entries := by
  intro r'' l hr'' hl
  obtain rfl := Option.some.inj (hrun.symm.trans hr'')
  obtain rfl := Option.some.inj (g.flat_run.2.symm.trans hl)
  exact h.payG_C5b g

theorem PInvC5b.applied {s : Store} {fs : Fs} {w : Worker} {r r' : RefLog} {W Wn : List Op}
    {rec : Record} (h : PInvC5b s fs w r W) (ok : StepOK s r r' rec) (hwf : rec.WF)
    (hw : r.run Wn = some r') (hlen : Wn.length = 1) :
    PInvC5b (s.applied rec r'.state) fs w r' (W ++ Wn) := by
  obtain ⟨jc, jo, N0, g, hg⟩ := h.pay
  have hrun : RefLog.run {} (W ++ Wn) = some r' := by
    rw [RefLog.run_append, h.run]; exact hw
  obtain ⟨g3, hops3⟩ := g.journal_C3 (s3 := s.applied rec r'.state) h.inv.j hwf rfl rfl rfl ok.hst
    (idxLogO_of_small ok.small _ _ _)
  have hinv' := h.inv.applied ok hwf
  refine ⟨hinv', hrun, jc, jo ++ [rec], N0, g3, ?_⟩
  have hfull := hinv'.payG_full_C5b g3 hrun
  rw [hops3] at hfull ⊢
  -- the record is a write, not the head of a chunk
  have hlt := h.inv.j.openId_lt
  have hnh : (JOp.isHead ⟨rec, s.openId, ⟨s.openEnd, (encRecord rec).length⟩⟩) = false := by
    simp only [JOp.isHead, beq_eq_false_iff_ne, ne_eq]; omega
  exact hg.snoc (by rw [hnh]; exact hlen) hfull

theorem PInvC5b.rotated {s : Store} {fs : Fs} {w : Worker} {r : RefLog} {W : List Op}
    (h : PInvC5b s fs w r W) :
    PInvC5b s.rotated (effFs (rotateEffs s) fs) (w.push (effQ (rotateEffs s))) r W := by
  obtain ⟨jc, jo, N0, g, hg⟩ := h.pay
  have hinv := h.inv.rotated
  obtain ⟨g4, hops⟩ := g.rotate_C3 h.inv.j h.inv.abs.log_below
  refine ⟨hinv, h.run, _, _, N0, g4, ?_⟩
  have hfull := hinv.payG_full_C5b g4 h.run
  rw [hops, ← List.append_nil W] at hfull ⊢
  exact hg.snoc (by simp [JOp.isHead]) hfull

theorem flush_P_C5b {s : Store} {fs : Fs} {w : Worker} {r : RefLog} {W : List Op}
    (h : PInvC5b s fs w r W) (cb : Option Nat) :
    PInvC5b (s.flush cb).1 (effFs (s.flush cb).2 fs) (w.push (effQ (s.flush cb).2)) r W :=
  h.transport (flush_R h.inv cb) rfl rfl rfl rfl (flush_bytes h.inv.j cb)

theorem PInvC5b.settle {s : Store} {fs : Fs} {w : Worker} {r : RefLog} {W : List Op}
    (h : PInvC5b s fs w r W) : PInvC5b s fs w.settle r W :=
  h.transport h.inv.settle rfl rfl rfl rfl
    (settle_bytes _ _ _)

theorem PInvC5b.of_cache {s : Store} {fs : Fs} {w : Worker} {r : RefLog} {W : List Op}
    (h : PInvC5b s fs w r W) (c : Cache) : PInvC5b { s with cache := c } fs w r W :=
  h.transport (h.inv.of_cache c) rfl rfl rfl rfl (fun id => chunkBytes_congr fs w id rfl rfl)

theorem PInvC5b.worker {s : Store} {c c' : WCtx} {r : RefLog} {W : List Op}
    (h : PInvC5b s c.fs c.w r W) (g : StepGood c c') (hids : Fs.ids c'.fs = Fs.ids c.fs) :
    PInvC5b s c'.fs c'.w r W :=
  h.transport (h.inv.worker g hids) rfl rfl rfl rfl
    (g.chunkBytes_eq _)

theorem PInvC5b.congr {s s2 : Store} {fs : Fs} {w : Worker} {r : RefLog} {W : List Op}
    (h : PInvC5b s fs w r W) (h1 : s2.st = s.st) (h2 : s2.log = s.log)
    (h3 : s2.openOffsets = s.openOffsets) (h4 : s2.pending = s.pending) (h5 : s2.closed = s.closed) :
    PInvC5b s2 fs w r W := by
  have hb : ∀ id, chunkBytes s2 fs w id = chunkBytes s fs w id := fun id => chunkBytes_congr fs w id h3 h4
  refine h.transport ⟨h.inv.j.of_fields h1 h2 h3 h4 h5, h.inv.abs.of_fields h1 h2 h3,
    h.inv.rep.transport h1 h2 h3 h5 hb⟩ h1 h2 h3 h5 hb

end RaftLog
