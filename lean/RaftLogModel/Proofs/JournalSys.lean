/-
The journal invariant under every step. `JInv.callerInv`: `JInv` is kept by the caller's moves for well-formed
records, hence by every call with `Op.WF` arguments, and so is any invariant that comes with it (`JInv.call_wf`);
`JInv.frame`: it is kept between calls. By Proofs/SysLive.lean `J` is then kept by every step the worker survives
and along histories (`run_J`). `AAGood`: where `append_and_apply` puts the record.
-/
import RaftLogModel.Proofs.JournalStore
import RaftLogModel.Proofs.SysLive
namespace RaftLog

structure AAGood (s : Store) (fs : Fs) (w : Worker) (r : Record) (res : Res Seg × Store × List Eff) : Prop where
  inv : JInv res.2.1 (effFs res.2.2 fs) (w.push (effQ res.2.2))
  openEnd : s.openEnd ≤ res.2.1.openEnd
  creates : ∀ i, Eff.create i ∈ res.2.2 → s.openEnd ≤ i ∧ i < res.2.1.openEnd
  seg : ∀ seg, res.1 = .ok seg → seg = ⟨s.openEnd, (encRecord r).length⟩ ∧
    chunkBytes res.2.1 (effFs res.2.2 fs) (w.push (effQ res.2.2)) s.openId
      = chunkBytes s fs w s.openId ++ encRecord r
  notExists : res.1 ≠ .err .exists
  rejected : ∀ k, res.1 = .err k → res.2.1 = s ∧ res.2.2 = []

theorem JInv.callerInv : CallerInv JInv fun _ r => r.WF where
  ne h := h.openBytes.ne_nil
  applied h hr hst := h.appliedRec hr hst
  rotated h _ := h.rotate
  overflow h hr _ := (h.journal (s3 := Store.journalled _ _) hr h.stWF h.logWF rfl rfl rfl).1
  popped upto h := (popObsolete_pre upto _).elim fun pre hpre => h.dropClosed pre rfl rfl rfl rfl hpre.1

theorem appendAndApply_J {s : Store} {fs : Fs} {w : Worker} (fsHas : Nat → Bool) {r : Record}
    (h : JInv s fs w) (hr : r.WF) (hfs : ∀ i, s.openEnd ≤ i → fsHas i = false) :
    AAGood s fs w r (s.appendAndApply fsHas r) := by
  obtain ⟨g, hne, _⟩ := appendAndApply_growth s r hfs
  refine ⟨JInv.callerInv.appendAndApply fsHas h hr, g.openEnd, g.creates, ?_, hne,
    fun k hk => ?_⟩
  · -- an `ok` result: the record is applied, and a rotation leaves the bytes of the old open chunk alone
    refine Store.appendAndApply_elim (s.appendAndApply fsHas r) rfl (fun _ _ _ hs => nomatch hs)
      (fun _ _ _ hs => nomatch hs) (fun _ _ _ _ hs => nomatch hs) ?_
    intro st' s2 hst hs2 s3 hs3
    rw [hs3, Store.applied_of_indexed st' h.openBytes.ne_nil hs2]
    have hj := h.appliedRec hr hst
    have e1 := Store.applied_openId (r := r) (st' := st') h.openBytes.ne_nil
    have e3 : chunkBytes (s.applied r st') fs w s.openId = chunkBytes s fs w s.openId ++ encRecord r := by
      rw [chunkBytes_applied fs w h.openBytes.ne_nil, if_pos rfl]
    refine ⟨fun _ seg hs => ⟨(Res.ok.inj hs).symm, by simpa [effFs, effQ] using e3⟩,
      fun _ _ _ hs => (nomatch hs), fun _ _ seg hs => ⟨(Res.ok.inj hs).symm, ?_⟩⟩
    rw [← e1, chunkBytes_rotated hj (Nat.ne_of_lt hj.openId_lt), e1, e3]
  · obtain ⟨h1, h2, _⟩ := appendAndApply_err (s := s) (fsHas := fsHas) (r := r)
      (s' := (s.appendAndApply fsHas r).2.1) (effs := (s.appendAndApply fsHas r).2.2)
      (by rw [← hk]) (fun e => hne (by rw [hk, e]))
    exact ⟨h1, h2⟩

theorem CallRec.wf {s : Store} {fs : Fs} {w : Worker} {op : Op} {r : Record} (hr : CallRec s op r)
    (h : JInv s fs w) (hop : op.WF) : r.WF := by
  cases hr with
  | saveVote v => exact hop
  | commit id => exact hop
  | userData d =>
    obtain ⟨h1, h2, h3, h4, _⟩ := h.stWF
    exact ⟨h1, h2, h3, h4, by cases d <;> simp [Op.WF] at hop ⊢ <;> exact hop⟩
  | truncPurged idx _ => exact h.stWF.2.2.2.1
  | truncAt idx nxt e he => exact h.logWF e he
  | purge upto => exact hop

/-- A call with well-formed arguments journals well-formed records: what `CallerInv.call` asks of an
invariant that comes with `JInv`. -/
theorem JInv.call_wf {I : Store → Fs → Worker → Prop} {G : Store → Record → Prop}
    (hI : CallerInv I G) (hj : ∀ {s fs w}, I s fs w → JInv s fs w) (hG : ∀ {s r}, r.WF → G s r)
    (fsHas : Nat → Bool) {op : Op} (hop : op.WF) {s : Store} {fs : Fs} {w : Worker} (h : I s fs w) :
    I (s.call fsHas op).2.1 (effFs (s.call fsHas op).2.2 fs) (w.push (effQ (s.call fsHas op).2.2)) :=
  hI.call fsHas op (fun h hr => hG (hr.wf (hj h) hop))
    (fun es e _ x hx _ => hG (by subst e; exact hop x hx)) h

theorem JInv.settle {s : Store} {fs : Fs} {w : Worker} (h : JInv s fs w) : JInv s fs w.settle :=
  h.transport (Worker.settle_ok h.wok) rfl rfl rfl [] rfl rfl
    (by rw [w.settle_announced]; exact List.suffix_refl _)
    fun id => by simp only [chunkBytes, w.settle_inflight]

theorem flush_J {s : Store} {fs : Fs} {w : Worker} (h : JInv s fs w) (cb : Option Nat) :
    JInv (s.flush cb).1 (effFs (s.flush cb).2 fs) (w.push (effQ (s.flush cb).2)) :=
  h.transport h.wok rfl rfl rfl [] rfl (by rw [effFs_flush]) (by rw [announced_flush]; exact List.suffix_refl _)
    (flush_bytes h cb)

theorem JInv.worker {s : Store} {c c' : WCtx} (h : JInv s c.fs c.w) (g : StepGood c c')
    (hids : Fs.ids c'.fs = Fs.ids c.fs) : JInv s c'.fs c'.w :=
  h.transport g.wok rfl rfl rfl [] rfl hids g.ann fun id => by simp only [chunkBytes, g.bytes]

theorem JInv.step_good {s : Store} {c : WCtx} (h : JInv s c.fs c.w) (out : Outcome)
    (hnd : (c.step out).w.pc ≠ .dead) : StepGood c (c.step out) :=
  c.step_good out h.wok (h.annFs _ (by simp [Worker.announced])) hnd

theorem JInv.frame : SysFrame JInv where
  flush cb h := flush_J h cb
  settle h := h.settle
  wstep out h _ hnd := (h.worker (h.step_good out hnd) (WCtx.step_ids _ out)).of_fields rfl rfl rfl rfl rfl
  drain h := h.of_fields rfl rfl rfl rfl rfl

theorem J.call {y : Sys} (h : J y) (op : Op) (hop : op.WF) : J (y.call op).2.1 :=
  Sys.Live.call h (JInv.call_wf JInv.callerInv id id _ hop) JInv.settle

theorem J.flush {y : Sys} (h : J y) (cb : Option Nat) : J (y.flush cb).2.1 :=
  Sys.Live.flush JInv.frame h cb

theorem J.worker {y : Sys} (h : J y) (out : Outcome) (hnd : (y.workerStep out).1.worker.pc ≠ .dead) :
    J (y.workerStep out).1 :=
  Sys.Live.worker JInv.frame h out hnd

theorem J.workerIdle {y : Sys} (h : J y) (hnd : y.workerIdle.1.worker.pc ≠ .dead) : J y.workerIdle.1 :=
  Sys.Live.workerIdle JInv.frame h hnd

theorem J.drain {y : Sys} (h : J y) : J y.drain :=
  Sys.Live.drain JInv.frame h

theorem Worker.fresh_inflight (id : Nat) : Worker.fresh.inflight id = [] := by
  simp [Worker.inflight, infl, Worker.rest, WPc.inHand, WPc.todoBytes, inflightFrom]

theorem chunkBytes_fresh (cfg : Cfg) :
    chunkBytes (Store.fresh cfg) Fs.fresh Worker.fresh 0 = encRecord (.state {}) := by
  simp [chunkBytes, fdata, Fs.find, Worker.fresh_inflight, Store.openId]

theorem JInv.fresh (cfg : Cfg) : JInv (Store.fresh cfg) Fs.fresh Worker.fresh := by
  have hwf := RState.wf_empty
  have hpos := encRecord_length_pos (.state {})
  have hann : Worker.fresh.announced = [0] := by
    simp [Worker.announced, Worker.cur, newestId, Worker.rest, WPc.inHand, annIds]
  -- no closed chunk, no index entry (`nofun` would have the elaborator evaluate the lists: dear)
  have hcl : ∀ {P : Closed → Prop}, ∀ c ∈ (Store.fresh cfg).closed, P c :=
    fun _ hc => absurd hc List.not_mem_nil
  refine {
    wok := trivial, stWF := hwf, logWF := fun _ he => absurd he List.not_mem_nil, fsLt := ?fsLt,
    annLast := by rw [hann]; rfl, annAsc := by rw [hann]; simp [Incr], annFs := by rw [hann]; simp [Fs.ids],
    chained := by simp [Store.chunks, emptyStore, Chained], closedLe := hcl, closedFs := hcl,
    openBytes := ?openBytes, closedBytes := hcl }
  case fsLt =>
    intro i hi
    obtain rfl : i = 0 := by simpa [Fs.ids] using hi
    simpa [Store.openEnd, lastOff] using hpos
  case openBytes =>
    show ChunkOK [0, 0 + _] (chunkBytes (Store.fresh cfg) Fs.fresh Worker.fresh 0)
    rw [chunkBytes_fresh]
    exact ChunkOK.fresh 0 hwf

theorem fresh_J (cfg : Cfg) : J (Sys.fresh cfg) :=
  Sys.Live.fresh (JInv.fresh cfg)

/-- A call never fails on `create_new` ("exists"): no file sits at or beyond
the journal end, so the rotation target is always free. -/
theorem J.call_not_exists {y : Sys} (h : J y) (op : Op) : (y.call op).1 ≠ .err .exists := by
  obtain ⟨s, hs, hd, hj⟩ := h
  rw [(Sys.call_eq y op hs hd).2]
  exact (call_growth s op (Fs.has_false_of_lt hj.fsLt)).2.1

theorem run_J (steps : List Step) : ∀ (y : Sys), J y → (∀ st ∈ steps, st.journal = true) →
    (∀ op ∈ stepOps steps, op.WF) → (y.run steps).worker.pc ≠ .dead → J (y.run steps) :=
  fun _ h hst hwf hnd =>
    Sys.Live.run (C := Op.WF) JInv.frame (fun hop h => JInv.call_wf JInv.callerInv id id _ hop h) steps h hst hwf hnd

end RaftLog
