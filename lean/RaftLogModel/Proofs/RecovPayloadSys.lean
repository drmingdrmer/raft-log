/-
C05: payload mirroring along histories. `TInvC5b`: `PInvC5b` holds of the store with ALL chunks dropped so
far put back (`T`, never shortened); the ids still to be unlinked are a suffix of the ids of `T`. Any further
property of that store with the same closure facts (`LiftRider`) rides along (`TSysK`): C05 uses none
(`TSysC5b`, equivalent to `TSysK` with the rider `True`: `tsys_iff`), C07 the freshness of the journal
(`FSysC7c`, Proofs/ReadRestartFresh.lean). The journal of the ghost store (fewer dropped chunks put back) is a
suffix of the total journal, so payload mirroring holds for it (`gpay_of_tsys_C5b`).
-/
import RaftLogModel.Proofs.RecovPayload
namespace RaftLog

structure TInvC5b (s : Store) (fs : Fs) (w : Worker) (r : RefLog) (W : List Op) (T : List Closed) :
    Prop where
  pinv : PInvC5b (s.liftC3b T) fs w r W
  ids : ∃ D, T.map Closed.id = D ++ (w.toRemove ++ s.removed)
  unl : UnlPostC3b w

def TSysC5b (y : Sys) (r : RefLog) (W : List Op) : Prop :=
  ∃ s T, y.store = some s ∧ TInvC5b s y.fs y.worker r W T

theorem TInvC5b.of_cache {s : Store} {fs : Fs} {w : Worker} {r : RefLog} {W : List Op} {T : List Closed}
    (h : TInvC5b s fs w r W T) (c : Cache) : TInvC5b { s with cache := c } fs w r W T :=
  ⟨h.pinv.of_cache c, h.ids, h.unl⟩

theorem TInvC5b.step {s : Store} {c : WCtx} {r : RefLog} {W : List Op} {T : List Closed}
    (out : Outcome) (h : TInvC5b s c.fs c.w r W T) (hnd : (c.step out).w.pc ≠ .dead) :
    TInvC5b s (c.step out).fs (c.step out).w r W T := by
  have hj := h.pinv.inv.j
  have hcur : c.w.cur ∈ Fs.ids c.fs := hj.annFs _ (by simp [Worker.announced])
  have g := WCtx.step_good c out hj.wok hcur hnd
  have hids := WCtx.step_ids c out
  have ts := WCtx.step_tstep_C3b c out hj.wok h.unl hnd
  refine ⟨h.pinv.worker g hids, ?_, ts.unl⟩
  obtain ⟨D, hD⟩ := h.ids
  rcases ts.tr with ⟨e1, _⟩ | ⟨i, e1, _, _⟩
  · exact ⟨D, by rw [e1]; exact hD⟩
  · exact ⟨D ++ [i], by rw [hD, e1]; simp⟩

theorem TInvC5b.settle {s : Store} {fs : Fs} {w : Worker} {r : RefLog} {W : List Op} {T : List Closed}
    (h : TInvC5b s fs w r W T) : TInvC5b s fs w.settle r W T :=
  ⟨h.pinv.settle, by rw [Worker.toRemove_settle]; exact h.ids, h.unl.settle⟩

theorem TInvC5b.flush {s : Store} {fs : Fs} {w : Worker} {r : RefLog} {W : List Op} {T : List Closed}
    (h : TInvC5b s fs w r W T) (cb : Option Nat) :
    TInvC5b (s.flush cb).1 (effFs (s.flush cb).2 fs) (w.push (effQ (s.flush cb).2)) r W T := by
  refine ⟨flush_P_C5b h.pinv cb, ?_, h.unl.push _⟩
  obtain ⟨D, hD⟩ := h.ids
  refine ⟨D, ?_⟩
  rw [toRemove_push_C3b, flush_rmIds_C3b]
  have : (s.flush cb).1.removed = [] := rfl
  rw [this, List.append_nil]
  exact hD

/-- `K s fs w g` reads only what `RepG.transport` keeps; its ghost `g` follows an accepted call as a `CallGhost`
(an op moves it to `nxt g op`, a journalled record as `chk` says, which reads no chunk table: `lift`). -/
structure LiftRider {G : Type} (K : Store → Fs → Worker → G → Prop) (nxt : G → Op → Option G)
    (chk : G → Store → RefLog → RefLog → Record → G → Prop) : Prop where
  transport : ∀ {s s2 : Store} {fs fs2 : Fs} {w w2 : Worker} {g : G}, K s fs w g →
    s2.st = s.st → s2.log = s.log → s2.openOffsets = s.openOffsets → s2.closed = s.closed →
    (∀ id, chunkBytes s2 fs2 w2 id = chunkBytes s fs w id) → K s2 fs2 w2 g
  ghost : CallGhost (fun g _ op g' => nxt g op = some g') chk
  lift : ∀ {s : Store} {r r' : RefLog} {rec : Record} {g g' : G} (T : List Closed),
    chk g s r r' rec g' → chk g (s.liftC3b T) r r' rec g'
  applied : ∀ {s : Store} {fs : Fs} {w : Worker} {r r' : RefLog} {g g' : G} {rec : Record},
    RInv s fs w r → K s fs w g → StepOK s r r' rec → rec.WF → chk g s r r' rec g' →
    K (s.applied rec r'.state) fs w g'
  rotated : ∀ {s : Store} {fs : Fs} {w : Worker} {r : RefLog} {g : G}, RInv s fs w r → K s fs w g →
    K s.rotated (effFs (rotateEffs s) fs) (w.push (effQ (rotateEffs s))) g

theorem LiftRider.none :
    LiftRider (fun _ _ _ (_ : Unit) => True) (fun _ _ => some ()) (fun _ _ _ _ _ _ => True) :=
  ⟨fun _ _ _ _ _ _ => trivial,
    ⟨fun _ _ _ _ _ _ _ => trivial, fun _ => rfl, fun _ _ _ => ⟨(), trivial, rfl⟩, fun _ _ => rfl⟩,
    fun _ _ => trivial, fun _ _ _ _ _ => trivial, fun _ _ => trivial⟩

section
variable {G : Type} {K : Store → Fs → Worker → G → Prop} {nxt : G → Op → Option G}
  {chk : G → Store → RefLog → RefLog → Record → G → Prop}

theorem LiftRider.settle (hK : LiftRider K nxt chk) {s : Store} {fs : Fs} {w : Worker} {g : G}
    (h : K s fs w g) : K s fs w.settle g :=
  hK.transport h rfl rfl rfl rfl (settle_bytes _ _ _)

structure TInvK (K : Store → Fs → Worker → G → Prop) (s : Store) (fs : Fs) (w : Worker) (r : RefLog)
    (W : List Op) (T : List Closed) (g : G) : Prop where
  tinv : TInvC5b s fs w r W T
  ride : K (s.liftC3b T) fs w g

theorem TInvK.of_cache (hK : LiftRider K nxt chk) {s : Store} {fs : Fs} {w : Worker} {r : RefLog}
    {W : List Op} {T : List Closed} {g : G} (h : TInvK K s fs w r W T g) (c : Cache) :
    TInvK K { s with cache := c } fs w r W T g :=
  ⟨h.tinv.of_cache c, hK.transport h.ride rfl rfl rfl rfl (fun id => chunkBytes_congr fs w id rfl rfl)⟩

theorem TInvK.step (hK : LiftRider K nxt chk) {s : Store} {c : WCtx} {r : RefLog} {W : List Op}
    {T : List Closed} {g : G} (out : Outcome) (h : TInvK K s c.fs c.w r W T g)
    (hnd : (c.step out).w.pc ≠ .dead) : TInvK K s (c.step out).fs (c.step out).w r W T g := by
  have hj := h.tinv.pinv.inv.j
  have sg := WCtx.step_good c out hj.wok (hj.annFs _ (by simp [Worker.announced])) hnd
  exact ⟨h.tinv.step out hnd,
    hK.transport h.ride rfl rfl rfl rfl (sg.chunkBytes_eq _)⟩

theorem TInvK.frame (hK : LiftRider K nxt chk) (r : RefLog) (W : List Op) (g : G) :
    SysFrame fun s fs w => ∃ T, TInvK K s fs w r W T g where
  flush cb := fun ⟨T, h⟩ => ⟨T, h.tinv.flush cb,
    hK.transport h.ride rfl rfl rfl rfl (flush_bytes h.tinv.pinv.inv.j cb)⟩
  settle := fun ⟨T, h⟩ => ⟨T, h.tinv.settle, hK.settle h.ride⟩
  wstep out := fun ⟨T, h⟩ _ hnd => ⟨T, (h.step hK out hnd).of_cache hK _⟩
  drain := fun ⟨T, h⟩ => ⟨T, h.of_cache hK _⟩

/-- `call_ghost` on the REAL store with the invariant of the lifted store as `I`: the caller's moves do not
look at the closed chunks. The chunks a purge drops after journalling its record join `T`, so the chunk table
of the lifted store is the one the journalled record left. -/
theorem TInvK.call (hK : LiftRider K nxt chk) {s : Store} {fs : Fs} {w : Worker} {r r' : RefLog}
    {W : List Op} {T : List Closed} {g g' : G} (fsHas : Nat → Bool) {op : Op}
    (h : TInvK K s fs w r W T g) (hfs : ∀ i, s.openEnd ≤ i → fsHas i = false)
    (hl : r.legal op = true) (hc : r.call op = .ok r') (hsm : op.small) (hwf : op.WF)
    (hg : nxt g op = some g') :
    ∃ T', TInvK K (s.call fsHas op).2.1 (effFs (s.call fsHas op).2.2 fs)
      (w.push (effQ (s.call fsHas op).2.2)).settle r' (W ++ op.expand1 r) T' g' := by
  have hnr := NoRmC3b.call s fsHas op
  obtain ⟨D, hD⟩ := h.tinv.ids
  obtain ⟨seg, s1, effs, ⟨hp, hk, hrm⟩, _, heq | ⟨upto, _, _, _, heq⟩⟩ :=
    call_ghost (CallGhost.writes.prod hK.ghost)
      (I := fun Wg r s1 fs w => PInvC5b (s1.liftC3b T) fs w r Wg.1 ∧ K (s1.liftC3b T) fs w Wg.2 ∧
        s1.removed = s.removed) (g := (W, g)) (g' := (W ++ op.expand1 r, g')) fsHas
      (fun q => q.1.inv.abs.of_fields rfl rfl rfl)
      (fun q ok hw ⟨⟨Wn, e, hrun, hlen⟩, hck⟩ =>
        have hrec := hw hwf q.1.inv.j.stWF q.1.inv.j.logWF
        ⟨e ▸ q.1.applied (ok.lift T) hrec hrun hlen,
          hK.applied q.1.inv q.2.1 (ok.lift T) hrec (hK.lift T hck), q.2.2⟩)
      (fun {_ _ s1 _ _} q _ =>
        have kcl : (s1.rotated.liftC3b T).closed = (s1.liftC3b T).rotated.closed :=
          (List.append_assoc _ _ _).symm
        ⟨q.1.rotated.congr rfl rfl rfl rfl kcl,
          hK.transport (hK.rotated q.1.inv q.2.1) rfl rfl rfl kcl
            (fun id => chunkBytes_congr _ _ id rfl rfl), q.2.2⟩)
      ⟨h.tinv.pinv, h.ride, rfl⟩ hfs hl hc hsm ⟨rfl, hg⟩
  · rw [heq] at hnr ⊢
    refine ⟨T, ⟨hp.settle, ⟨D, ?_⟩, (h.tinv.unl.push _).settle⟩, hK.settle hk⟩
    rw [Worker.toRemove_settle, toRemove_push_C3b, hnr, List.append_nil, hrm]
    exact hD
  · obtain ⟨pre, hpre, hids, _⟩ := popObsolete_pre upto s1.closed
    rw [heq] at hnr ⊢
    have kcl : ((s1.popped upto).liftC3b (T ++ pre)).closed = (s1.liftC3b T).closed := by
      simp only [Store.liftC3b_closed, List.append_assoc]
      exact congrArg _ hpre.symm
    refine ⟨T ++ pre, ⟨(hp.congr (s2 := (s1.popped upto).liftC3b (T ++ pre)) rfl rfl rfl rfl kcl).settle,
      ⟨D, ?_⟩, (h.tinv.unl.push _).settle⟩,
      hK.settle (hK.transport hk rfl rfl rfl kcl (fun id => chunkBytes_congr _ _ id rfl rfl))⟩
    rw [Worker.toRemove_settle, toRemove_push_C3b, hnr, List.append_nil]
    show _ = D ++ (w.toRemove ++ (s1.removed ++ (popObsolete upto s1.closed).1))
    rw [hids, hrm]
    simp only [List.map_append, hD, List.append_assoc]

/-- Like `TSysC5b`, whose statement it generalises, it has no liveness conjunct: `TSysK.step` takes
`y.worker.pc ≠ .dead` separately. -/
def TSysK (K : Store → Fs → Worker → G → Prop) (y : Sys) (r : RefLog) (W : List Op) (g : G) : Prop :=
  ∃ s T, y.store = some s ∧ TInvK K s y.fs y.worker r W T g

theorem TSysK.step (hK : LiftRider K nxt chk) {y : Sys} {r r' : RefLog} {W : List Op} {g g' : G}
    (h : TSysK K y r W g) (st : Step) (hd : y.worker.pc ≠ .dead)
    (hst : st.journal = true) (hr : r.run (stepOps [st]) = some r')
    (hwf : ∀ op, st = .call op → op.WF ∧ op.small) (hnd : (y.step st).worker.pc ≠ .dead)
    (hg : (stepOps [st]).foldlM nxt g = some g') :
    TSysK K (y.step st) r' (W ++ expandOps r (stepOps [st])) g' := by
  obtain ⟨s, T, hs, ht⟩ := h
  by_cases hnc : ∀ op, st ≠ .call op
  · -- between calls: `Sys.Live.step_noncall`
    rw [stepOps_noncall hnc] at hr hg ⊢
    cases hr
    cases hg
    obtain ⟨s', hs', _, T', h'⟩ :=
      Sys.Live.step_noncall (TInvK.frame hK r W g) ⟨s, hs, hd, T, ht⟩ hst hnc hnd
    rw [show expandOps r [] = [] from rfl, List.append_nil]
    exact ⟨s', T', hs', h'⟩
  obtain ⟨op, rfl⟩ : ∃ op, st = .call op := Classical.not_forall_not.1 hnc
  obtain ⟨hl, hc⟩ := RefLog.run_single.1 hr
  have hg1 : nxt g op = some g' := by simpa [stepOps] using hg
  have hex : expandOps r (stepOps [.call op]) = op.expand1 r := by
    simp [stepOps, expandOps, hc]
  rw [hex]
  obtain ⟨hopwf, hopsm⟩ := hwf op rfl
  have hfs : ∀ i, s.openEnd ≤ i → y.fs.has i = false :=
    Fs.has_false_of_lt (k := s.openEnd) ht.tinv.pinv.inv.j.fsLt
  obtain ⟨e1, _⟩ := Sys.call_eq y op hs hd
  show TSysK K (y.call op).2.1 r' (W ++ op.expand1 r) g'
  rw [e1]
  obtain ⟨T', h'⟩ := ht.call hK y.fs.has hfs hl hc hopsm hopwf hg1
  exact ⟨_, T', rfl, h'⟩

theorem run_TSysK (hK : LiftRider K nxt chk) (steps : List Step) : ∀ (y : Sys) (r r' : RefLog)
    (W : List Op) (g g' : G), TSysK K y r W g → (∀ st ∈ steps, st.journal = true) →
    r.run (stepOps steps) = some r' → (∀ op ∈ stepOps steps, op.WF ∧ op.small) →
    (y.run steps).worker.pc ≠ .dead → (stepOps steps).foldlM nxt g = some g' →
    TSysK K (y.run steps) r' (W ++ expandOps r (stepOps steps)) g' :=
  fun y r r' W g g' h hst hr hwf hnd hg =>
    -- the ghost: the writes and the rider's value; `TSysK` does not say that the worker is alive
    (Sys.run_induction_ghost (G := List Op × G) (Q := fun _ _ => True)
      (P := fun y r Wg => y.worker.pc ≠ .dead ∧ TSysK K y r Wg.1 Wg.2)
      (gr := fun Wg r ops Wg' => Wg'.1 = Wg.1 ++ expandOps r ops ∧ ops.foldlM nxt Wg.2 = some Wg'.2)
      (fun h => Prod.ext (by simpa [expandOps] using h.1) (by simpa using h.2.symm))
      (fun {Wg _ r r1 a _} h hr1 => by
        have h2 := h.2
        rw [List.foldlM_append] at h2
        obtain ⟨x, hx, hrest⟩ := Option.bind_eq_some_iff.1 h2
        exact ⟨(Wg.1 ++ expandOps r a, x), ⟨rfl, hx⟩,
          by rw [h.1, expandOps_append _ _ r r1 hr1, List.append_assoc], hrest⟩)
      steps hst
      (by
        intro y r r' Wg Wg' st hm ⟨halive, ht⟩ hr hC ⟨hW, hg⟩ hnd
        exact ⟨⟨hnd, hW ▸ ht.step hK st halive (hst st hm) hr
          (fun op e => hC op (mem_stepOps.2 (by rw [e]; exact List.mem_cons_self))) hnd hg⟩, trivial⟩)
      y r r' (W, g) (W ++ expandOps r (stepOps steps), g') ⟨Sys.alive_of_run hst hnd, h⟩ hr hwf
      ⟨rfl, hg⟩ hnd).1.2

end

theorem tsys_iff {y : Sys} {r : RefLog} {W : List Op} :
    TSysC5b y r W ↔ TSysK (fun _ _ _ (_ : Unit) => True) y r W () :=
  ⟨fun ⟨s, T, hs, h⟩ => ⟨s, T, hs, h, trivial⟩, fun ⟨s, T, hs, h⟩ => ⟨s, T, hs, h.tinv⟩⟩

theorem run_TSys_C5b (steps : List Step) (y : Sys) (r r' : RefLog) (W : List Op)
    (h : TSysC5b y r W) (hst : ∀ st ∈ steps, st.journal = true)
    (hr : r.run (stepOps steps) = some r') (hwf : ∀ op ∈ stepOps steps, op.WF ∧ op.small)
    (hnd : (y.run steps).worker.pc ≠ .dead) :
    TSysC5b (y.run steps) r' (W ++ expandOps r (stepOps steps)) :=
  tsys_iff.2 (run_TSysK LiftRider.none steps y r r' W () () (tsys_iff.1 h) hst hr hwf hnd
    (by induction stepOps steps <;> simp_all))

theorem PInvC5b.fresh (cfg : Cfg) : PInvC5b (Store.fresh cfg) Fs.fresh Worker.fresh {} [] := by
  refine ⟨RInv.fresh cfg, rfl, [], [.state {}], 0, RepG.fresh cfg, rfl, ?_⟩
  intro P hP r' l _ _ e _ p hop
  have := hP.subset hop
  simp [allOps, flatOps, chunkOps, opsFrom, opAt] at this

theorem TInvC5b.fresh (cfg : Cfg) : TInvC5b (Store.fresh cfg) Fs.fresh Worker.fresh {} [] [] :=
  ⟨PInvC5b.fresh cfg, ⟨[], rfl⟩, nofun⟩

theorem fresh_TSys_C5b (cfg : Cfg) : TSysC5b (Sys.fresh cfg) {} [] := by
  rw [Sys.fresh_eq]
  exact ⟨_, [], rfl, TInvC5b.fresh cfg⟩

theorem journal_suffix_C5b {s : Store} {fs : Fs} {w : Worker} {T cs : List Closed} {D : List Nat}
    {jcT jc : List (Closed × List Record)} {joT jo : List Record}
    (gT : RepG (s.liftC3b T) fs w jcT joT) (g : RepG (s.liftC3b cs) fs w jc jo)
    (hids : T.map Closed.id = D ++ cs.map Closed.id) :
    ∃ pre, allOps (s.liftC3b T) jcT joT = flatOps pre ++ allOps (s.liftC3b cs) jc jo := by
  have hjo : joT = jo :=
    encAll_inj_C3b gT.openRecs.wf g.openRecs.wf (by
      rw [← gT.openRecs.data, ← g.openRecs.data]; rfl)
  subst hjo
  have hidsT : jcT.map (·.1.id) = D ++ jc.map (·.1.id) := by
    have h1 : jcT.map (·.1.id) = (jcT.map (·.1)).map Closed.id := by rw [List.map_map]; rfl
    have h2 : jc.map (·.1.id) = (jc.map (·.1)).map Closed.id := by rw [List.map_map]; rfl
    rw [h1, h2, gT.closedEq, g.closedEq]
    simp only [Store.liftC3b_closed, List.map_append, hids, List.append_assoc]
  obtain ⟨pre, suf, hsplit, _, hsuf⟩ := List.map_eq_append_iff.mp hidsT
  obtain ⟨stT, lT, rT, _⟩ := gT.run
  obtain ⟨stG, lG, rG, _⟩ := g.run
  have hsufeq : suf = jc := by
    apply chunks_determined_C5b (Bf := fun id => chunkBytes s fs w id) suf jc hsuf
    · intro p hp
      have hpT : p ∈ jcT := by rw [hsplit]; exact List.mem_append_right _ hp
      exact ⟨gT.closedRecs p hpT, RepC.state_of_mem_C5b _ _ _ _ _ rT p hpT⟩
    · intro p hp
      exact ⟨g.closedRecs p hp, RepC.state_of_mem_C5b _ _ _ _ _ rG p hp⟩
  subst hsufeq
  refine ⟨pre, ?_⟩
  simp only [allOps, hsplit, flatOps_append, List.append_assoc, Store.liftC3b_openId]

theorem jpay_of_total_C5b {s : Store} {fs : Fs} {w : Worker} {r : RefLog} {W : List Op}
    {T cs : List Closed} {D : List Nat}
    (hT : PInvC5b (s.liftC3b T) fs w r W) (hids : T.map Closed.id = D ++ cs.map Closed.id) :
    JPayC5b (s.liftC3b cs) fs w W := by
  intro jc jo N0 g hN P hP r' l hr hl e he p hop
  obtain ⟨jcT, joT, NT, gT, hcnt, hpay⟩ := hT.pay
  obtain ⟨pre, hsuf⟩ := journal_suffix_C5b gT g hids
  rw [hsuf, cntW_append] at hcnt
  have hN0 : N0 = NT + cntW (flatOps pre) := by omega
  have hPT : flatOps pre ++ P <+: allOps (s.liftC3b T) jcT joT := by
    rw [hsuf]; exact (List.prefix_append_right_inj _).mpr hP
  obtain ⟨t, ht⟩ := hPT
  have hfull := gT.flat_run.2
  rw [← ht] at hfull
  obtain ⟨lT, k1, _⟩ := idxRun_prefix hfull
  obtain ⟨lD, k2, k3⟩ := idxRun_prefix k1
  obtain ⟨l0, m1, m2⟩ := idxRun_mono SortedLog.nil (fun e he => by cases he) k3
  rw [hl] at m1
  injection m1 with m1
  subst m1
  refine hpay (flatOps pre ++ P) ⟨t, ht⟩ r' lT ?_ k1 e (m2 e he) p (List.mem_append_right _ hop)
  rw [cntW_append, ← Nat.add_assoc, ← hN0]
  exact hr

theorem gpay_of_tsys_C5b {y : Sys} {r : RefLog} {W : List Op} (ht : TSysC5b y r W) : GPayC5b y W := by
  intro s r2 A E K Bh gs hs hg
  obtain ⟨s0, T, hs0, hT⟩ := ht
  rw [hs] at hs0; cases hs0
  obtain ⟨D, hD⟩ := hT.ids
  exact jpay_of_total_C5b hT.pinv (by rw [hD, hg.order])

end RaftLog
