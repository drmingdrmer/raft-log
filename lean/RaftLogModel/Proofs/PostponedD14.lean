/-
D14 — the removal postponed by a failed sync is retried after every batch (`WCtx.finishBatch`).
Hence removals are postponed only while the last sync has failed, at every park point
(`PostponedOnlyAfterFailedSyncD14`; it needs the shape fact that the request that ended a batch is
not a write, `WPc.tailNotWriteD14`, established by `collectBatch`, so both are carried together);
and an all-ok run from a state with a write request in hand or queued (`Worker.willSyncD14`), or
whose last sync did not fail, ends with a good last sync and nothing postponed.
-/
import RaftLogModel.Proofs.SysLive
namespace RaftLog

/-- Chunk removals are postponed only while the last sync has failed: as soon as a batch syncs
fine, the postponed removals are started. -/
structure PostponedOnlyAfterFailedSyncD14 (w : Worker) : Prop where
  tail : w.pc.tailNotWriteD14
  post : w.postponed ≠ [] → w.lastSyncFailed = true

theorem WCtx.nonFlush_removeChunks_goodD14 (c : WCtx) (ids : List Nat) (hl : c.w.lastSyncFailed = false) :
    (c.nonFlush (.removeChunks ids)).w.postponed = [] := by
  rcases c.nonFlush_cases (.removeChunks ids) with ⟨c0, k⟩ | ⟨_, _, _, _, e⟩
  · rw [k.eq, WCtx.toRecv_postponed]
    rcases k.post with ⟨hp, hz⟩ | ⟨_, _, ht, _⟩
    · rw [hp]; exact (List.append_eq_nil_iff.mp (hz ids rfl).2).1
    · rw [hl] at ht; cases ht
  · rw [e]

theorem tailReq_of_notWriteD14 {t : Option WReq} (ht : ∀ r, t = some r → r.isWrite = false) :
    tailReq t = .removeChunks (tailIds t) := by
  cases t with
  | none => rfl
  | some r =>
    cases r with
    | write u d cb => exact absurd (ht _ rfl) (by simp [WReq.isWrite])
    | appendFile n p => rfl
    | removeChunks ids => rfl

/-- What the retry after every batch buys: a batch whose sync succeeded leaves nothing postponed,
whatever its trailing request is. -/
theorem WCtx.finishBatch_good_postponedD14 (c : WCtx) (b : List WReq) (t : Option WReq)
    (ht : ∀ r, t = some r → r.isWrite = false) : (c.finishBatch b t true).w.postponed = [] := by
  rw [WCtx.finishBatch_eq, tailReq_of_notWriteD14 ht]
  exact WCtx.nonFlush_removeChunks_goodD14 _ _ (by simp)

theorem WCtx.nonFlush_postD14 (c : WCtx) (r : WReq) (h : c.w.postponed ≠ [] → c.w.lastSyncFailed = true) :
    (c.nonFlush r).w.postponed ≠ [] → (c.nonFlush r).w.lastSyncFailed = true := by
  rw [WCtx.nonFlush_lsf]
  rcases c.nonFlush_postponed r with k | ⟨ids, _, hl, _⟩ | ⟨ids, _, _, _, k⟩
  · rw [k]; exact h
  · exact fun _ => hl
  · intro hne; exact absurd k hne

theorem WCtx.finishBatch_postD14 (c : WCtx) (b : List WReq) (t : Option WReq) (ok : Bool)
    (ht : ∀ r, t = some r → r.isWrite = false) :
    (c.finishBatch b t ok).w.postponed ≠ [] → (c.finishBatch b t ok).w.lastSyncFailed = true := by
  rw [WCtx.finishBatch_lsf]
  cases ok with
  | false => exact fun _ => rfl
  | true => intro hne; exact absurd (c.finishBatch_good_postponedD14 b t ht) hne

theorem WCtx.startSync_postD14 (c : WCtx) (b : List WReq) (t : Option WReq)
    (ht : ∀ r, t = some r → r.isWrite = false) (h : c.w.postponed ≠ [] → c.w.lastSyncFailed = true) :
    (c.startSync b t).w.postponed ≠ [] → (c.startSync b t).w.lastSyncFailed = true := by
  rcases c.startSync_cases b t with ⟨_, e⟩ | ⟨f, _, e⟩ | ⟨_, e⟩ <;> rw [e]
  · exact c.finishBatch_postD14 b t true ht
  · exact h
  · exact h

theorem WCtx.startWrites_postD14 (c : WCtx) (b : List WReq) (t : Option WReq)
    (ht : ∀ r, t = some r → r.isWrite = false) (h : c.w.postponed ≠ [] → c.w.lastSyncFailed = true) :
    (c.startWrites b t).w.postponed ≠ [] → (c.startWrites b t).w.lastSyncFailed = true := by
  rcases c.startWrites_cases b t with ⟨_, e⟩ | ⟨_, e⟩ <;> rw [e]
  · exact c.startSync_postD14 b t ht h
  · exact h

/-- The `post` half is a fact about where a step ENDS — between the moves `ack true` and `retry` of
the worker's view it is false — so it goes block by block; the `tail` half is `WCtx.step_tail`. -/
theorem WCtx.step_postD14 (c : WCtx) (out : Outcome) (h : PostponedOnlyAfterFailedSyncD14 c.w) :
    PostponedOnlyAfterFailedSyncD14 (c.step out).w := by
  have hp := h.post
  refine ⟨c.step_tail out h.tail, ?_⟩
  apply c.step_w_elim (P := fun w => w.postponed ≠ [] → w.lastSyncFailed = true) out
  case dead =>
    exact fun _ => hp
  case recv =>
    intro c0 e _; simpa [e] using hp
  case gotW =>
    intro r _ _
    exact WCtx.startWrites_postD14 _ _ _ (collectBatch_tail 1024 c.w.queue) hp
  case gotN =>
    intro r _ _; exact c.nonFlush_postD14 r hp
  case sync =>
    intro c0 todo b t e hpc _
    exact c0.startSync_postD14 b t (h.tail.of_batch (.inl ⟨_, hpc⟩)) (e ▸ hp)
  case write =>
    intro d rest todo' b t _ _ _; exact hp
  case die =>
    intro _; exact hp
  case finish =>
    intro c0 b t ok _ hpc _ _; exact c0.finishBatch_postD14 b t ok (h.tail.of_batch (.inr hpc))
  case soOk =>
    intro c0 b t f rest hpc _ _ e
    exact c0.startSync_postD14 b t (h.tail.of_batch (.inr (.inl hpc))) (e ▸ hp)
  case ulMore =>
    intro i j rest _ _; exact hp

theorem PostponedOnlyAfterFailedSyncD14.applyEffs {w : Worker} (h : PostponedOnlyAfterFailedSyncD14 w)
    (effs : List Eff) (fs : Fs) (evs : List Ev) :
    PostponedOnlyAfterFailedSyncD14 (applyEffs effs fs w evs).2.2.1 := by
  obtain ⟨q, e, _⟩ := applyEffs_worker effs fs w evs
  rw [e]
  exact ⟨h.tail, h.post⟩

theorem PostponedOnlyAfterFailedSyncD14.settle {w : Worker} (h : PostponedOnlyAfterFailedSyncD14 w) :
    PostponedOnlyAfterFailedSyncD14 w.settle := by
  rcases w.settle_cases with ⟨r, q, _, _, e⟩ | ⟨_, e⟩ <;> rw [e]
  · exact ⟨trivial, h.post⟩
  · exact h

def SysPostD14 (y : Sys) : Prop := y.store ≠ none → PostponedOnlyAfterFailedSyncD14 y.worker

theorem SysPostD14.step {y : Sys} (h : SysPostD14 y) (st : Step) : SysPostD14 (y.step st) :=
  Sys.step_worker_inv (I := PostponedOnlyAfterFailedSyncD14) (C := fun _ => True) trivial
    (fun c out _ => c.step_postD14 out) (fun effs fs _ evs h => h.applyEffs effs fs evs) (fun _ h => h.settle)
    (fun _ => ⟨trivial, fun hne => absurd rfl hne⟩) h st fun _ _ => trivial

theorem SysPostD14.fresh (cfg : Cfg) : SysPostD14 (Sys.fresh cfg) := by
  have : SysPostD14 ({ cfg := cfg } : Sys) := fun h => absurd rfl h
  exact this.step (.openWith cfg)

theorem SysPostD14.run {y : Sys} (h : SysPostD14 y) (steps : List Step) : SysPostD14 (y.run steps) :=
  Sys.run_induct (C := fun _ => True) (fun _ st _ h => h.step st) h fun _ _ => trivial

/-- The control state will finish a batch (with a sync). -/
def WPc.syncsD14 : WPc → Prop
  | .got r => r.isWrite = true
  | .writing _ _ _ => True
  | .syncOld _ _ => True
  | .syncNew _ _ => True
  | _ => False

/-- A write request is in hand or queued: the worker will sync (again) before it is quiet. -/
def Worker.willSyncD14 (w : Worker) : Prop := w.pc.syncsD14 ∨ ∃ r ∈ w.queue, r.isWrite = true

-- decidable, for the `decide` of the examples in Props/C14Busy
instance (pc : WPc) : Decidable pc.syncsD14 := by
  unfold WPc.syncsD14
  split <;> infer_instance

instance (w : Worker) : Decidable w.willSyncD14 := by
  unfold Worker.willSyncD14
  infer_instance

theorem WCtx.toRecv_willSyncD14 (c : WCtx) (h : ∃ r ∈ c.w.queue, r.isWrite = true) :
    c.toRecv.w.willSyncD14 := by
  obtain ⟨r, hr, hw⟩ := h
  rcases c.toRecv_cases with ⟨r0, q, hq, e⟩ | ⟨hq, _, _⟩ | ⟨hq, _, _⟩
  · rw [e]
    rw [hq] at hr
    rcases List.mem_cons.mp hr with k | k
    · subst k; exact .inl hw
    · exact .inr ⟨r, k, hw⟩
  · rw [hq] at hr; cases hr
  · rw [hq] at hr; cases hr

theorem WCtx.nonFlush_willSyncD14 (c : WCtx) (r0 : WReq) (h : ∃ r ∈ c.w.queue, r.isWrite = true) :
    (c.nonFlush r0).w.willSyncD14 := by
  rcases c.nonFlush_cases r0 with ⟨c0, k⟩ | ⟨ids, _, _, _, e⟩
  · rw [k.eq]; exact c0.toRecv_willSyncD14 (by rw [k.queue]; exact h)
  · rw [e]; exact .inr h

theorem Worker.willSyncD14.of_pc {w : Worker} {pc : WPc} (e : w.pc = pc) (h : pc.syncsD14) :
    w.willSyncD14 := .inl (by rw [e]; exact h)

theorem Worker.willSyncD14.queue_of_not {w : Worker} (h : w.willSyncD14) (hn : ¬ w.pc.syncsD14) :
    ∃ r ∈ w.queue, r.isWrite = true := h.resolve_left hn

theorem WCtx.startWrites_willSyncD14 (c : WCtx) (b : List WReq) (t : Option WReq) (hf : c.w.files ≠ []) :
    (c.startWrites b t).w.willSyncD14 := by
  obtain ⟨pc, e, k⟩ := c.startWrites_frame b t hf
  rw [e]
  rcases k with k | k | k <;> exact .of_pc rfl (by rw [k]; trivial)

theorem WCtx.startSync_willSyncD14 (c : WCtx) (b : List WReq) (t : Option WReq) (hf : c.w.files ≠ []) :
    (c.startSync b t).w.willSyncD14 := by
  obtain ⟨pc, e, k⟩ := c.startSync_frame b t hf
  rw [e]
  rcases k with k | k <;> exact .of_pc rfl (by rw [k]; trivial)

theorem WCtx.step_ok_willSyncD14 (c : WCtx) (hw : c.w.WF) (hp : PostponedOnlyAfterFailedSyncD14 c.w)
    (h : c.w.willSyncD14) :
    (c.step .ok).w.willSyncD14 ∨
      ((c.step .ok).w.lastSyncFailed = false ∧ (c.step .ok).w.postponed = []) := by
  have hf : c.w.pc ≠ .dead → c.w.files ≠ [] := hw.files_ne
  apply c.step_w_elim (P := fun w' => w'.willSyncD14 ∨ (w'.lastSyncFailed = false ∧ w'.postponed = [])) .ok
  case dead =>
    exact fun _ => .inl h
  case recv =>
    intro c0 e hpc
    refine .inl (c0.toRecv_willSyncD14 (e ▸ h.queue_of_not ?_))
    rcases hpc with hpc | hpc | ⟨i, hpc, _⟩ <;> rw [hpc] <;> exact id
  case gotW =>
    intro r hpc _; exact .inl (WCtx.startWrites_willSyncD14 _ _ _ (hf (by simp [hpc])))
  case gotN =>
    intro r hpc hr
    exact .inl (c.nonFlush_willSyncD14 r (h.queue_of_not (by rw [hpc]; simp [WPc.syncsD14, hr])))
  case sync =>
    intro c0 todo b t e hpc _; exact .inl (c0.startSync_willSyncD14 b t (e ▸ hf (by simp [hpc])))
  case write =>
    intro d rest todo' b t _ _ _; exact .inl (.of_pc rfl trivial)
  case die =>
    intro k; cases (WCtx.dies_cases k).1
  case finish =>
    intro c0 b t ok _ hpc hno _
    cases ok with
    | false => cases hno rfl
    | true => exact .inr ⟨by simp, c0.finishBatch_good_postponedD14 b t (hp.tail.of_batch (.inr hpc))⟩
  case soOk =>
    intro c0 b t f rest hpc hf' _ e
    exact .inl (c0.startSync_willSyncD14 b t (e ▸ hw.syncOld_rest hpc hf'))
  case ulMore =>
    intro i j rest hpc _; exact .inl (.inr (h.queue_of_not (by rw [hpc]; exact id)))

theorem WCtx.step_ok_syncOrCleanD14 (c : WCtx) (hw : c.w.WF) (hp : PostponedOnlyAfterFailedSyncD14 c.w)
    (h : c.w.willSyncD14 ∨ (c.w.lastSyncFailed = false ∧ c.w.postponed = [])) :
    (c.step .ok).w.willSyncD14 ∨
      ((c.step .ok).w.lastSyncFailed = false ∧ (c.step .ok).w.postponed = []) := by
  rcases h with h | ⟨h1, h2⟩
  · exact c.step_ok_willSyncD14 hw hp h
  · exact .inr (c.step_clean .ok hw (by simp) h1 h2)

theorem Worker.not_willSync_of_quietD14 {w : Worker} (hw : w.WF) (hq : w.quiet = true) : ¬ w.willSyncD14 := by
  have key : ¬ w.pc.syncsD14 ∧ w.queue = [] := by
    rcases Worker.quiet_cases hq with ⟨hpc, hqe⟩ | hpc
    · exact ⟨fun k => by rw [hpc] at k; exact k, hqe⟩
    · exact ⟨fun k => by rw [hpc] at k; exact k, hw.dead_queue hpc⟩
  rintro (k | ⟨r, hr, _⟩)
  · exact key.1 k
  · rw [key.2] at hr; cases hr

theorem WCtx.runQuiet_cleanD14 (n : Nat) (c : WCtx) (hw : c.w.WF) (hp : PostponedOnlyAfterFailedSyncD14 c.w)
    (h : c.w.willSyncD14 ∨ c.w.lastSyncFailed = false) (hq : (WCtx.runQuiet n c).w.quiet = true) :
    (WCtx.runQuiet n c).w.lastSyncFailed = false ∧ (WCtx.runQuiet n c).w.postponed = [] := by
  have h0 : c.w.willSyncD14 ∨ (c.w.lastSyncFailed = false ∧ c.w.postponed = []) := by
    rcases h with h | h
    · exact .inl h
    · refine .inr ⟨h, ?_⟩
      cases hpo : c.w.postponed with
      | nil => rfl
      | cons i rest =>
        have := hp.post (by rw [hpo]; simp)
        rw [h] at this; cases this
  obtain ⟨hwq, _, hcl⟩ := WCtx.runQuiet_induct_wf
    (P := fun c => PostponedOnlyAfterFailedSyncD14 c.w ∧
      (c.w.willSyncD14 ∨ (c.w.lastSyncFailed = false ∧ c.w.postponed = [])))
    (fun c hw hc => ⟨c.step_postD14 .ok hc.1, c.step_ok_syncOrCleanD14 hw hc.1 hc.2⟩) n c hw ⟨hp, h0⟩
  exact hcl.resolve_left (Worker.not_willSync_of_quietD14 hwq hq)

theorem Sys.workerIdle_cleanD14 (y : Sys) (s : Store) (hs : y.store = some s) (hw : y.worker.WF)
    (ht : y.worker.TodoOK) (hp : PostponedOnlyAfterFailedSyncD14 y.worker)
    (h : y.worker.willSyncD14 ∨ y.worker.lastSyncFailed = false) :
    (y.step .workerIdle).worker.lastSyncFailed = false ∧ (y.step .workerIdle).worker.postponed = [] := by
  rw [y.step_workerIdle_eq hs]
  exact WCtx.runQuiet_cleanD14 _ (y.wctx s) hw hp h (WCtx.runQuiet_fuel_quiet _ ht)

theorem Sys.flush_willSyncD14 (y : Sys) (cb : Option Nat) (s : Store) (hs : y.store = some s)
    (hd : y.worker.pc ≠ .dead) : (y.step (.flush cb)).worker.willSyncD14 := by
  show (y.flush cb).2.1.worker.willSyncD14
  rw [Sys.flush_eq y cb hs hd]
  have hmem : WReq.write s.openEnd s.pending cb ∈ (y.worker.push (effQ (s.flush cb).2)).queue := by
    simp only [Worker.push, Store.flush, List.mem_append]
    right
    split <;> simp [effQ]
  show ((y.worker.push (effQ (s.flush cb).2)).settle).willSyncD14
  rcases (y.worker.push (effQ (s.flush cb).2)).settle_cases with ⟨r, q, _, hq, e⟩ | ⟨_, e⟩ <;> rw [e]
  · rw [hq] at hmem
    rcases List.mem_cons.mp hmem with k | k
    · exact .inl (by rw [← k]; rfl)
    · exact .inr ⟨_, k, rfl⟩
  · exact .inr ⟨_, hmem, rfl⟩

end RaftLog
