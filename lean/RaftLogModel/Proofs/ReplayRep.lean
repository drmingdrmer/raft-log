/-
C02 groundwork: replaying a journal chunk by chunk, cache-free.

`RepC jc st l st' l'`: replaying the closed chunks `jc` (each with its records)
from state `st` and index map `l` succeeds and ends in `st'`, `l'`; after every
chunk the state is the chunk's recorded closing state and every index entry is
at or below its `last`. `RepC.drop_one`: the oldest chunk can be dropped if no index entry
at or below its closing `last` survives to the end.
-/
import RaftLogModel.Proofs.ReplayAbs
namespace RaftLog

def opsFrom (chunk : Nat) : Nat → List Record → List JOp
  | _, [] => []
  | start, r :: rs =>
    ⟨r, chunk, ⟨start, (encRecord r).length⟩⟩ :: opsFrom chunk (start + (encRecord r).length) rs

/-- The records of chunk `id` (first record at global offset `id`). -/
def chunkOps (id : Nat) (rs : List Record) : List JOp := opsFrom id id rs

theorem opsFrom_append (chunk start : Nat) (a b : List Record) :
    opsFrom chunk start (a ++ b) = opsFrom chunk start a ++ opsFrom chunk (start + (encAll a).length) b := by
  induction a generalizing start with
  | nil => simp [opsFrom]
  | cons r rs ih =>
    simp only [List.cons_append, opsFrom, encAll_cons, List.length_append, ih]
    rw [Nat.add_assoc]

theorem chunkOps_snoc (id : Nat) (rs : List Record) (r : Record) :
    chunkOps id (rs ++ [r]) = chunkOps id rs ++ [⟨r, id, ⟨id + (encAll rs).length, (encRecord r).length⟩⟩] := by
  simp [chunkOps, opsFrom_append, opsFrom]

theorem opsFrom_off_lt {chunk start : Nat} {rs : List Record} {op : JOp}
    (h : op ∈ opsFrom chunk start rs) :
    start ≤ op.seg.off ∧ op.seg.off < start + (encAll rs).length ∧ op.chunk = chunk := by
  induction rs generalizing start with
  | nil => cases h
  | cons r rs ih =>
    simp only [opsFrom, List.mem_cons] at h
    have hpos := encRecord_length_pos r
    simp only [encAll_cons, List.length_append]
    rcases h with e | e
    · subst e; exact ⟨Nat.le_refl _, by simp only; omega, rfl⟩
    · have := ih e; exact ⟨by omega, by omega, this.2.2⟩

/-- The FIRST chunk's records (if there is a chunk) start with `State st`; `HeadsState` below: EVERY chunk's
records start with some `State` record. -/
def HeadIs (st : RState) : List (Closed × List Record) → Prop
  | [] => True
  | (_, rs) :: _ => ∃ tl, rs = .state st :: tl

def RepC : List (Closed × List Record) → RState → Log → RState → Log → Prop
  | [], st, l, st', l' => st' = st ∧ l' = l
  | (c, rs) :: rest, st, l, st', l' =>
    ∃ st1 l1, stRun rs st = some st1 ∧ idxRun (chunkOps c.id rs) l = some l1 ∧ c.state = st1 ∧
      (∀ e ∈ l1, optLe (some e.2.id) st1.last = true) ∧ HeadIs st1 rest ∧ RepC rest st1 l1 st' l'

def flatOps : List (Closed × List Record) → List JOp
  | [] => []
  | (c, rs) :: rest => chunkOps c.id rs ++ flatOps rest

theorem mem_flatOps {jc : List (Closed × List Record)} {op : JOp} :
    op ∈ flatOps jc ↔ ∃ p ∈ jc, op ∈ chunkOps p.1.id p.2 := by
  induction jc with
  | nil => simp [flatOps]
  | cons q rest ih =>
    obtain ⟨c, rs⟩ := q
    simp only [flatOps, List.mem_append, ih, List.mem_cons]
    constructor
    · rintro (h | ⟨p, hp, h⟩)
      · exact ⟨(c, rs), Or.inl rfl, h⟩
      · exact ⟨p, Or.inr hp, h⟩
    · rintro ⟨p, hp | hp, h⟩
      · subst hp; exact Or.inl h
      · exact Or.inr ⟨p, hp, h⟩

theorem flatOps_append (a b : List (Closed × List Record)) : flatOps (a ++ b) = flatOps a ++ flatOps b := by
  induction a with
  | nil => rfl
  | cons q rest ih =>
    obtain ⟨c, rs⟩ := q
    simp only [List.cons_append, flatOps, ih, List.append_assoc]

theorem RepC.idx {jc : List (Closed × List Record)} {st st' : RState} {l l' : Log}
    (h : RepC jc st l st' l') : idxRun (flatOps jc) l = some l' := by
  induction jc generalizing st l with
  | nil => obtain ⟨_, rfl⟩ := h; rfl
  | cons p rest ih =>
    obtain ⟨c, rs⟩ := p
    obtain ⟨st1, l1, _, h2, _, _, _, h5⟩ := h
    simp only [flatOps, idxRun_append, h2, Option.bind_some]
    exact ih h5

def flatRecs : List (Closed × List Record) → List Record
  | [] => []
  | (_, rs) :: rest => rs ++ flatRecs rest

theorem RepC.st {jc : List (Closed × List Record)} {st st' : RState} {l l' : Log}
    (h : RepC jc st l st' l') : stRun (flatRecs jc) st = some st' := by
  induction jc generalizing st l with
  | nil => obtain ⟨rfl, _⟩ := h; rfl
  | cons p rest ih =>
    obtain ⟨c, rs⟩ := p
    obtain ⟨st1, l1, h1, _, _, _, _, h5⟩ := h
    simp only [flatRecs, stRun_append, h1, Option.bind_some]
    exact ih h5

theorem RepC.sorted {jc : List (Closed × List Record)} {st st' : RState} {l l' : Log}
    (h : RepC jc st l st' l') (hs : SortedLog l) : SortedLog l' :=
  idxRun_sorted hs h.idx

theorem opsFrom_map_r (chunk start : Nat) (rs : List Record) :
    (opsFrom chunk start rs).map (·.r) = rs := by
  induction rs generalizing start with
  | nil => rfl
  | cons r rs ih => simp only [opsFrom, List.map_cons, ih]

theorem flatOps_map_r (jc : List (Closed × List Record)) : (flatOps jc).map (·.r) = flatRecs jc := by
  induction jc with
  | nil => rfl
  | cons q rest ih =>
    obtain ⟨c, rs⟩ := q
    simp only [flatOps, flatRecs, List.map_append, ih, chunkOps, opsFrom_map_r]

theorem RepC.snoc {jc : List (Closed × List Record)} {st st' : RState} {l l' : Log}
    (h : RepC jc st l st' l') {c : Closed} {rs : List Record} {st1 : RState} {l1 : Log}
    (h1 : stRun rs st' = some st1) (h2 : idxRun (chunkOps c.id rs) l' = some l1)
    (h3 : c.state = st1) (h4 : ∀ e ∈ l1, optLe (some e.2.id) st1.last = true)
    (hhead : jc ≠ [] → ∃ tl, rs = .state st' :: tl) :
    RepC (jc ++ [(c, rs)]) st l st1 l1 := by
  induction jc generalizing st l with
  | nil =>
    obtain ⟨rfl, rfl⟩ := h
    exact ⟨st1, l1, h1, h2, h3, h4, trivial, rfl, rfl⟩
  | cons p rest ih =>
    obtain ⟨c0, rs0⟩ := p
    obtain ⟨sta, la, g1, g2, g3, g4, g5, g6⟩ := h
    refine ⟨sta, la, g1, g2, g3, g4, ?_, ih g6 ?_⟩
    · cases rest with
      | nil =>
        obtain ⟨e1, _⟩ := g6
        subst e1
        exact hhead (by simp)
      | cons q rest' => exact g5
    · intro hne
      exact hhead (by simp)

theorem RepC.split : ∀ {a b : List (Closed × List Record)} {st st' : RState} {l l' : Log},
    RepC (a ++ b) st l st' l' →
    ∃ st1 l1, RepC a st l st1 l1 ∧ (a ≠ [] → HeadIs st1 b) ∧ RepC b st1 l1 st' l'
  | [], _, st, _, l, _, h => ⟨st, l, ⟨rfl, rfl⟩, fun hne => absurd rfl hne, h⟩
  | (c0, rs0) :: rest, b, _, _, _, _, h => by
    obtain ⟨sta, la, g1, g2, g3, g4, g5, g6⟩ := h
    obtain ⟨st1, l1, k1, k2, k3⟩ := RepC.split g6
    cases rest with
    | nil =>
      obtain ⟨rfl, rfl⟩ := k1
      exact ⟨_, _, ⟨_, _, g1, g2, g3, g4, trivial, rfl, rfl⟩, fun _ => g5, k3⟩
    | cons q rest' => exact ⟨st1, l1, ⟨sta, la, g1, g2, g3, g4, g5, k1⟩, fun _ => k2 (by simp), k3⟩

theorem RepC.unsnoc {jl : List (Closed × List Record)} {c : Closed} {rs : List Record}
    {st st' : RState} {l l' : Log} (h : RepC (jl ++ [(c, rs)]) st l st' l') :
    ∃ st0 l0, RepC jl st l st0 l0 ∧ stRun rs st0 = some st' ∧ idxRun (chunkOps c.id rs) l0 = some l' ∧
      c.state = st' ∧ (∀ e ∈ l', optLe (some e.2.id) st'.last = true) ∧
      (jl ≠ [] → ∃ tl, rs = .state st0 :: tl) := by
  obtain ⟨st0, l0, k1, k2, st2, l2, g1, g2, g3, g4, _, rfl, rfl⟩ := RepC.split h
  exact ⟨st0, l0, k1, g1, g2, g3, g4, k2⟩

theorem RepC.mono {jc : List (Closed × List Record)} {st st' : RState} {l l' l0 : Log}
    (h : RepC jc st l st' l') (hs0 : SortedLog l0) (hsub : ∀ e ∈ l0, e ∈ l) :
    ∃ l0', RepC jc st l0 st' l0' ∧ (∀ e ∈ l0', e ∈ l') := by
  induction jc generalizing st l l0 with
  | nil => obtain ⟨rfl, rfl⟩ := h; exact ⟨l0, ⟨rfl, rfl⟩, hsub⟩
  | cons p rest ih =>
    obtain ⟨c, rs⟩ := p
    obtain ⟨st1, l1, g1, g2, g3, g4, gh, g5⟩ := h
    obtain ⟨l01, k1, k2⟩ := idxRun_mono hs0 hsub g2
    obtain ⟨l0', k3, k4⟩ := ih g5 (idxRun_sorted hs0 k1) k2
    exact ⟨l0', ⟨st1, l01, g1, k1, g3, fun e he => g4 e (k2 e he), gh, k3⟩, k4⟩

theorem RepC.head_state {c : Closed} {x : RState} {tl : List Record}
    {rest : List (Closed × List Record)} {st st' : RState} {l l' : Log}
    (h : RepC ((c, .state x :: tl) :: rest) st l st' l') (st0 : RState) :
    RepC ((c, .state x :: tl) :: rest) st0 l st' l' := by
  obtain ⟨st1, l1, g1, g2, g3, g4, gh, g5⟩ := h
  exact ⟨st1, l1, by rw [stRun_state_head x tl st0 st]; exact g1, g2, g3, g4, gh, g5⟩

def HeadsState (jc : List (Closed × List Record)) : Prop :=
  ∀ p ∈ jc, ∃ x tl, p.2 = .state x :: tl

/-- **Dropping one chunk from the front**: every index entry that survives to the end is above the
chunk's closing `last`, so none of its entries does. -/
theorem RepC.drop_one {c : Closed} {rs : List Record} {rest : List (Closed × List Record)}
    {stC : RState} {lC : Log} {jo : List Record} {openOps : List JOp} {st : RState} {lg : Log}
    (h : RepC ((c, rs) :: rest) {} [] stC lC)
    (hst : stRun jo stC = some st) (hidx : idxRun openOps lC = some lg)
    (hheads : HeadsState rest) (hjo : ∃ x tl, jo = .state x :: tl)
    (habove : ∀ e ∈ lg, optLt c.state.last (some e.2.id) = true) :
    ∃ stC' lC', RepC rest {} [] stC' lC' ∧ stRun jo stC' = some st ∧ idxRun openOps lC' = some lg ∧
      (rest ≠ [] → stC' = stC) := by
  obtain ⟨st1, l1, g1, g2, g3, g4, _, g5⟩ := h
  have hs1 : SortedLog l1 := idxRun_sorted SortedLog.nil g2
  -- nothing of `l1` survives to the end
  have hall : idxRun (flatOps rest ++ openOps) l1 = some lg := by
    rw [idxRun_append, g5.idx]; exact hidx
  have hgone : ∀ e ∈ l1, e ∉ lg := by
    intro e he hmem
    have h1 := g4 e he
    rw [← g3] at h1
    have h3 := optLt_of_le_of_lt h1 (habove e hmem)
    rw [optLt_irrefl] at h3
    cases h3
  have hforget := idxRun_forget hs1 hall hgone
  obtain ⟨lC0, k1, _⟩ := g5.mono SortedLog.nil (fun e he => by cases he)
  have hopen : idxRun openOps lC0 = some lg := by
    rw [idxRun_append, k1.idx] at hforget; exact hforget
  cases rest with
  | nil =>
    obtain ⟨e1, e2⟩ := k1
    obtain ⟨e3, _⟩ := g5
    obtain ⟨x, tl, hx⟩ := hjo
    refine ⟨{}, [], ⟨rfl, rfl⟩, ?_, by rw [← e2]; exact hopen, fun hne => absurd rfl hne⟩
    rw [hx, stRun_state_head x tl {} stC, ← hx]; exact hst
  | cons p rest' =>
    obtain ⟨c2, rs2⟩ := p
    obtain ⟨x, tl, hx⟩ := hheads (c2, rs2) List.mem_cons_self
    simp only at hx
    subst hx
    exact ⟨stC, lC0, k1.head_state {}, hst, hopen, fun _ => rfl⟩

end RaftLog
