/-
C04 at the SYSTEM level, for every history: callback accounting.

Every flush that registers a callback (`requestedC4S`) is, at every moment, either
resolved (an `Ev.cb i _` or `Ev.cbDropped i` event was emitted: `resolvedC4S`) or still
held by the worker (`cbQueue`). One step of the system moves callbacks from the front
of the queue to the resolved list; the only reordering the model performs is in
`WCtx.die`, which reports the dropped callbacks in ascending id order (`isortC4S`).
-/
import RaftLogModel.Proofs.PostponedD14
import RaftLogModel.Proofs.CrashAckSys
namespace RaftLog

def Sys.stepEvsAll (y : Sys) : Step → List Ev
  | .call op => (y.call op).2.2
  | .flush cb => (y.flush cb).2.2
  | .worker out => (y.workerStep out).2
  | .workerIdle => y.workerIdle.2
  | .drain => []
  | .drop => y.dropStore.2
  | .openWith cfg => ({ y with cfg := cfg }).open.2.2

def Sys.runEvsAll (y : Sys) : List Step → List Ev
  | [] => []
  | st :: rest => y.stepEvsAll st ++ (y.step st).runEvsAll rest

def resolvedC4S (evs : List Ev) : List Nat :=
  evs.filterMap fun e => match e with
    | .cb i _ => some i
    | .cbDropped i => some i
    | _ => none

def droppedC4S (evs : List Ev) : List Nat :=
  evs.filterMap fun e => match e with
    | .cbDropped i => some i
    | _ => none

def reqStepC4S (y : Sys) : Step → List Nat
  | .flush cb => match y.store with
    | some _ => cb.toList
    | none => []
  | _ => []

def requestedC4S (y : Sys) : List Step → List Nat
  | [] => []
  | st :: rest => reqStepC4S y st ++ requestedC4S (y.step st) rest

/-- The order in which `WCtx.die` reports dropped callbacks (insertion sort, ascending). -/
def isortC4S (l : List Nat) : List Nat := l.foldl (fun acc i => insertNat i acc) []

def Sys.diesC4S (y : Sys) : Step → Bool
  | .worker out => match y.store with
    | some s => ({ w := y.worker, fs := y.fs, cache := s.cache } : WCtx).dies out
    | none => false
  | _ => false

@[simp] theorem resolvedC4S_nil : resolvedC4S [] = [] := rfl
@[simp] theorem resolvedC4S_append (a b : List Ev) : resolvedC4S (a ++ b) = resolvedC4S a ++ resolvedC4S b := by
  simp [resolvedC4S]
@[simp] theorem droppedC4S_nil : droppedC4S [] = [] := rfl
@[simp] theorem droppedC4S_append (a b : List Ev) : droppedC4S (a ++ b) = droppedC4S a ++ droppedC4S b := by
  simp [droppedC4S]

theorem resolvedC4S_cbEvs (l : List (Nat × Bool)) : resolvedC4S (cbEvs l) = l.map Prod.fst := by
  induction l with
  | nil => rfl
  | cons p l ih =>
    simp only [cbEvs, List.map_cons, resolvedC4S, List.filterMap_cons] at *
    rw [ih]

theorem resolvedC4S_map_cbDropped (l : List Nat) : resolvedC4S (l.map Ev.cbDropped) = l := by
  induction l with
  | nil => rfl
  | cons p l ih =>
    simp only [List.map_cons, resolvedC4S, List.filterMap_cons] at *
    rw [ih]

theorem isortC4S_perm (l : List Nat) : (isortC4S l).Perm l := by
  simpa [isortC4S] using foldl_insertNat_perm id l []

theorem cons_all_eqC4S (n : Nat) (l : List Nat) (h : ∀ x ∈ l, x = n) : n :: l = l ++ [n] := by
  induction l with
  | nil => rfl
  | cons m rest ih =>
    have hm : m = n := h m (by simp)
    subst hm
    rw [List.cons_append, ← ih (fun x hx => h x (by simp [hx]))]

theorem insertNat_sortedC4S (n : Nat) (acc : List Nat) (hs : acc.Pairwise (· ≤ ·))
    (hle : ∀ m ∈ acc, m ≤ n) : insertNat n acc = acc ++ [n] := by
  induction acc with
  | nil => rfl
  | cons m rest ih =>
    unfold insertNat
    rw [List.pairwise_cons] at hs
    by_cases hnm : n ≤ m
    · rw [if_pos hnm]
      have hm : m = n := Nat.le_antisymm (hle m (by simp)) hnm
      subst hm
      have hall : ∀ x ∈ m :: rest, x = m := by
        intro x hx
        rcases List.mem_cons.mp hx with rfl | hx
        · rfl
        · exact Nat.le_antisymm (hle x (by simp [hx])) (hs.1 x hx)
      exact cons_all_eqC4S m (m :: rest) hall
    · rw [if_neg hnm, ih hs.2 (fun x hx => hle x (by simp [hx]))]
      rfl

theorem foldl_insertNat_sortedC4S (l acc : List Nat) (h : (acc ++ l).Pairwise (· ≤ ·)) :
    l.foldl (fun acc i => insertNat i acc) acc = acc ++ l := by
  induction l generalizing acc with
  | nil => simp
  | cons a l ih =>
    simp only [List.foldl_cons]
    have h1 : insertNat a acc = acc ++ [a] := by
      apply insertNat_sortedC4S
      · exact (List.pairwise_append.mp h).1
      · intro m hm
        exact (List.pairwise_append.mp h).2.2 m hm a (by simp)
    rw [h1, ih _ (by simpa using h)]
    simp

theorem isortC4S_sorted (l : List Nat) (h : l.Pairwise (· ≤ ·)) : isortC4S l = l :=
  foldl_insertNat_sortedC4S l [] (by simpa using h)

theorem resolvedC4S_single_write (t : String) (i : Nat) (bs : Bytes) (ok : Bool) :
    resolvedC4S [Ev.write t i bs ok] = [] := rfl
theorem resolvedC4S_single_sync (t : String) (i : Nat) (ok : Bool) : resolvedC4S [Ev.sync t i ok] = [] := rfl
theorem resolvedC4S_single_unlink (t : String) (i : Nat) (ok : Bool) : resolvedC4S [Ev.unlink t i ok] = [] := rfl
theorem resolvedC4S_single_boundary (o : Option LogId) : resolvedC4S [Ev.boundary o] = [] := rfl
theorem resolvedC4S_single_exit (ok : Bool) : resolvedC4S [Ev.workerExit ok] = [] := rfl

theorem resolvedC4S_ctl (l : List Ev) (h : ∀ e ∈ l, e.isCtl = true) : resolvedC4S l = [] := by
  apply filterMap_eq_nil_of_forall
  intro e he
  have := h e he
  cases e <;> first | rfl | cases this

theorem resolvedC4S_stepSys (c : WCtx) (out : Outcome) : resolvedC4S (stepSys c out) = [] := by
  rw [resolvedC4S, stepSys_filterMap _ (fun _ _ _ _ => rfl) (fun _ _ _ => rfl)]
  split <;> rfl

theorem WCtx.toRecv_resC4S (c : WCtx) : resolvedC4S c.toRecv.evs = resolvedC4S c.evs := by
  obtain ⟨rest, h, hr⟩ := c.toRecv_evs
  rw [h, resolvedC4S_append, resolvedC4S_ctl rest hr, List.append_nil]

theorem WCtx.step_resC4S (c : WCtx) (out : Outcome) (hw : c.w.WF) (hd : c.dies out = false) :
    resolvedC4S (c.step out).evs = resolvedC4S c.evs ++ (stepCbs c out).map Prod.fst := by
  obtain ⟨cbs, rest, h, _, hr, hc⟩ := c.step_trace out
  rw [h, hc hw]
  simp only [resolvedC4S_append, resolvedC4S_stepSys, resolvedC4S_cbEvs, resolvedC4S_ctl rest (hr hd),
    List.append_nil]

theorem filterMap_cbId_tailC4S {t : Option WReq} (ht : ∀ r, t = some r → r.isWrite = false) :
    t.toList.filterMap WReq.cbId = [] := by
  cases t with
  | none => rfl
  | some r => simp [not_isWrite_cbId (ht r rfl)]

theorem droppedIds_eq_isortC4S (c : WCtx) (inHandW : List WReq) :
    droppedIds c inHandW = isortC4S ((inHandW ++ c.w.queue).filterMap WReq.cbId) := rfl

theorem WCtx.step_dies_resC4S (c : WCtx) (out : Outcome) (hd : c.dies out = true)
    (ht : c.w.pc.tailNotWriteD14) :
    resolvedC4S (c.step out).evs = resolvedC4S c.evs ++ isortC4S (cbQueue c.w) ∧
    cbQueue (c.step out).w = [] := by
  obtain ⟨h1, _, h3⟩ := c.step_dies out hd
  refine ⟨?_, by rw [cbQueue, h1]; rfl⟩
  rw [h3]
  simp only [resolvedC4S_append, resolvedC4S_stepSys, resolvedC4S_map_cbDropped, resolvedC4S_single_exit,
    List.append_nil]
  congr 1
  obtain ⟨_, ⟨d, rest, b, t, hpc⟩ | ⟨j, rest, hpc⟩⟩ := WCtx.dies_cases hd
  · have ht' := ht.of_batch (.inl ⟨_, hpc⟩)
    rw [cbQueue_eq _ hpc, droppedIds_eq_isortC4S]
    simp only [hpc, WPc.inHandW, WPc.batch, List.filterMap_append, filterMap_cbId_tailC4S ht',
      List.append_nil]
  · rw [cbQueue_eq _ hpc, droppedIds_eq_isortC4S]
    simp [hpc, WPc.inHandW, WPc.batch]

theorem WCtx.step_acctC4S (c : WCtx) (out : Outcome) (hw : c.w.WF) (ht : c.w.pc.tailNotWriteD14) :
    resolvedC4S (c.step out).evs ++ cbQueue (c.step out).w =
      resolvedC4S c.evs ++ (if c.dies out = true then isortC4S (cbQueue c.w) else cbQueue c.w) := by
  cases hd : c.dies out with
  | true =>
    obtain ⟨k1, k2⟩ := c.step_dies_resC4S out hd ht
    rw [k1, k2]
    simp
  | false =>
    rw [c.step_resC4S out hw hd, List.append_assoc, ← c.step_cbQueue out hw hd]
    simp

theorem WCtx.runQuiet_resC4S (n : Nat) (c : WCtx) (hw : c.w.WF) :
    resolvedC4S (WCtx.runQuiet n c).evs ++ cbQueue (WCtx.runQuiet n c).w =
      resolvedC4S c.evs ++ cbQueue c.w :=
  (WCtx.runQuiet_induct_wf
    (P := fun c' => resolvedC4S c'.evs ++ cbQueue c'.w = resolvedC4S c.evs ++ cbQueue c.w)
    (fun c' hw' h => by
      rw [← h, c'.step_resC4S .ok hw' c'.dies_ok, List.append_assoc, ← c'.step_cbQueue .ok hw' c'.dies_ok])
    n c hw rfl).2

theorem resolvedC4S_single_create (t : String) (i : Nat) (ok : Bool) : resolvedC4S [Ev.create t i ok] = [] := rfl

theorem applyEffs_resC4S (effs : List Eff) : ∀ (fs : Fs) (w : Worker) (evs : List Ev),
    resolvedC4S (applyEffs effs fs w evs).2.2.2 = resolvedC4S evs ++
      (if w.pc = .dead then ((effQ effs).head?.bind WReq.cbId).toList else []) ∧
    (w.pc = .dead → (applyEffs effs fs w evs).2.2.1 = w) := by
  induction effs with
  | nil => intro fs w evs; simp [applyEffs, effQ]
  | cons e rest ih =>
    intro fs w evs
    cases e with
    | send r =>
      by_cases hp : w.pc = .dead
      · cases hr : r.cbId <;> simp [applyEffs, hp, effQ, hr, resolvedC4S]
      · rw [applyEffs_send_alive r rest fs w evs hp]
        simpa [hp] using ih fs (w.push1 r) evs
    | create id =>
      have := ih (fs.create id) w (evs ++ [.create "c" id true])
      rwa [resolvedC4S_append, resolvedC4S_single_create, List.append_nil] at this
    | createFailed id =>
      have := ih fs w (evs ++ [.create "c" id false])
      rwa [resolvedC4S_append, resolvedC4S_single_create, List.append_nil] at this
    | writeHead id bs =>
      have := ih (fs.write id bs) w (evs ++ [.write "c" id bs true])
      rwa [resolvedC4S_append, resolvedC4S_single_write, List.append_nil] at this

structure InvC4S (y : Sys) : Prop where
  wf : SysWF y
  /-- needed for the dying step: the trailing request of a batch carries no callback -/
  post : SysPostD14 y
  /-- without a store nothing is queued, so a flush without a store registers nothing -/
  idle : y.store = none → cbQueue y.worker = []
  /-- an open store holds the lock, so an `open` on it is refused and changes nothing -/
  lock : y.store ≠ none → y.locked = true

theorem Sys.call_projC4S (y : Sys) (op : Op) {s : Store} (hs : y.store = some s) :
    (y.call op).2.1.worker = (applyEffs (s.call y.fs.has op).2.2 y.fs y.worker []).2.2.1.settle ∧
    (y.call op).2.2 = (applyEffs (s.call y.fs.has op).2.2 y.fs y.worker []).2.2.2 :=
  ⟨congrArg Sys.worker (y.call_some op hs).1, (y.call_some op hs).2⟩

theorem Sys.flush_projC4S (y : Sys) (cb : Option Nat) {s : Store} (hs : y.store = some s) :
    (y.flush cb).2.1.worker = (applyEffs (s.flush cb).2 y.fs y.worker []).2.2.1.settle ∧
    (y.flush cb).2.2 = (applyEffs (s.flush cb).2 y.fs y.worker []).2.2.2 :=
  ⟨congrArg Sys.worker (y.flush_some cb hs).1, (y.flush_some cb hs).2⟩

/-- The caller side: effects whose first request carries callback `cb` and whose other
requests carry none. -/
theorem applyEffs_acctC4S (effs : List Eff) (fs : Fs) (w : Worker) (cb : Option Nat) (hw : w.WF)
    (h1 : (effQ effs).filterMap WReq.cbId = cb.toList)
    (h2 : (effQ effs).head?.bind WReq.cbId = cb) :
    resolvedC4S (applyEffs effs fs w []).2.2.2 ++ cbQueue (applyEffs effs fs w []).2.2.1.settle =
      cbQueue w ++ cb.toList := by
  obtain ⟨k1, k2⟩ := applyEffs_resC4S effs fs w []
  rw [cbQueue_settle, k1]
  by_cases hp : w.pc = .dead
  · rw [k2 hp, h2, cbQueue_dead hw hp]; simp [hp]
  · rw [(applyEffs_live effs fs w [] hp).2.2, ← h1]
    simp [hp, cbQueue, Worker.push, List.filterMap_append]

theorem call_effs_cbC4S (s : Store) (fsHas : Nat → Bool) (op : Op) :
    (effQ (s.call fsHas op).2.2).filterMap WReq.cbId = (none : Option Nat).toList ∧
    (effQ (s.call fsHas op).2.2).head?.bind WReq.cbId = none := by
  have h : ∀ r ∈ effQ (s.call fsHas op).2.2, r.cbId = none := EffsNoCb.call s fsHas op
  generalize effQ (s.call fsHas op).2.2 = q at h
  constructor
  · exact filterMap_eq_nil_of_forall _ _ h
  · cases q with
    | nil => rfl
    | cons r q => simp [h r (by simp)]

theorem flush_effs_cbC4S (s : Store) (cb : Option Nat) :
    (effQ (s.flush cb).2).filterMap WReq.cbId = cb.toList ∧
    (effQ (s.flush cb).2).head?.bind WReq.cbId = cb := by
  rw [effQ_flush]
  by_cases hr : s.removed.isEmpty = true <;> cases cb <;> simp [hr, WReq.cbId]

theorem resolvedC4S_single_trunc (t : String) (i n : Nat) : resolvedC4S [Ev.trunc t i n] = [] := rfl

theorem resolvedC4S_cutEvs (id : Nat) (tr : Option Nat) : resolvedC4S (cutEvs id tr) = [] := by
  cases tr <;> rfl

theorem openLoop_resC4S (cfg : Cfg) (ids : List Nat) :
    ∀ a : OpenAcc, resolvedC4S (openLoop cfg ids a).2.evs = resolvedC4S a.evs := by
  induction ids with
  | nil => intro a; rfl
  | cons id rest ih =>
    intro a
    have hcut : ∀ tr, resolvedC4S (a.pre.afterTrunc id tr).evs = resolvedC4S a.evs := by
      intro tr; cases tr <;> simp [OpenAcc.afterTrunc, OpenAcc.pre, resolvedC4S]
    have hstep := openLoop_cons cfg id rest a
    generalize openLoop cfg (id :: rest) a = r at hstep
    cases hstep with
    | gap | notFound | chunkErr => rfl
    | replayErr | replayPanic => exact hcut _
    | drop =>
      rw [(a.dropHeadless_fs_evs id _).2]
      simp [resolvedC4S_cutEvs, resolvedC4S_single_unlink]
    | keep =>
      rw [ih, (a.kept_fs_evs id _ _ _).2]
      simp [resolvedC4S_cutEvs, resolvedC4S_single_sync]

theorem openStore_resC4S (cfg : Cfg) (fs : Fs) : resolvedC4S (openStore cfg fs).2.2 = [] := by
  have h := openLoop_resC4S cfg fs.linkedIds { sm := emptyStore cfg, fs := fs }
  have he := openStore_end cfg fs
  generalize openLoop cfg fs.linkedIds { sm := emptyStore cfg, fs := fs } = l at he h
  generalize openStore cfg fs = r at he
  have h' : ∀ a : OpenAcc, l.2 = a → resolvedC4S a.evs = [] := fun a e => e ▸ h
  cases he with
  | err | panic | reuse => exact h' _ rfl
  | «exists» => simp [h' _ rfl, resolvedC4S_single_create]
  | fresh => simp [h' _ rfl]; rfl

theorem Sys.step_noneC4S (y : Sys) (hs : y.store = none) (st : Step) (hst : ∀ cfg, st ≠ .openWith cfg) :
    y.step st = y ∧ y.stepEvsAll st = [] ∧ y.diesC4S st = false ∧ reqStepC4S y st = [] := by
  refine ⟨Sys.step_no_store hs (by cases st <;> first | rfl | exact absurd rfl (hst _)), ?_⟩
  cases st with
  | openWith cfg => exact absurd rfl (hst cfg)
  | call op => simp [Sys.stepEvsAll, Sys.diesC4S, reqStepC4S, Sys.call, hs]
  | flush cb => simp [Sys.stepEvsAll, Sys.diesC4S, reqStepC4S, Sys.flush, hs]
  | worker out => simp [Sys.stepEvsAll, Sys.diesC4S, reqStepC4S, Sys.workerStep, hs]
  | workerIdle => simp [Sys.stepEvsAll, Sys.diesC4S, reqStepC4S, Sys.workerIdle, hs]
  | drain => simp [Sys.stepEvsAll, Sys.diesC4S, reqStepC4S, hs]
  | drop => simp [Sys.stepEvsAll, Sys.diesC4S, reqStepC4S, Sys.dropStore, hs]

theorem Sys.dropCtx_acctC4S (y : Sys) (s : Store) (hw : y.worker.WF) :
    (y.dropCtx s).w.WF ∧ resolvedC4S (y.dropCtx s).evs = [] ∧ cbQueue (y.dropCtx s).w = cbQueue y.worker := by
  rcases y.dropCtx_cases s with ⟨hi, he⟩ | ⟨hn, he⟩ <;> rw [he]
  · refine ⟨WCtx.toRecv_wf _ (hw.files_ne (by simp [hi])), by rw [WCtx.toRecv_resC4S]; rfl, ?_⟩
    rw [WCtx.toRecv_cbQueue, cbQueue_eq _ hi]; rfl
  · exact ⟨hw, rfl, rfl⟩

theorem Sys.open_resC4S (y : Sys) : resolvedC4S y.open.2.2 = [] := by
  have h := openStore_resC4S y.cfg y.fs
  rcases y.open_cases with ⟨_, e⟩ | ⟨_, _, _, _, _, ho, e⟩ | ⟨_, _, _, _, ho, e⟩ | ⟨_, _, _, _, ho, e⟩ <;> rw [e]
  · rfl
  all_goals rw [ho] at h; exact h

theorem Sys.step_acctC4S {y : Sys} (h : InvC4S y) (st : Step) :
    InvC4S (y.step st) ∧
    resolvedC4S (y.stepEvsAll st) ++ cbQueue (y.step st).worker =
      if y.diesC4S st = true then isortC4S (cbQueue y.worker) else cbQueue y.worker ++ reqStepC4S y st := by
  have mk : ∀ (_ : (y.step st).store = none → cbQueue (y.step st).worker = [])
      (_ : (y.step st).store ≠ none → (y.step st).locked = true), InvC4S (y.step st) :=
    fun i l => ⟨h.wf.step st, h.post.step st, i, l⟩
  by_cases hopen : ∃ cfg, st = .openWith cfg
  · -- `open` resolves nothing; where it succeeds the lock was free, so there was no store (`h.lock`)
    -- and nothing queued (`h.idle`): the fresh worker's empty queue is the old queue
    obtain ⟨cfg, rfl⟩ := hopen
    have hr := Sys.open_resC4S { y with cfg := cfg }
    have e1 : y.step (.openWith cfg) = ({ y with cfg := cfg } : Sys).open.2.1 := rfl
    have e2 : y.stepEvsAll (.openWith cfg) = ({ y with cfg := cfg } : Sys).open.2.2 := rfl
    rw [e2, hr, e1]
    rcases Sys.open_projC4S { y with cfg := cfg } with ⟨p1, p2, p3⟩ | ⟨hf, s, e, p1, p2, p3⟩
    · rw [p1]
      exact ⟨⟨e1 ▸ h.wf.step _, e1 ▸ h.post.step _, by rw [p1, p2]; exact h.idle, by rw [p2, p3]; exact h.lock⟩,
        by simp [Sys.diesC4S, reqStepC4S]⟩
    · have hq : cbQueue y.worker = [] := h.idle (by
        cases hs : y.store with
        | none => rfl
        | some s0 => have := h.lock (by simp [hs]); rw [show y.locked = false from hf] at this; cases this)
      rw [p1]
      exact ⟨⟨e1 ▸ h.wf.step _, e1 ▸ h.post.step _, by rw [p1]; exact fun _ => rfl, by rw [p3]; exact fun _ => rfl⟩,
        by rw [hq]; rfl⟩
  have hopen' : ∀ cfg, st ≠ .openWith cfg := fun cfg e => hopen ⟨cfg, e⟩
  cases hs : y.store with
  | none =>
    obtain ⟨e1, e2, e3, e4⟩ := y.step_noneC4S hs st hopen'
    rw [e1, e2, e3, e4]
    exact ⟨h, by simp⟩
  | some s =>
    have hne : y.store ≠ none := by simp [hs]
    have hw : y.worker.WF := (h.wf hne).1
    have hl : y.locked = true := h.lock hne
    by_cases hdrop : st = .drop
    · subst hdrop
      -- the join is `runQuiet` from `dropCtx`, which keeps `resolved ++ queue` (`runQuiet_resC4S`); at
      -- its end the worker is dead on an empty queue (`dropEnd_dead`), so everything is resolved
      obtain ⟨d1, d2⟩ := y.dropEnd_dead s hw.dead_queue (h.wf hne).2
      obtain ⟨c1, c2, c3⟩ := y.dropCtx_acctC4S s hw
      have hq0 : cbQueue (y.dropEnd s).w = [] := by simp [cbQueue, d1, d2, WPc.batch]
      have hq1 : cbQueue ({ (y.dropEnd s).w with pc := .dead } : Worker) = [] := by
        simp [cbQueue, d2, WPc.batch]
      have key : resolvedC4S (y.dropEnd s).evs ++ cbQueue (y.dropEnd s).w = _ :=
        WCtx.runQuiet_resC4S (y.dropCtx s).w.fuel (y.dropCtx s) c1
      rw [c2, c3, hq0] at key
      show InvC4S y.dropStore.1 ∧ resolvedC4S y.dropStore.2 ++ cbQueue y.dropStore.1.worker = _
      rw [y.dropStore_eq hs]
      refine ⟨⟨fun h0 => absurd rfl h0, fun h0 => absurd rfl h0, fun _ => hq1, fun h0 => absurd rfl h0⟩, ?_⟩
      show resolvedC4S (y.dropEnd s).evs ++ cbQueue ({ (y.dropEnd s).w with pc := .dead } : Worker) = _
      rw [hq1]
      simpa [Sys.diesC4S, reqStepC4S] using key
    -- every other step keeps the store and the lock
    obtain ⟨f1, f2, _⟩ := y.step_flags st hopen' hdrop
    refine ⟨mk (fun h0 => by simp [h0, hs] at f1) (fun _ => f2.trans hl), ?_⟩
    cases st with
    | openWith cfg => exact absurd rfl (hopen' cfg)
    | drop => exact absurd rfl hdrop
    | call op =>
      obtain ⟨p1, p2⟩ := y.call_projC4S op hs
      show resolvedC4S (y.call op).2.2 ++ cbQueue (y.call op).2.1.worker = _
      rw [p1, p2, applyEffs_acctC4S _ _ _ none hw (call_effs_cbC4S _ _ _).1 (call_effs_cbC4S _ _ _).2]
      simp [Sys.diesC4S, reqStepC4S]
    | flush cb =>
      obtain ⟨p1, p2⟩ := y.flush_projC4S cb hs
      show resolvedC4S (y.flush cb).2.2 ++ cbQueue (y.flush cb).2.1.worker = _
      rw [p1, p2, applyEffs_acctC4S _ _ _ cb hw (flush_effs_cbC4S _ _).1 (flush_effs_cbC4S _ _).2]
      simp [Sys.diesC4S, reqStepC4S, hs]
    | worker out =>
      show resolvedC4S (y.workerStep out).2 ++ cbQueue (y.workerStep out).1.worker = _
      rw [y.workerStep_eq out hs]
      refine (WCtx.step_acctC4S (y.wctx s) out hw (h.post hne).tail).trans ?_
      simp only [Sys.diesC4S, hs, reqStepC4S, List.append_nil]
      rfl
    | workerIdle =>
      show resolvedC4S y.workerIdle.2 ++ cbQueue y.workerIdle.1.worker = _
      rw [y.workerIdle_eq hs]
      exact (WCtx.runQuiet_resC4S _ (y.wctx s) hw).trans (by simp [Sys.diesC4S, reqStepC4S, Sys.wctx])
    | drain =>
      have e1 : (y.step .drain).worker = y.worker := by rw [Sys.step_eq_drain, y.drain_eq hs]
      rw [e1]
      simp [Sys.stepEvsAll, Sys.diesC4S, reqStepC4S]

theorem InvC4S.init (cfg : Cfg) : InvC4S ({ cfg := cfg } : Sys) :=
  ⟨fun h => absurd rfl h, fun h => absurd rfl h, fun _ => rfl, fun h => absurd rfl h⟩

theorem InvC4S.fresh (cfg : Cfg) : InvC4S (Sys.fresh cfg) :=
  (Sys.step_acctC4S (InvC4S.init cfg) (.openWith cfg)).1

theorem Sys.fresh_cbQueueC4S (cfg : Cfg) : cbQueue (Sys.fresh cfg).worker = [] := by
  rw [Sys.fresh_eq]; rfl

theorem InvC4S.run {y : Sys} (h : InvC4S y) (steps : List Step) : InvC4S (y.run steps) :=
  Sys.run_induct (P := InvC4S) (C := fun _ => True) (fun _ st _ h => (Sys.step_acctC4S h st).1) h
    fun _ _ => trivial

theorem Sys.diesC4S_reqC4S (y : Sys) (st : Step) (h : y.diesC4S st = true) : reqStepC4S y st = [] := by
  cases st <;> first | rfl | simp [Sys.diesC4S] at h

def Sys.noDeathC4S (y : Sys) : List Step → Prop
  | [] => True
  | st :: rest => y.diesC4S st = false ∧ (y.step st).noDeathC4S rest

@[simp] theorem Sys.run_consC4S (y : Sys) (st : Step) (rest : List Step) :
    y.run (st :: rest) = (y.step st).run rest := rfl

theorem cbsOf_fst_sublistC4S (evs : List Ev) : ((cbsOf evs).map Prod.fst).Sublist (resolvedC4S evs) := by
  induction evs with
  | nil => exact .slnil
  | cons e rest ih =>
    cases e with
    | cb i ok =>
      simp only [cbsOf, resolvedC4S, List.filterMap_cons, List.map_cons] at ih ⊢
      exact ih.cons_cons _
    | cbDropped i =>
      simp only [cbsOf, resolvedC4S, List.filterMap_cons, List.map_cons] at ih ⊢
      exact ih.cons _
    | _ =>
      simp only [cbsOf, resolvedC4S, List.filterMap_cons, List.map_cons] at ih ⊢
      exact ih

theorem cbsOf_nil_of_resC4S {evs : List Ev} (h : resolvedC4S evs = []) : cbsOf evs = [] := by
  have := cbsOf_fst_sublistC4S evs
  rw [h] at this
  simpa using this

theorem Sys.step_diesC4S {y : Sys} (h : InvC4S y) (st : Step) (hd : y.diesC4S st = true) :
    cbQueue (y.step st).worker = [] ∧ cbsOf (y.stepEvsAll st) = [] := by
  cases st with
  | worker out =>
    cases hs : y.store with
    | none => simp [Sys.diesC4S, hs] at hd
    | some s =>
      have hw : y.worker.WF := (h.wf (by simp [hs])).1
      have hd' : (y.wctx s).dies out = true := by
        simpa [Sys.diesC4S, hs, Sys.wctx] using hd
      show cbQueue (y.workerStep out).1.worker = [] ∧ cbsOf (y.workerStep out).2 = []
      rw [y.workerStep_eq out hs]
      show cbQueue ((y.wctx s).step out).w = [] ∧ cbsOf ((y.wctx s).step out).evs = []
      refine ⟨?_, ?_⟩
      · rw [cbQueue, (WCtx.step_dies _ out hd').1]; rfl
      · rw [WCtx.step_cbsOf _ out hw, stepCbs_of_dies hd']; rfl
  | _ => simp [Sys.diesC4S] at hd

/-- `p`: the requested callbacks that are not queued at the end. A dying worker reports the queue it
drops in ascending order, so the resolved ones are only a permutation of `p` — `p` itself when `p`
is ascending or no step kills the worker. -/
theorem Sys.run_split_idC4S (steps : List Step) : ∀ (y : Sys), InvC4S y →
    ∃ p, cbQueue y.worker ++ requestedC4S y steps = p ++ cbQueue (y.run steps).worker ∧
      (resolvedC4S (y.runEvsAll steps)).Perm p ∧
      ((cbsOf (y.runEvsAll steps)).map Prod.fst).Sublist p ∧
      (p.Pairwise (· ≤ ·) ∨ y.noDeathC4S steps → resolvedC4S (y.runEvsAll steps) = p) := by
  induction steps with
  | nil =>
    intro y _
    exact ⟨[], by simp [requestedC4S, Sys.run], by simp [Sys.runEvsAll], by simp [Sys.runEvsAll], fun _ => rfl⟩
  | cons st rest ih =>
    intro y h
    obtain ⟨p', i1, i2, i3, i4⟩ := ih (y.step st) (Sys.step_acctC4S h st).1
    have hstep := (Sys.step_acctC4S h st).2
    simp only [Sys.runEvsAll, requestedC4S, Sys.run_cons, resolvedC4S_append, cbsOf_append, List.map_append]
    cases hd : y.diesC4S st with
    | false =>
      rw [hd] at hstep
      simp only [Bool.false_eq_true, if_false] at hstep
      refine ⟨resolvedC4S (y.stepEvsAll st) ++ p', ?_, i2.append_left _, (cbsOf_fst_sublistC4S _).append i3, ?_⟩
      · rw [← List.append_assoc, ← hstep, List.append_assoc, i1, List.append_assoc]
      · intro hp
        rw [i4 (hp.imp (fun hp => (List.pairwise_append.mp hp).2.1) (fun hp => hp.2))]
    | true =>
      rw [hd] at hstep
      simp only [if_true] at hstep
      obtain ⟨d1, d2⟩ := Sys.step_diesC4S h st hd
      rw [d1, List.append_nil] at hstep
      rw [d1, List.nil_append] at i1
      refine ⟨cbQueue y.worker ++ p', ?_, ?_, ?_, ?_⟩
      · rw [y.diesC4S_reqC4S st hd, List.nil_append, i1, List.append_assoc]
      · rw [hstep]; exact (isortC4S_perm _).append i2
      · rw [d2]; exact i3.trans (List.sublist_append_right _ _)
      · rintro (hp | hp)
        · rw [hstep, isortC4S_sorted _ (List.pairwise_append.mp hp).1,
            i4 (.inl (List.pairwise_append.mp hp).2.1)]
        · cases hd.symm.trans hp.1

/-- The split without the clause on when the permutation is the identity. -/
theorem Sys.run_splitC4S (steps : List Step) : ∀ (y : Sys), InvC4S y →
    ∃ p, cbQueue y.worker ++ requestedC4S y steps = p ++ cbQueue (y.run steps).worker ∧
      (resolvedC4S (y.runEvsAll steps)).Perm p ∧
      ((cbsOf (y.runEvsAll steps)).map Prod.fst).Sublist p := by
  intro y h
  obtain ⟨p, h1, h2, h3, _⟩ := Sys.run_split_idC4S steps y h
  exact ⟨p, h1, h2, h3⟩

theorem Sys.run_acctC4S (steps : List Step) : ∀ (y : Sys), InvC4S y →
    (resolvedC4S (y.runEvsAll steps) ++ cbQueue (y.run steps).worker).Perm
      (cbQueue y.worker ++ requestedC4S y steps) ∧
    ((cbQueue y.worker ++ requestedC4S y steps).Pairwise (· ≤ ·) →
      resolvedC4S (y.runEvsAll steps) ++ cbQueue (y.run steps).worker =
        cbQueue y.worker ++ requestedC4S y steps) ∧
    (y.noDeathC4S steps →
      resolvedC4S (y.runEvsAll steps) ++ cbQueue (y.run steps).worker =
        cbQueue y.worker ++ requestedC4S y steps) := by
  intro y h
  obtain ⟨p, h1, h2, _, h4⟩ := Sys.run_split_idC4S steps y h
  rw [h1]
  exact ⟨h2.append_right _, fun hp => by rw [h4 (.inl (List.pairwise_append.mp hp).1)],
    fun hn => by rw [h4 (.inr hn)]⟩

/-- Every resolution among `evs` is an `Ev.cb i true`. -/
def GoodEvsC4S (evs : List Ev) : Prop := cbsOf evs = (resolvedC4S evs).map fun i => (i, true)

theorem GoodEvsC4S.nil : GoodEvsC4S [] := rfl

theorem GoodEvsC4S.append {a b : List Ev} (ha : GoodEvsC4S a) (hb : GoodEvsC4S b) : GoodEvsC4S (a ++ b) := by
  unfold GoodEvsC4S at *
  rw [cbsOf_append, resolvedC4S_append, List.map_append, ha, hb]

theorem GoodEvsC4S.of_res_nil {evs : List Ev} (h : resolvedC4S evs = []) : GoodEvsC4S evs := by
  unfold GoodEvsC4S
  rw [cbsOf_nil_of_resC4S h, h]; rfl

theorem resolved_lengthC4S (evs : List Ev) :
    (resolvedC4S evs).length = (cbsOf evs).length + (droppedC4S evs).length := by
  induction evs with
  | nil => rfl
  | cons e rest ih =>
    cases e with
    | cb i ok =>
      simp only [cbsOf, resolvedC4S, droppedC4S, List.filterMap_cons, List.length_cons] at ih ⊢
      omega
    | cbDropped i =>
      simp only [cbsOf, resolvedC4S, droppedC4S, List.filterMap_cons, List.length_cons] at ih ⊢
      omega
    | _ =>
      simp only [cbsOf, resolvedC4S, droppedC4S, List.filterMap_cons, List.length_cons] at ih ⊢
      exact ih

theorem GoodEvsC4S.dropped {evs : List Ev} (h : GoodEvsC4S evs) : droppedC4S evs = [] := by
  have h1 := resolved_lengthC4S evs
  have h2 : (cbsOf evs).length = (resolvedC4S evs).length := by rw [h]; simp
  exact List.eq_nil_of_length_eq_zero (by omega)

theorem mem_droppedC4S {evs : List Ev} {i : Nat} : i ∈ droppedC4S evs ↔ Ev.cbDropped i ∈ evs := by
  simp only [droppedC4S, List.mem_filterMap]
  constructor
  · rintro ⟨e, he, h⟩
    cases e <;> simp_all
  · intro h; exact ⟨_, h, rfl⟩

theorem WCtx.step_goodC4S (c : WCtx) (out : Outcome) (hw : c.w.WF) (ho : out ≠ .eio)
    (hg : GoodEvsC4S c.evs) : GoodEvsC4S (c.step out).evs := by
  unfold GoodEvsC4S at *
  rw [c.step_cbsOf out hw, c.step_resC4S out hw (c.dies_noEio out ho), List.map_append, hg,
    ← map_fst_all_true (stepCbs_true c out ho)]

theorem WCtx.runQuiet_goodC4S (n : Nat) (c : WCtx) (hw : c.w.WF) (hg : GoodEvsC4S c.evs) :
    GoodEvsC4S (WCtx.runQuiet n c).evs :=
  (WCtx.runQuiet_induct_wf (P := fun c => GoodEvsC4S c.evs)
    (fun c hw hg => c.step_goodC4S .ok hw (by intro h; cases h) hg) n c hw hg).2

def NFInvC4S (y : Sys) : Prop := y.store ≠ none → y.worker.Alive

theorem Sys.diesC4S_noEio (y : Sys) (st : Step) (hst : st.noEio = true) : y.diesC4S st = false := by
  cases st with
  | worker out =>
    cases hs : y.store with
    | none => simp [Sys.diesC4S, hs]
    | some s =>
      simp only [Sys.diesC4S, hs]
      apply WCtx.dies_noEio
      intro h; subst h; cases hst
  | _ => rfl

theorem Sys.step_nofaultC4S {y : Sys} (h : InvC4S y) (ha : NFInvC4S y) (st : Step) (hst : st.noEio = true) :
    NFInvC4S (y.step st) ∧ GoodEvsC4S (y.stepEvsAll st) := by
  refine ⟨Sys.step_worker_inv (I := Worker.Alive) (C := (· ≠ .eio)) (by simp)
    (fun c out ho h => c.step_alive out h ho) (fun effs fs w evs h => (applyEffs_alive effs fs w evs h).2)
    Worker.settle_alive (fun _ => ⟨by simp, rfl⟩) ha st (fun out e ho => by subst e ho; cases hst), ?_⟩
  by_cases hop : ∃ cfg, st = .openWith cfg
  · obtain ⟨cfg, rfl⟩ := hop
    exact .of_res_nil (Sys.open_resC4S { y with cfg := cfg })
  cases hs : y.store with
  | none => rw [(y.step_noneC4S hs st fun cfg e => hop ⟨cfg, e⟩).2.1]; exact .nil
  | some s =>
    have hne : y.store ≠ none := by simp [hs]
    have hw : y.worker.WF := (h.wf hne).1
    have hal : y.worker.Alive := ha hne
    cases st with
    | openWith cfg => exact absurd ⟨cfg, rfl⟩ hop
    | call op =>
      show GoodEvsC4S (y.call op).2.2
      rw [(y.call_projC4S op hs).2]
      exact .of_res_nil (by simpa [hal.1] using (applyEffs_resC4S _ y.fs y.worker []).1)
    | flush cb =>
      show GoodEvsC4S (y.flush cb).2.2
      rw [(y.flush_projC4S cb hs).2]
      exact .of_res_nil (by simpa [hal.1] using (applyEffs_resC4S _ y.fs y.worker []).1)
    | worker out =>
      show GoodEvsC4S (y.workerStep out).2
      rw [y.workerStep_eq out hs]
      exact WCtx.step_goodC4S _ out hw (by intro e; subst e; cases hst) .nil
    | workerIdle =>
      show GoodEvsC4S y.workerIdle.2
      rw [y.workerIdle_eq hs]
      exact WCtx.runQuiet_goodC4S _ (y.wctx s) hw .nil
    | drain => exact .nil
    | drop =>
      show GoodEvsC4S y.dropStore.2
      rw [y.dropStore_eq hs]
      obtain ⟨c1, c2, _⟩ := y.dropCtx_acctC4S s hw
      exact WCtx.runQuiet_goodC4S _ _ c1 (.of_res_nil c2)

theorem Sys.run_nofaultC4S (steps : List Step) : ∀ (y : Sys), InvC4S y → NFInvC4S y →
    (∀ st ∈ steps, st.noEio = true) →
    NFInvC4S (y.run steps) ∧ GoodEvsC4S (y.runEvsAll steps) ∧ y.noDeathC4S steps := by
  induction steps with
  | nil => intro y _ ha _; exact ⟨ha, .nil, trivial⟩
  | cons st rest ih =>
    intro y h ha hst
    have h0 := hst st List.mem_cons_self
    obtain ⟨s1, s2⟩ := Sys.step_nofaultC4S h ha st h0
    obtain ⟨i1, i2, i3⟩ := ih (y.step st) (Sys.step_acctC4S h st).1 s1
      (fun x hx => hst x (List.mem_cons_of_mem _ hx))
    exact ⟨i1, s2.append i2, y.diesC4S_noEio st h0, i3⟩

theorem NFInvC4S.fresh (cfg : Cfg) : NFInvC4S (Sys.fresh cfg) := fun _ => fresh_alive cfg

theorem Sys.idle_quietC4S {y : Sys} (h : InvC4S y) : cbQueue (y.step .workerIdle).worker = [] := by
  cases hs : y.store with
  | none =>
    rw [Sys.step_no_store hs rfl]
    exact h.idle hs
  | some s =>
    have hne : y.store ≠ none := by simp [hs]
    obtain ⟨hw, hto⟩ := h.wf hne
    show cbQueue y.workerIdle.1.worker = []
    rw [y.workerIdle_eq hs]
    exact cbQueue_of_quiet (WCtx.runQuiet_wf _ (y.wctx s) hw) (WCtx.runQuiet_fuel_quiet (y.wctx s) hto)

theorem Sys.drop_quietC4S {y : Sys} (h : InvC4S y) : cbQueue (y.step .drop).worker = [] := by
  apply (Sys.step_acctC4S h .drop).1.idle
  cases hs : y.store with
  | none => rw [Sys.step_no_store hs rfl]; exact hs
  | some s =>
    have e1 : y.step .drop = y.dropStore.1 := rfl
    rw [e1, y.dropStore_eq hs]

end RaftLog
