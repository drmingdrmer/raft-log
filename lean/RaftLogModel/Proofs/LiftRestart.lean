/-
The crash invariant `CrashInvC5b` through a clean restart (drop + open of a clean system):
`crashInv_clean_restart_LIFT`. It reads the invariant by field, through `CrashPartsLIFT` / `CrashInvC5b.store_LIFT`
(RecovCrashInv: every part stated on the one live store). After the restart every linked file is durable
up to its length (D15: `open` syncs the chunk files it keeps), which is what makes the restarted system
`SysCovered`; `Sys.OldSyncedLIFT` states that for the files older than the open chunk. Before them a fact about
runs with nothing of restarts in them, `flush_split_LIFT` (the steps before and between a flush and a later step
are journal steps, the worker is alive at the flush), which Props/AnyHistory and Props/LiftRestart use
(`Sys.run_append_ANY` is `Sys.run_append` of Proofs/SysBasic.lean under a second name).
-/
import RaftLogModel.Proofs.RecovCrashInv
import RaftLogModel.Proofs.ReplayRestart
namespace RaftLog

theorem Sys.run_append_ANY (y : Sys) (a b : List Step) : y.run (a ++ b) = (y.run a).run b :=
  Sys.run_append y a b

theorem flush_split_LIFT (y : Sys) (pre mid post : List Step) (f st : Step)
    (hsteps : ∀ x ∈ pre ++ [f] ++ mid ++ [st] ++ post, x.journal = true)
    (halive : (y.run (pre ++ [f] ++ mid ++ [st] ++ post)).worker.pc ≠ .dead) :
    (∀ x ∈ pre, x.journal = true) ∧ (∀ x ∈ mid, x.journal = true) ∧
    (y.run (pre ++ [f] ++ mid)).worker.pc ≠ .dead := by
  simp only [List.mem_append, List.mem_singleton] at hsteps
  refine ⟨fun x hx => hsteps x (.inl (.inl (.inl (.inl hx)))),
    fun x hx => hsteps x (.inl (.inl (.inr hx))), ?_⟩
  rw [List.append_assoc _ [st] post] at halive
  exact Sys.alive_prefix
    (fun x hx => hsteps x ((List.mem_cons.mp hx).elim (fun e => .inl (.inr e)) .inr)) halive

/-- Every linked file with bytes not known durable is the file of the open chunk: the
older chunk files are synced to their ends. No theorem takes it as a hypothesis; it is what D15 buys, stated:
`lift_inv_restart` and `lift_inv_recovered` (LiftRestartInv) return it for the system after a clean restart resp. a
recovery, and `lift_restart_syncs_old_chunks` (Props/LiftRestart) shows a clean reachable state where it fails. -/
def Sys.OldSyncedLIFT (y : Sys) : Prop :=
  ∀ s, y.store = some s → ∀ f ∈ y.fs, f.durable < f.data.length → f.linked = true → f.id = s.openId

theorem JInv.idle_cur_LIFT {s : Store} {fs : Fs} {w : Worker} (hj : JInv s fs w)
    (hpc : w.pc = .idle) (hqe : w.queue = []) : w.rest = [] ∧ w.cur = s.openId := by
  have hrest := rest_quiet hpc hqe
  have := hj.annLast
  simp only [Worker.announced, hrest, annIds, List.getLast?_singleton, Option.some.injEq] at this
  exact ⟨hrest, this⟩

theorem DInv.reopen_LIFT {s s' : Store} {fs : Fs} {w : Worker} {A : Nat} (h : DInv s fs w A)
    (hj : JInv s fs w) (hpc : w.pc = .idle) (hqe : w.queue = [])
    (h3 : s'.openOffsets = s.openOffsets) (h5 : s'.closed = s.closed) (pl : Option LogId)
    (ids : List Nat) :
    DInv s' (fs.syncAll ids) { files := [⟨s.openId, pl⟩] } A := by
  obtain ⟨hrest, hcur⟩ := hj.idle_cur_LIFT hpc hqe
  have e2 : s'.openEnd = s.openEnd := by simp [Store.openEnd, h3]
  have e3 : s'.chunks = s.chunks := by simp [Store.chunks, h3, h5]
  refine ⟨⟨trivial, fun r hr => (by cases hr), ?_⟩, fun i hi => (by cases hi),
    (by rw [e2]; exact h.a2),
    (by rw [e3]; intro offs ho; rw [fdata_syncAll]; exact h.dw offs ho), ?_⟩
  · intro i hi hlt
    rw [Fs.ids_syncAll] at hi
    have := h.wu.u3 i hi (by rw [hcur]; exact hlt)
    rw [hrest] at this
    exact this
  · rw [e3]
    intro offs ho f' hf'
    rw [Fs.find_syncAll] at hf'
    obtain ⟨f, hf, rfl⟩ := Option.map_eq_some_iff.mp hf'
    split
    · have := h.dw offs ho
      rw [fdata, hf] at this
      exact this
    · exact h.dd offs ho f hf

theorem Sys.Clean.restart_LIFT {y : Sys} {r : RefLog} (hc : y.Clean) (h : CSys y r) (cfg' : Cfg) :
    ((y.step .drop).step (.openWith cfg')).Clean := by
  obtain ⟨_, s', _, k⟩ := restart_eq_LIFT h hc cfg'
  rw [k.sys]
  exact ⟨s', rfl, rfl, k.pending, k.removed, rfl⟩

/-- Drop + open of a clean system, with any configuration, keeps the crash invariant — same reference log, same
write history, same acknowledged and tracked position. -/
theorem crashInv_clean_restart_LIFT {y : Sys} {r : RefLog} {W : List Op} {A E K : Nat}
    (h : CrashInvC5b y r W A E K) (hc : y.Clean) (cfg' : Cfg) :
    CrashInvC5b ((y.step .drop).step (.openWith cfg')) r W A E K := by
  obtain ⟨s, p⟩ := h.store_LIFT
  obtain ⟨B, hi⟩ := p.hist
  obtain ⟨Bh, gs, hgi⟩ := p.ghost
  obtain ⟨T, hti⟩ := p.pay
  have hs := p.store
  have hli := p.linked
  obtain ⟨s0, s', c, k⟩ := restart_eq_LIFT h.csys hc cfg'
  obtain rfl := Option.some.inj (c.store.symm.trans hs)
  have f3 := reopen_toRemove s0.openId (prevLastOf s0.closed)
  rw [k.sys]
  have hsb : SameBytes y.fs (y.fs.syncAll y.fs.linkedIds) := SameBytes.syncAll _ _
  -- from here the synced file system and the reopened worker are opaque: every lemma below is
  -- stated for arbitrary ones, and the record `k.sys` would otherwise be unfolded at each step
  generalize hfs2 : y.fs.syncAll y.fs.linkedIds = fs2 at *
  generalize hw' : ({ files := [⟨s0.openId, prevLastOf s0.closed⟩] } : Worker) = w' at *
  -- for the store with any chunks `T` put back in front (`T = []`: the store itself)
  have hcb : ∀ T id,
      chunkBytes (s'.liftC3b T) fs2 w' id = chunkBytes (s0.liftC3b T) y.fs y.worker id := by
    intro T id
    rw [← hw']
    exact chunkBytes_reopen (s := s0.liftC3b T) (s' := s'.liftC3b T) hsb c.inflight c.pending k.openOffsets
      k.pending _ id
  have hrinv : ∀ T, RInv (s0.liftC3b T) y.fs y.worker r → RInv (s'.liftC3b T) fs2 w' r := by
    intro T hr
    rw [← hw']
    exact hr.reopen (s' := s'.liftC3b T) hsb c.inflight c.pending k.st k.log k.openOffsets k.pending
      (by simp [k.closed]) _
  have hpcw : w'.pc = .idle := by rw [← hw']
  have hunl : UnlPostC3b w' := by
    intro ids hh; rw [hpcw] at hh; cases hh
  have hdur : DInv s' fs2 w' A := by
    rw [← hw', ← hfs2]; exact hi.dur.reopen_LIFT hi.inv.j c.idle c.queue k.openOffsets k.closed _ _
  refine CrashPartsLIFT.inv (s := s')
    { store := rfl
      alive := by rw [hpcw]; exact WPc.noConfusion
      hist := ⟨B, hi.transport (hrinv [] hi.inv) k.st k.log k.openOffsets k.closed (hcb []) hdur⟩
      linked := by rw [← hw']; exact hli.reopen hsb c.removed c.toRemove k.openOffsets k.closed k.removed _
      covered := ?covered
      wf := by rw [← hw']; simp [Worker.WF]
      todo := .of_not_writing (by intro todo b t e; rw [hpcw] at e; cases e)
      ghost := ?ghost
      small := p.small.transport (fun id hid => by rw [← hsb.ids]; exact hid) (hcb [])
      pay := ⟨T, ?pay⟩ }
  case covered =>
    -- D15 (`open` syncs the chunk files it keeps): no linked file is unsynced
    intro f hf hdl hl
    rw [← hfs2] at hf
    have := syncAll_linkedIds_durable hli.nodup f hf hl
    omega
  case ghost =>
    -- nothing is waiting to be removed, so no ghost chunk is left
    have hgs : gs = [] := by
      have := hgi.order
      rw [c.toRemove, c.removed] at this
      exact List.map_eq_nil_iff.mp (List.map_eq_nil_iff.mp this.symm)
    subst hgs
    have hb := hgi.base
    simp only [ghostClosedC3b, List.map_nil, Store.liftC3b_nil] at hb
    refine ⟨Bh, [], ?_, (fun p hp => by cases hp), ?_, hgi.ack, List.Pairwise.nil,
      (fun p hp => by cases hp), hunl⟩
    · show HInv (s'.liftC3b []) fs2 w' r W Bh A E K
      rw [Store.liftC3b_nil]
      exact hb.transport (hrinv [] hb.inv) k.st k.log k.openOffsets k.closed (hcb []) hdur
    · show w'.toRemove ++ s'.removed = _
      rw [f3, k.removed]; rfl
  case pay =>
    refine ⟨?_, ⟨T.map Closed.id, ?_⟩, hunl⟩
    · exact hti.pinv.transport (hrinv T hti.pinv.inv) k.st k.log k.openOffsets (by simp [k.closed]) (hcb T)
    · show _ = _ ++ (w'.toRemove ++ s'.removed)
      rw [f3, k.removed]; simp

end RaftLog
