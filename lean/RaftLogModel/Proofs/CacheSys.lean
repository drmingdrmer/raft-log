/-
C15 at system level: the store-level cache invariant `CacheInv` along every history of live steps, as an
instance of `Sys.step_store`; likewise the limits in force (`SysLimitsC15b`: those of the configuration).
-/
import RaftLogModel.Proofs.CacheCall
import RaftLogModel.Proofs.StoreSys
namespace RaftLog

/-- The cache invariant does not look at the pending buffer or the removal list; a published boundary
(`SameItems`) and `drain` (which drops a prefix of the entries) keep it. -/
theorem CacheInv.keep {s : Store} (h : CacheInv s) (c : Cache) (p : Bytes) (rm : List Nat)
    (hc : SameItems c s.cache ∨ c = s.cache.drainEvictable) :
    CacheInv { s with cache := c, pending := p, removed := rm } := by
  rcases hc with ⟨hitems, hsize, _, _⟩ | rfl
  · have hok : c.OK := ⟨by rw [hsize, hitems]; exact h.ok.size_eq, by rw [hitems]; exact h.ok.sorted⟩
    exact ⟨hok, by show KeysLe c.items _; rw [hitems]; exact h.le_last⟩
  · exact h.drain.of_fields rfl rfl rfl

def SysCacheInv (y : Sys) : Prop := ∀ s, y.store = some s → CacheInv s

theorem fresh_cacheInv (cfg : Cfg) : SysCacheInv (Sys.fresh cfg) := by
  rw [Sys.fresh_eq]
  intro s hs
  cases hs
  exact ⟨⟨rfl, List.Pairwise.nil⟩, nofun⟩

theorem step_cacheInv (y : Sys) (st : Step) (hl : st.live = true) (h : SysCacheInv y) :
    SysCacheInv (y.step st) :=
  Sys.step_store (C := fun _ => True) (fun _ op _ hi => call_cacheInv _ op hi)
    (fun _ c p rm hc _ _ hi => hi.keep c p rm hc) h hl fun _ _ => trivial

theorem run_cacheInv (y : Sys) (steps : List Step) (hl : ∀ st ∈ steps, st.live = true)
    (h : SysCacheInv y) : SysCacheInv (y.run steps) :=
  Sys.run_induct (C := fun st => st.live = true) (fun y st hc h => step_cacheInv y st hc h) h hl

/-- The limits of the cache are those of the configuration. -/
def SysLimitsC15b (y : Sys) (cfg : Cfg) : Prop :=
  ∀ s, y.store = some s → s.cache.maxItems = cfg.cacheItems ∧ s.cache.capacity = cfg.cacheCap

theorem fresh_limits_C15b (cfg : Cfg) : SysLimitsC15b (Sys.fresh cfg) cfg := by
  intro s hs
  rw [Sys.fresh_eq] at hs
  cases hs
  exact ⟨rfl, rfl⟩

theorem run_limits_C15b (y : Sys) (cfg : Cfg) (steps : List Step) (hl : ∀ st ∈ steps, st.live = true)
    (hinv : SysCacheInv y) (h : SysLimitsC15b y cfg) : SysLimitsC15b (y.run steps) cfg := fun s' hs' =>
  (Sys.run_store (C := fun _ => True)
    (I := fun s => CacheInv s ∧ s.cache.maxItems = cfg.cacheItems ∧ s.cache.capacity = cfg.cacheCap)
    (fun fsHas s op _ hi => by
      obtain ⟨_, h1, h2⟩ := call_boundary_limits_C15b fsHas op hi.1
      exact ⟨call_cacheInv fsHas op hi.1, h1.trans hi.2.1, h2.trans hi.2.2⟩)
    (fun s c p rm hc _ _ hi => ⟨hi.1.keep c p rm hc,
      hc.elim (fun hs => ⟨hs.2.2.1.trans hi.2.1, hs.2.2.2.trans hi.2.2⟩) fun e => e ▸ hi.2⟩)
    (fun s hs => ⟨hinv s hs, h s hs⟩) hl (fun _ _ _ _ => trivial) s' hs').2

end RaftLog
