/-
C03, assembled on the invariants: `HInv.crash_prefix` for any store whose chunks are exactly the linked files and
whose marker is acknowledged — the store itself when no chunk removal is outstanding (`crash_prefix_core_C3`),
the ghost store in general. `reach_HSys`, `reach_HSys_at`: `HSys` at the end of a legal history from a freshly
opened store.
-/
import RaftLogModel.Proofs.CrashHistSys
namespace RaftLog

theorem DInv.live_durable_C3 {s : Store} {fs : Fs} {w : Worker} {A : Nat}
    {jc : List (Closed × List Record)} {jo : List Record} (h : DInv s fs w A)
    (g : RepG s fs w jc jo) :
    ∀ p ∈ liveChunksC3 s jc jo, ∀ f, fs.find p.1.id = some f →
      min (encAll p.2).length (A - p.1.id) ≤ f.durable := by
  intro p hp f hf
  obtain ⟨_, _, k3, _, _⟩ := liveChunks_recs_C3 g p hp
  have hmem : p.1.offsets ∈ s.chunks := by
    rw [← g.liveChunks_offsets]; exact List.mem_map.mpr ⟨p, hp, rfl⟩
  have hlen : lastOff p.1.offsets - p.1.offsets.headD 0 = (encAll p.2).length := by
    have := k3 ▸ lastOff_sized p.1.id p.2
    simp only [Closed.id] at this
    omega
  have := h.dd p.1.offsets hmem f hf
  rw [hlen] at this
  exact this

theorem jstart_mem_C3 (s : Store) : s.jstart ∈ s.chunkIds := by
  rw [Store.chunkIds_eq]
  unfold Store.jstart
  cases s.closed with
  | nil => simp
  | cons c rest => simp

theorem no_removals_of_jstart_zero_C3 {s : Store} {fs : Fs} {w : Worker} (hl : LInv s fs w)
    (h0 : s.jstart = 0) : s.removed = [] ∧ w.toRemove = [] := by
  have hmem := jstart_mem_C3 s
  rw [h0] at hmem
  constructor
  · apply List.eq_nil_iff_forall_not_mem.mpr
    intro x hx
    have := hl.sep x (Or.inl hx) 0 hmem
    omega
  · apply List.eq_nil_iff_forall_not_mem.mpr
    intro x hx
    have := hl.sep x (Or.inr hx) 0 hmem
    omega

/-- `open` on a crash image replays a prefix of `G`'s journal that contains every prefix ending at or below the
acknowledged position (`crash_open_prefix_of_live_C3`), hence one at or beyond the marker, which mirrors a prefix
of the writes (`HistG.replayed_C5b`). `(E, K)`: a journal position and the number of writes issued up to it,
tracked since some earlier point of the history: if `E ≤ A`, the recovered prefix holds at least those `K`
writes. `N0`: the writes whose records went with dropped chunks. -/
theorem HInv.crash_prefix {G : Store} {fs : Fs} {w : Worker} {r : RefLog} {W : List Op} {Bh A E K : Nat}
    (hi : HInv G fs w r W Bh A E K) (hack : Bh ≤ A) (hlive : ∀ id ∈ G.chunkIds, fs.has id = true)
    (hlinked : fs.linkedIds = G.chunkIds) {img : Fs} (hc : CrashImage fs img) (cfg' : Cfg)
    {s' : Store} {w' : Worker} {fs' : Fs} {evs : List Ev}
    (hopen : openStore cfg' img = (.ok (s', w'), fs', evs)) :
    ∃ n r', RefLog.run {} (W.take n) = some r' ∧ s'.st = r'.state ∧
      logKeys s'.log = entKeys r'.entries ∧ (E ≤ A → K ≤ n) ∧
      ∃ jc jo N0, RepG G fs w jc jo ∧ W.length = N0 + cntW (allOps G jc jo) ∧
        ∀ Q, Q <+: allOps G jc jo → G.jstart + sizeSum Q ≤ A → N0 + cntW Q ≤ n := by
  obtain ⟨jc, jo, g, hg⟩ := hi.hist
  obtain ⟨P, hP, q1, q2, q3⟩ := crash_open_prefix_of_live_C3 g hi.inv.j hlive hlinked hc cfg' A
    (hi.dur.live_durable_C3 g) hopen
  obtain ⟨N0, hN, ⟨r', m1, m2, l, m3, m4⟩, hEA, _⟩ := hg.replayed_C5b hack hP q3
  rw [q1] at m2; rw [q2] at m3
  exact ⟨N0 + cntW P, r', m1, Option.some.inj m2, by rw [Option.some.inj m3]; exact m4, hEA, jc, jo, N0, g, hN,
    fun Q hQ hle => Nat.add_le_add_left (cntW_prefix_le (q3 Q hQ hle)) _⟩

theorem crash_prefix_core_C3 {y : Sys} {r : RefLog} {W : List Op} {B A E K : Nat}
    (h : HSys y r W B A E K) {s : Store} (hs : y.store = some s)
    (hrem : s.removed = []) (htr : y.worker.toRemove = []) (hBA : B ≤ A)
    {img : Fs} (hc : CrashImage y.fs img) (cfg' : Cfg)
    {s' : Store} {w' : Worker} {fs' : Fs} {evs : List Ev}
    (hopen : openStore cfg' img = (.ok (s', w'), fs', evs)) :
    ∃ n r', RefLog.run {} (W.take n) = some r' ∧ s'.st = r'.state ∧
      logKeys s'.log = entKeys r'.entries ∧ (E ≤ A → K ≤ n) ∧
      ∃ jc jo N0, RepG s y.fs y.worker jc jo ∧ W.length = N0 + cntW (allOps s jc jo) ∧
        ∀ Q, Q <+: allOps s jc jo → s.jstart + sizeSum Q ≤ A → N0 + cntW Q ≤ n := by
  obtain ⟨hi, hli⟩ := h.of_store hs
  exact hi.crash_prefix hBA hli.live (hli.linkedIds_eq hi.inv.j hrem htr) hc cfg' hopen

theorem reach_HSys (cfg : Cfg) (steps : List Step) (r : RefLog)
    (hsteps : ∀ st ∈ steps, st.journal = true)
    (hlegal : RefLog.run {} (stepOps steps) = some r)
    (hwf : ∀ op ∈ stepOps steps, op.WF ∧ op.small)
    (halive : ((Sys.fresh cfg).run steps).worker.pc ≠ .dead) :
    HSys ((Sys.fresh cfg).run steps) r (expandOps {} (stepOps steps))
      ((Sys.fresh cfg).markRun steps 0) ((Sys.fresh cfg).ackRun steps 0) 0 0 := by
  have := run_HSys steps (Sys.fresh cfg) {} r [] 0 0 0 0 (fresh_HSys cfg) hsteps hlegal hwf halive
  simpa using this

theorem reach_HSys_at (cfg : Cfg) (pre post : List Step) (r : RefLog)
    (hsteps : ∀ st ∈ pre ++ post, st.journal = true)
    (hlegal : RefLog.run {} (stepOps (pre ++ post)) = some r)
    (hwf : ∀ op ∈ stepOps (pre ++ post), op.WF ∧ op.small)
    (halive : ((Sys.fresh cfg).run (pre ++ post)).worker.pc ≠ .dead) :
    ∃ s1, ((Sys.fresh cfg).run pre).store = some s1 ∧
      HSys ((Sys.fresh cfg).run (pre ++ post)) r (expandOps {} (stepOps (pre ++ post)))
        ((Sys.fresh cfg).markRun (pre ++ post) 0) ((Sys.fresh cfg).ackRun (pre ++ post) 0)
        s1.openEnd (expandOps {} (stepOps pre)).length := by
  obtain ⟨s1, hs1, h, _⟩ := HSys.run_induct_at (I := fun _ _ _ _ _ _ _ => True) (fun _ _ _ _ _ _ _ => trivial)
    (fun _ _ => trivial) pre post (Sys.fresh cfg) {} r [] 0 0 0 0 (fresh_HSys cfg) trivial hsteps hlegal hwf halive
  exact ⟨s1, hs1, by simpa using h⟩

end RaftLog
