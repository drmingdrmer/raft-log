/-
C03: the history invariant `HInv` (replay invariant, the writes issued, `HistG` of the retained journal, the
durability invariant) and its system form `HSys`. Under an accepted call it is `call_ghost` with the writes as
the ghost value (`call_H`); a purge that drops chunks takes them from the front of the chunk table one at a time
(`HInv.pop_one_C3b`, `HInv.pop_front`). `HSys.run_induct`: along every legal history, with any rider;
`HSys.run_induct_at`: the same along `pre ++ post`, the tracked pair set at the end of `pre`.
-/
import RaftLogModel.Proofs.CrashDurCaller
import RaftLogModel.Proofs.CallRef
import RaftLogModel.Proofs.CrashHist
namespace RaftLog

/-- `W`: the entry-level writes issued so far; `B`: the marker; `A`: the acknowledged position; `(E, K)`: a
tracked journal position and its write count (`CntAt`). -/
structure HInv (s : Store) (fs : Fs) (w : Worker) (r : RefLog) (W : List Op) (B A E K : Nat) : Prop where
  inv : RInv s fs w r
  run : RefLog.run {} W = some r
  hist : ∃ jc jo, RepG s fs w jc jo ∧ HistG (allOps s jc jo) s.jstart W B E K
  /-- the marker moved only if a chunk was dropped: with chunk 0 still live (`s.jstart = 0`) it is 0 -/
  mark : B = 0 ∨ 0 < s.jstart
  markLe : B ≤ s.openEnd
  dur : DInv s fs w A

/-- The marker after a call: the journal end if the call scheduled chunk files
for removal (took chunks out of the chunk table), unchanged otherwise. A call only appends
to `removed`, so comparing the lengths tells whether it did. -/
def markAfter (s s' : Store) (B : Nat) : Nat :=
  if s'.removed.length = s.removed.length then B else s'.openEnd

theorem jstart_congr_C3 {s s2 : Store} (h3 : s2.openOffsets = s.openOffsets) (h5 : s2.closed = s.closed) :
    s2.jstart = s.jstart := by
  simp only [Store.jstart, h5, Store.openId, h3]

theorem HInv.transport {s s2 : Store} {fs fs2 : Fs} {w w2 : Worker} {r : RefLog} {W : List Op}
    {B A E K A2 : Nat} (h : HInv s fs w r W B A E K) (hinv : RInv s2 fs2 w2 r)
    (h1 : s2.st = s.st) (h2 : s2.log = s.log) (h3 : s2.openOffsets = s.openOffsets)
    (h5 : s2.closed = s.closed)
    (hb : ∀ id, chunkBytes s2 fs2 w2 id = chunkBytes s fs w id) (hd : DInv s2 fs2 w2 A2) :
    HInv s2 fs2 w2 r W B A2 E K := by
  obtain ⟨jc, jo, g, hg⟩ := h.hist
  have e2 := allOps_congr h3 jc jo
  have e3 : s2.openEnd = s.openEnd := by simp [Store.openEnd, h3]
  refine ⟨hinv, h.run, ⟨jc, jo, g.transport h1 h2 h3 h5 hb, ?_⟩, ?_, by rw [e3]; exact h.markLe, hd⟩
  · rw [e2, jstart_congr_C3 h3 h5]; exact hg
  · rw [jstart_congr_C3 h3 h5]; exact h.mark

theorem HInv.applied {s : Store} {fs : Fs} {w : Worker} {r r' : RefLog} {W Wn : List Op} {B A E K : Nat}
    {rec : Record} (h : HInv s fs w r W B A E K) (ok : StepOK s r r' rec) (hwf : rec.WF)
    (hw : r.run Wn = some r') (hlen : Wn.length = 1) :
    HInv (s.applied rec r'.state) fs w r' (W ++ Wn) B A E K := by
  obtain ⟨jc, jo, g, hg⟩ := h.hist
  have hrun : RefLog.run {} (W ++ Wn) = some r' := by
    rw [RefLog.run_append, h.run]; exact hw
  obtain ⟨g3, hops3⟩ := g.journal_C3 (s3 := s.applied rec r'.state) h.inv.j hwf rfl rfl rfl ok.hst
    (idxLogO_of_small ok.small _ _ _)
  have hjs3 : (s.applied rec r'.state).jstart = s.jstart := by
    unfold Store.jstart
    rw [Store.applied_openId h.inv.j.openBytes.ne_nil]; rfl
  refine ⟨h.inv.applied ok hwf, hrun, ⟨jc, jo ++ [rec], g3, ?_⟩, by rw [hjs3]; exact h.mark,
    by rw [Store.applied_openEnd]; exact Nat.le_trans h.markLe (Nat.le_add_right _ _),
    h.dur.journal h.inv.j rfl (Nat.le_add_right _ _) rfl⟩
  -- the record is a write, not the head of a chunk
  have hm := mirrors_full_C3 g3 rfl (ok.hlog _ _) hrun
  rw [hops3] at hm
  rw [hjs3, hops3]
  refine hg.snoc ?_ hm
  have hlt := h.inv.j.openId_lt
  have : (JOp.isHead ⟨rec, s.openId, ⟨s.openEnd, (encRecord rec).length⟩⟩) = false := by
    simp only [JOp.isHead, beq_eq_false_iff_ne, ne_eq]; omega
  rw [this]; exact hlen

/-- A rotation: the head of the new chunk is no write. -/
theorem HInv.rotated {s : Store} {fs : Fs} {w : Worker} {r : RefLog} {W : List Op} {B A E K : Nat}
    (h : HInv s fs w r W B A E K) :
    HInv s.rotated (effFs (rotateEffs s) fs) (w.push (effQ (rotateEffs s))) r W B A E K := by
  obtain ⟨jc, jo, g, hg⟩ := h.hist
  have hinv := h.inv.rotated
  have hd := h.dur.rotate h.inv.j
  obtain ⟨g4, hops⟩ := g.rotate_C3 h.inv.j h.inv.abs.log_below
  have hjs : s.rotated.jstart = s.jstart := jstart_rotate_C3 rfl
  refine ⟨hinv, h.run, ⟨_, _, g4, ?_⟩, by rw [hjs]; exact h.mark,
    Nat.le_trans h.markLe (by rw [Store.rotated_openEnd]; exact Nat.le_add_right _ _), hd⟩
  have hm := mirrors_full_C3 g4 hinv.abs.st hinv.abs.log h.run
  rw [hops, ← List.append_nil W] at hm
  rw [hjs, hops, ← List.append_nil W]
  exact hg.snoc (by simp [JOp.isHead]) hm

/-- The first closed chunk `c` leaves the chunk table, at the time of the purge that made it obsolete or later:
`(m, k)` is a second tracked pair (`hmk`) beyond the chunk, and becomes the marker (`HistG.pop_one_C3b`). -/
theorem HInv.pop_one_C3b {s s2 : Store} {fs : Fs} {w : Worker} {r : RefLog} {W : List Op}
    {B A E K m k : Nat} {c : Closed}
    (h : HInv s fs w r W B A E K) (hmk : HInv s fs w r W B A m k)
    (hcl : s.closed = c :: s2.closed)
    (h1 : s2.st = s.st) (h2 : s2.log = s.log) (h3 : s2.openOffsets = s.openOffsets)
    (h4 : s2.pending = s.pending)
    (hB : B ≤ m) (hm : lastOff c.offsets < m) (hmle : m ≤ s.openEnd)
    (hcov : CovC3b W k c.state.last) : HInv s2 fs w r W m A E K := by
  obtain ⟨jc, jo, g, hg⟩ := h.hist
  obtain ⟨jc', jo', g', hg'⟩ := hmk.hist
  -- both tracked pairs are read in the same journal
  obtain ⟨e1, e2⟩ := g.unique_C3b g'
  subst e1; subst e2
  have hk : k ≤ W.length := hg'.count_le_C3b
  have hpur : optLe c.state.last s.st.purged = true := by
    have := hcov W.length hk (Nat.le_refl _) r (by rw [List.take_length]; exact h.run)
    rw [h.inv.abs.st]; exact this
  have habove : ∀ e ∈ s.log, optLt c.state.last (some e.2.id) = true :=
    fun e he => optLt_of_le_of_lt hpur (h.inv.abs.log_above e he)
  have hcl' : s.closed = [c] ++ s2.closed := by rw [hcl]; rfl
  have hj2 : JInv s2 fs w := h.inv.j.dropClosed [c] h1 h2 h3 h4 hcl'
  obtain ⟨rs, jc1, hjc, g2, hsplit⟩ := g.pop_one_C3b hcl habove h1 h2 h3 h4
  subst hjc
  -- the journal start moves up by exactly the bytes of `c`
  have hend := g.journal_end_C3 h.inv.j
  have hend2 := g2.journal_end_C3 hj2
  have e3 : s2.openEnd = s.openEnd := by simp [Store.openEnd, h3]
  rw [hsplit, sizeSum_append] at hend
  have hjs2 : s2.jstart = s.jstart + sizeSum (chunkOps c.id rs) := by omega
  have hjs : s.jstart = c.id := by simp [Store.jstart, hcl]
  have hsz : sizeSum (chunkOps c.id rs) = (encAll rs).length := sizeSum_opsFrom_eq_C3 _ _ _
  have hlast : lastOff c.offsets = c.id + (encAll rs).length :=
    (g.closedRecs (c, rs) List.mem_cons_self).lastOff_eq
  have hrs : c.id < lastOff c.offsets := h.inv.j.chunk_head_lt c.offsets (by simp [Store.chunks, hcl])
  have hpos : ∀ op ∈ chunkOps c.id rs ++ allOps s2 jc1 jo, 0 < op.seg.size := by
    rw [← hsplit]; exact allOps_size_pos_C3 s _ jo
  rw [hsplit] at hg hg'
  have hg2 := HistG.pop_one_C3b hg hg' hB (by rw [hjs, hsz]; omega) hcov g.first_chunk_C3b
    (let ⟨hd, tl, x, e⟩ := allOps_head_state g2; ⟨x, hd, tl, e⟩) hpos
  rw [← hjs2] at hg2
  refine ⟨⟨hj2, h.inv.abs.of_fields h1 h2 h3, h.inv.rep.pop_one_C3b hcl habove h1 h2 h3 h4⟩, h.run,
    ⟨jc1, jo, g2, hg2⟩, Or.inr (by omega), by rw [e3]; exact hmle, h.dur.dropClosed [c] h3 hcl'⟩

/-- The invariant does not look at the removal list, the counters, the configuration. -/
theorem HInv.congr_C3b {s s2 : Store} {fs : Fs} {w : Worker} {r : RefLog} {W : List Op} {B A E K : Nat}
    (h : HInv s fs w r W B A E K) (h1 : s2.st = s.st) (h2 : s2.log = s.log)
    (h3 : s2.openOffsets = s.openOffsets) (h4 : s2.pending = s.pending) (h5 : s2.closed = s.closed) :
    HInv s2 fs w r W B A E K := by
  have hb : ∀ id, chunkBytes s2 fs w id = chunkBytes s fs w id := fun id => chunkBytes_congr fs w id h3 h4
  have hj : JInv s2 fs w := h.inv.j.dropClosed [] h1 h2 h3 h4 (by rw [h5]; rfl)
  exact h.transport ⟨hj, h.inv.abs.of_fields h1 h2 h3, h.inv.rep.transport h1 h2 h3 h5 hb⟩ h1 h2 h3 h5 hb
    (h.dur.of_fields h3 h5)

theorem HInv.retarget_C3b {s : Store} {fs : Fs} {w : Worker} {r : RefLog} {W : List Op} {B A E K : Nat}
    (h : HInv s fs w r W B A E K) : HInv s fs w r W B A s.openEnd W.length := by
  obtain ⟨jc, jo, g, hg⟩ := h.hist
  have hend := g.journal_end_C3 h.inv.j
  refine ⟨h.inv, h.run, ⟨jc, jo, g, ?_⟩, h.mark, h.markLe, h.dur⟩
  have := hg.retarget
  rw [hend] at this
  exact this

/-- The obsolete chunks `pre` leave the front of the chunk table one at a time, each by `HInv.pop_one_C3b` with
the journal end and all of `W` as the tracked pair: only the whole retained journal ends at or beyond the new
marker. -/
theorem HInv.pop_front {fs : Fs} {w : Worker} {r : RefLog} {W : List Op} {A E K : Nat} :
    ∀ (pre : List Closed) {s s2 : Store} {B : Nat}, HInv s fs w r W B A E K → s.closed = pre ++ s2.closed →
    (∀ c ∈ pre, optLe c.state.last r.purged = true) →
    s2.st = s.st → s2.log = s.log → s2.openOffsets = s.openOffsets → s2.pending = s.pending →
    HInv s2 fs w r W (if pre = [] then B else s.openEnd) A E K
  | [], _, _, _, h, hcl, _, h1, h2, h3, h4 => h.congr_C3b h1 h2 h3 h4 hcl.symm
  | c :: pre, s, s2, _, h, hcl, hobs, h1, h2, h3, h4 => by
    have hc : lastOff c.offsets < s.openEnd :=
      Nat.lt_of_le_of_lt (h.inv.j.closedLe c (by rw [hcl]; exact List.mem_cons_self)) h.inv.j.openId_lt
    have h' := h.pop_one_C3b (s2 := { s with closed := pre ++ s2.closed }) h.retarget_C3b hcl rfl rfl rfl rfl
      h.markLe hc (Nat.le_refl _) (.of_end h.run (hobs c List.mem_cons_self))
    simpa [Store.openEnd] using
      HInv.pop_front pre h' rfl (fun c' hc' => hobs c' (List.mem_cons_of_mem _ hc')) h1 h2 h3 h4

/-- An accepted call: `call_ghost` with the writes as the ghost, on `HInv.applied`/`.rotated`; a purge that
journals its record then drops the obsolete chunks (`HInv.pop_front`). The marker moves iff chunks went. -/
theorem call_H {s : Store} {fs : Fs} {w : Worker} {r r' : RefLog} {W : List Op} {B A E K : Nat}
    (fsHas : Nat → Bool) {op : Op}
    (h : HInv s fs w r W B A E K) (hfs : ∀ i, s.openEnd ≤ i → fsHas i = false)
    (hl : r.legal op = true) (hc : r.call op = .ok r') (hsm : op.small) (hwf : op.WF) :
    ∃ seg s' effs, s.call fsHas op = (.ok seg, s', effs) ∧
      HInv s' (effFs effs fs) (w.push (effQ effs)) r' (W ++ op.expand1 r) (markAfter s s' B) A E K := by
  obtain ⟨seg, s1, effs, ⟨hi, hrm⟩, _, heq | ⟨upto, rfl, hnn, _, heq⟩⟩ :=
    call_ghost CallGhost.writes
      (I := fun W r s1 fs w => HInv s1 fs w r W B A E K ∧ s1.removed = s.removed) fsHas
      (abs := fun q => q.1.inv.abs)
      (applied := fun q ok hw ⟨Wn, e, hrun, hlen⟩ =>
        ⟨e ▸ q.1.applied ok (hw hwf q.1.inv.j.stWF q.1.inv.j.logWF) hrun hlen, q.2⟩)
      (rotated := fun q _ => ⟨q.1.rotated, q.2⟩) ⟨h, rfl⟩ hfs hl hc hsm rfl
  · refine ⟨seg, s1, effs, heq, ?_⟩
    rw [markAfter, hrm, if_pos rfl]
    exact hi
  · refine ⟨seg, _, effs, heq, ?_⟩
    obtain ⟨pre, hpre, hids, hall⟩ := popObsolete_pre upto s1.closed
    have := hi.pop_front pre (s2 := s1.popped upto) hpre
      (fun c hm => optLe_trans (optLe_of_not_lt (hall c hm)) (RefLog.purge_le_purged hc hnn)) rfl rfl rfl rfl
    -- chunks were dropped iff the removal list grew
    have hmk : markAfter s (s1.popped upto) B = if pre = [] then B else s1.openEnd := by
      show (if (s1.removed ++ (popObsolete upto s1.closed).1).length = s.removed.length then B else s1.openEnd) = _
      rw [hids, hrm, List.length_append, List.length_map]
      cases pre <;> simp
    rw [hmk]
    exact this

theorem flush_H {s : Store} {fs : Fs} {w : Worker} {r : RefLog} {W : List Op} {B A E K : Nat}
    (h : HInv s fs w r W B A E K) (cb : Option Nat) :
    HInv (s.flush cb).1 (effFs (s.flush cb).2 fs) (w.push (effQ (s.flush cb).2)) r W B A E K :=
  h.transport (flush_R h.inv cb) rfl rfl rfl rfl (flush_bytes h.inv.j cb) (h.dur.flush h.inv.j cb)

theorem HInv.settle {s : Store} {fs : Fs} {w : Worker} {r : RefLog} {W : List Op} {B A E K : Nat}
    (h : HInv s fs w r W B A E K) : HInv s fs w.settle r W B A E K :=
  h.transport h.inv.settle rfl rfl rfl rfl
    (settle_bytes _ _ _) h.dur.settle

theorem HInv.of_cache {s : Store} {fs : Fs} {w : Worker} {r : RefLog} {W : List Op} {B A E K : Nat}
    (h : HInv s fs w r W B A E K) (c : Cache) : HInv { s with cache := c } fs w r W B A E K :=
  h.transport (h.inv.of_cache c) rfl rfl rfl rfl (fun id => chunkBytes_congr fs w id rfl rfl)
    (h.dur.of_fields rfl rfl)

theorem HInv.worker {s : Store} {c c' : WCtx} {r : RefLog} {W : List Op} {B A E K A2 : Nat}
    (h : HInv s c.fs c.w r W B A E K) (g : StepGood c c') (hids : Fs.ids c'.fs = Fs.ids c.fs)
    (hd : DInv s c'.fs c'.w A2) : HInv s c'.fs c'.w r W B A2 E K :=
  h.transport (h.inv.worker g hids) rfl rfl rfl rfl
    (g.chunkBytes_eq _) hd

def HCore (y : Sys) (r : RefLog) (W : List Op) (B A E K : Nat) : Prop :=
  ∃ s, y.store = some s ∧ y.worker.pc ≠ .dead ∧ HInv s y.fs y.worker r W B A E K

/-- `HInv` of a live system, with the linked-files invariant, every unsynced linked file tracked by the worker
(`SysCovered`), the worker well-formed. -/
def HSys (y : Sys) (r : RefLog) (W : List Op) (B A E K : Nat) : Prop :=
  HCore y r W B A E K ∧ LSys y ∧ SysCovered y ∧ SysWF y

theorem HSys.rsys {y : Sys} {r : RefLog} {W : List Op} {B A E K : Nat} (h : HSys y r W B A E K) : RSys y r := by
  obtain ⟨⟨s, hs, hd, hi⟩, _⟩ := h
  exact ⟨s, hs, hd, hi.inv⟩

theorem HSys.csys {y : Sys} {r : RefLog} {W : List Op} {B A E K : Nat} (h : HSys y r W B A E K) : CSys y r :=
  ⟨h.rsys, h.2.1⟩

theorem HSys.core {y : Sys} {r : RefLog} {W : List Op} {B A E K : Nat} (h : HSys y r W B A E K) :
    y.Live (HInv · · · r W B A E K) := h.1

theorem HSys.lsys {y : Sys} {r : RefLog} {W : List Op} {B A E K : Nat} (h : HSys y r W B A E K) : LSys y := h.2.1

theorem HSys.cov {y : Sys} {r : RefLog} {W : List Op} {B A E K : Nat} (h : HSys y r W B A E K) :
    SysCovered y := h.2.2.1

theorem HSys.swf {y : Sys} {r : RefLog} {W : List Op} {B A E K : Nat} (h : HSys y r W B A E K) : SysWF y :=
  h.2.2.2

theorem HSys.live {y : Sys} {r : RefLog} {W : List Op} {B A E K : Nat} (h : HSys y r W B A E K) :
    y.Live fun s fs w => HInv s fs w r W B A E K ∧ LInv s fs w := by
  obtain ⟨⟨s, hs, hd, hi⟩, ⟨s1, hs1, hli⟩, _⟩ := h
  cases hs.symm.trans hs1
  exact ⟨s, hs, hd, hi, hli⟩

theorem HSys.of_store {y : Sys} {r : RefLog} {W : List Op} {B A E K : Nat} (h : HSys y r W B A E K) {s : Store}
    (hs : y.store = some s) : HInv s y.fs y.worker r W B A E K ∧ LInv s y.fs y.worker := by
  obtain ⟨s0, hs0, _, hi⟩ := h.live
  cases hs.symm.trans hs0
  exact hi

theorem HSys.J {y : Sys} {r : RefLog} {W : List Op} {B A E K : Nat} (h : HSys y r W B A E K) : J y :=
  h.core.imp fun hi => hi.inv.j

theorem HSys.alive {y : Sys} {r : RefLog} {W : List Op} {B A E K : Nat} (h : HSys y r W B A E K) :
    y.worker.pc ≠ .dead :=
  let ⟨_, _, hd, _⟩ := h.1; hd

theorem HSys.wwf {y : Sys} {r : RefLog} {W : List Op} {B A E K : Nat} (h : HSys y r W B A E K) :
    y.worker.WF :=
  (h.swf (by obtain ⟨s, hs, _⟩ := h.1; rw [hs]; simp)).1

/-- The marker after one step of a history: only a call moves it, to the journal end, and only if it took chunks
out of the chunk table (`markAfter`). `Sys.markRun`: along a history. -/
def Sys.markStep (y : Sys) (st : Step) (B : Nat) : Nat :=
  match st, y.store, (y.step st).store with
  | .call _, some s, some s' => markAfter s s' B
  | _, _, _ => B

def Sys.markRun : Sys → List Step → Nat → Nat
  | _, [], B => B
  | y, st :: rest, B => Sys.markRun (y.step st) rest (y.markStep st B)

/-- The acknowledged position after one step of a history: only the worker moves it (`WCtx.ackStep`), an idle run
as its worker steps do (`WCtx.ackQuiet`; `Sys.ackStep_workerIdle`). `Sys.ackRun`: along a history. -/
def Sys.ackStep (y : Sys) (st : Step) (A : Nat) : Nat :=
  match st, y.store with
  | .worker out, some s => WCtx.ackStep { w := y.worker, fs := y.fs, cache := s.cache } out A
  | .workerIdle, some s =>
    WCtx.ackQuiet y.worker.fuel { w := y.worker, fs := y.fs, cache := s.cache } A
  | _, _ => A

def Sys.ackRun : Sys → List Step → Nat → Nat
  | _, [], A => A
  | y, st :: rest, A => Sys.ackRun (y.step st) rest (y.ackStep st A)

theorem Sys.ackStep_workerIdle (y : Sys) (A : Nat) :
    y.ackStep .workerIdle A = y.ackRun (List.replicate y.idleSteps (.worker .ok)) A := by
  unfold Sys.idleSteps
  cases hs : y.store with
  | none => simp [Sys.ackStep, hs, Sys.ackRun]
  | some s =>
    have key : ∀ n (c : WCtx) A, WCtx.ackQuiet n c A =
        (y.withCtx s c).ackRun (List.replicate (WCtx.quietSteps n c) (.worker .ok)) A := by
      intro n
      induction n with
      | zero => exact fun _ _ => rfl
      | succ n ih =>
        intro c A
        unfold WCtx.ackQuiet WCtx.quietSteps
        split
        · rfl
        · rw [List.replicate_succ, Sys.ackRun, y.withCtx_step s c .ok]
          exact ih _ _
    have h0 : y = y.withCtx s (y.wctx s) := by
      cases y; simp only [Sys.withCtx, Sys.wctx] at hs ⊢; rw [hs]
    rw [h0]
    exact key _ _ A

/-- `Sys.workerIdle_induct` with the acknowledged position. -/
theorem Sys.workerIdle_induct_ack {P : Sys → Nat → Prop}
    (hstep : ∀ y A, P y A → (y.step (.worker .ok)).worker.pc ≠ .dead →
      P (y.step (.worker .ok)) (y.ackStep (.worker .ok) A))
    {y : Sys} {A : Nat} (h : P y A) (hnd : (y.step .workerIdle).worker.pc ≠ .dead) :
    P (y.step .workerIdle) (y.ackStep .workerIdle A) := by
  rw [Sys.ackStep_workerIdle]
  rw [Sys.step_workerIdle] at hnd ⊢
  generalize y.idleSteps = k at hnd ⊢
  induction k generalizing y A with
  | zero => exact h
  | succ k ih =>
    refine ih (hstep y A h fun hd => hnd ?_) hnd
    exact Sys.run_induct (P := fun y => y.worker.pc = .dead) (C := (· = .worker .ok))
      (fun y _ e => e ▸ y.worker_step_dead .ok) hd fun _ hm => List.eq_of_mem_replicate hm

theorem Sys.markStep_call {y : Sys} {s : Store} (op : Op) (B : Nat) (hs : y.store = some s) :
    y.markStep (.call op) B = markAfter s (s.call y.fs.has op).2.1 B := by
  have hst' : (y.step (.call op)).store = some (s.call y.fs.has op).2.1 := by
    rw [show (y.step (.call op)).store = _ from y.call_store op, hs]; rfl
  simp only [Sys.markStep, hs, hst']

theorem HSys.call {y : Sys} {r r' : RefLog} {W : List Op} {B A E K : Nat} (h : HSys y r W B A E K) {op : Op}
    (hl : r.legal op = true) (hc : r.call op = .ok r') (hsm : op.small) (hwf : op.WF) :
    HSys (y.step (.call op)) r' (W ++ op.expand1 r) (y.markStep (.call op) B) A E K :=
  ⟨h.core.call' (K := (HInv · · · r' (W ++ op.expand1 r) (y.markStep (.call op) B) A E K))
      (fun hs hi => by
        obtain ⟨seg, s', effs, heq, hinv⟩ := call_H y.fs.has hi (Fs.has_false_of_lt hi.inv.j.fsLt) hl hc hsm hwf
        rw [Sys.markStep_call op B hs, heq]
        exact hinv.settle),
    h.lsys.call h.J op hwf, h.cov.call h.alive op, h.swf.step (.call op)⟩

theorem HSys.flush {y : Sys} {r : RefLog} {W : List Op} {B A E K : Nat} (h : HSys y r W B A E K)
    (cb : Option Nat) : HSys (y.step (.flush cb)) r W B A E K :=
  ⟨h.core.flush' (K := (HInv · · · r W B A E K)) cb fun _ hi => (flush_H hi cb).settle,
    h.lsys.flush h.J cb, h.cov.flush h.alive cb, h.swf.step (.flush cb)⟩

theorem HSys.worker {y : Sys} {r : RefLog} {W : List Op} {B A E K : Nat} (h : HSys y r W B A E K)
    (out : Outcome) (hnd : (y.step (.worker out)).worker.pc ≠ .dead) :
    HSys (y.step (.worker out)) r W B (y.ackStep (.worker out) A) E K := by
  have hnd' : (y.workerStep out).1.worker.pc ≠ .dead := hnd
  obtain ⟨s, hs, _, _⟩ := h.1
  refine ⟨h.live.worker' (K := (HInv · · · r W B (y.ackStep (.worker out) A) E K)) out
      (fun hs ⟨hi, hli⟩ hnd2 => ?_) hnd',
    h.lsys.worker h.J out hnd', h.cov.workerStep h.wwf out s (WCtx.dies_of_alive (c := y.wctx s) ?_),
    h.swf.step (.worker out)⟩
  · simp only [Sys.ackStep, hs]
    exact (HInv.worker hi (WCtx.step_good _ out hi.inv.j.wok (hi.inv.j.annFs _ List.mem_cons_self) hnd2)
      (WCtx.step_ids _ out) (hi.dur.step_of_live out hi.inv.j hli.live h.cov h.wwf hnd2)).of_cache _
  · rw [y.workerStep_eq out hs] at hnd'
    exact hnd'

theorem HSys.workerIdle {y : Sys} {r : RefLog} {W : List Op} {B A E K : Nat} (h : HSys y r W B A E K)
    (hnd : (y.step .workerIdle).worker.pc ≠ .dead) :
    HSys (y.step .workerIdle) r W B (y.ackStep .workerIdle A) E K :=
  Sys.workerIdle_induct_ack (P := fun y A => HSys y r W B A E K) (fun _ _ h => h.worker .ok) h hnd

theorem HSys.drain {y : Sys} {r : RefLog} {W : List Op} {B A E K : Nat} (h : HSys y r W B A E K) :
    HSys (y.step .drain) r W B A E K := by
  refine ⟨h.core.drain' (K := (HInv · · · r W B A E K)) fun _ hi => hi.of_cache _, h.lsys.drain, ?_,
    h.swf.step .drain⟩
  obtain ⟨s, hs, _, _⟩ := h.1
  show CoveredFW y.drain.fs y.drain.worker
  rw [y.drain_eq hs]
  exact h.cov

theorem fresh_covered_C3 (cfg : Cfg) : SysCovered (Sys.fresh cfg) := by
  rw [Sys.fresh_eq]
  intro f hf _ _
  cases List.mem_singleton.mp hf
  exact .inl (by simp)

theorem DInv.fresh (cfg : Cfg) : DInv (Store.fresh cfg) Fs.fresh Worker.fresh 0 where
  wu := { u1 := trivial, u2 := nofun, u3 := fun i hi hlt => by simp [Fs.ids] at hi; omega }
  a1 := nofun
  a2 := Nat.zero_le _
  dw _ _ := by simp
  dd _ _ _ _ := by simp

theorem HInv.fresh (cfg : Cfg) : HInv (Store.fresh cfg) Fs.fresh Worker.fresh {} [] 0 0 0 0 := by
  refine ⟨RInv.fresh cfg, rfl, ⟨[], [.state {}], RepG.fresh cfg, 0, ?_, ?_, Or.inl rfl,
    Or.inl ⟨[], List.nil_prefix, rfl, rfl⟩⟩, Or.inl rfl, Nat.zero_le _, DInv.fresh cfg⟩
  · simp [allOps, flatOps, chunkOps, opsFrom, cntW, JOp.isHead]
  intro P hP _
  have hP' : P = [⟨.state {}, 0, ⟨0, (encRecord (.state {})).length⟩⟩] ∨ P = [] := by
    rcases List.prefix_concat_iff.mp (show P <+: [] ++ [_] from hP) with e | e
    · exact .inl e
    · exact .inr (List.prefix_nil.mp e)
  rw [List.take_nil]
  refine ⟨{}, rfl, ?_, ?_⟩
  · rcases hP' with e | e <;> rw [e] <;> rfl
  · rcases hP' with e | e <;> rw [e] <;> exact ⟨[], rfl, rfl⟩

theorem fresh_HSys (cfg : Cfg) : HSys (Sys.fresh cfg) {} [] 0 0 0 0 :=
  ⟨Sys.Live.fresh (I := (HInv · · · {} [] 0 0 0 0)) (HInv.fresh cfg), fresh_LSys cfg, fresh_covered_C3 cfg,
    SysWF.fresh cfg⟩

theorem HSys.step {y : Sys} {r r' : RefLog} {W : List Op} {B A E K : Nat} (h : HSys y r W B A E K) (st : Step)
    (hst : st.journal = true) (hr : r.run (stepOps [st]) = some r')
    (hwf : ∀ op, st = .call op → op.WF ∧ op.small) (hnd : (y.step st).worker.pc ≠ .dead) :
    HSys (y.step st) r' (W ++ expandOps r (stepOps [st])) (y.markStep st B) (y.ackStep st A) E K := by
  by_cases hc : ∃ op, st = .call op
  · obtain ⟨op, rfl⟩ := hc
    obtain ⟨hl, hc⟩ := RefLog.run_single.1 hr
    have := h.call hl hc (hwf op rfl).2 (hwf op rfl).1
    simpa [stepOps, expandOps, hc, Sys.ackStep] using this
  · -- no op: nothing joins `W`, the marker stays
    have hnc : ∀ op, st ≠ .call op := fun op e => hc ⟨op, e⟩
    rw [stepOps_noncall hnc] at hr ⊢
    cases hr
    rw [show expandOps r [] = [] from rfl, List.append_nil]
    cases st with
    | drop => cases hst
    | openWith c => cases hst
    | call op => exact absurd rfl (hnc op)
    | drain => exact h.drain
    | flush cb => exact h.flush cb
    | worker out => exact h.worker out hnd
    | workerIdle => exact h.workerIdle hnd

/-- `HSys` along a legal history, together with any predicate `I` that every legal step carries along next to
it (the ghost invariant is one). Not an instance of `Sys.run_induction_ghost`: the marker and the acknowledged
position move with the system (`Sys.markStep`, `Sys.ackStep` read `y`), not with the ops. -/
theorem HSys.run_induct {I : Sys → RefLog → List Op → Nat → Nat → Nat → Nat → Prop}
    (hstep : ∀ {y : Sys} {r r' : RefLog} {W : List Op} {B A E K : Nat} (st : Step),
      HSys y r W B A E K → I y r W B A E K → st.journal = true → r.run (stepOps [st]) = some r' →
      (∀ op, st = .call op → op.WF ∧ op.small) → (y.step st).worker.pc ≠ .dead →
      I (y.step st) r' (W ++ expandOps r (stepOps [st])) (y.markStep st B) (y.ackStep st A) E K)
    (steps : List Step) : ∀ (y : Sys) (r r' : RefLog) (W : List Op) (B A E K : Nat),
    HSys y r W B A E K → I y r W B A E K → (∀ st ∈ steps, st.journal = true) →
    r.run (stepOps steps) = some r' → (∀ op ∈ stepOps steps, op.WF ∧ op.small) →
    (y.run steps).worker.pc ≠ .dead →
    HSys (y.run steps) r' (W ++ expandOps r (stepOps steps)) (y.markRun steps B) (y.ackRun steps A) E K ∧
      I (y.run steps) r' (W ++ expandOps r (stepOps steps)) (y.markRun steps B) (y.ackRun steps A) E K := by
  induction steps with
  | nil =>
    intro y r r' W B A E K h hI _ hr _ _
    simp only [stepOps, RefLog.run, Option.some.injEq] at hr; subst hr
    simpa [stepOps, expandOps, Sys.markRun, Sys.ackRun, Sys.run] using And.intro h hI
  | cons st rest ih =>
    intro y r r' W B A E K h hI hst hr hwf hnd
    simp only [Sys.run, List.foldl_cons] at hnd ⊢
    have hrest : ∀ s ∈ rest, s.journal = true := fun s hs => hst s (List.mem_cons_of_mem _ hs)
    have hnd1 : (y.step st).worker.pc ≠ .dead := Sys.alive_of_run hrest hnd
    rw [stepOps_cons] at hr
    obtain ⟨r1, hr1, hr⟩ := RefLog.run_append_some.mp hr
    have hwf1 : ∀ op, st = .call op → op.WF ∧ op.small := by
      intro op e; subst e; exact hwf op (by simp [stepOps])
    have hwf2 : ∀ op ∈ stepOps rest, op.WF ∧ op.small := by
      intro op hop
      apply hwf op
      rw [stepOps_cons]; exact List.mem_append_right _ hop
    have h2 := ih (y.step st) r1 r' _ _ _ E K (h.step st (hst st List.mem_cons_self) hr1 hwf1 hnd1)
      (hstep st h hI (hst st List.mem_cons_self) hr1 hwf1 hnd1) hrest hr hwf2 hnd
    rw [stepOps_cons, expandOps_append _ _ r r1 hr1, ← List.append_assoc]
    exact h2

theorem run_HSys (steps : List Step) (y : Sys) (r r' : RefLog) (W : List Op) (B A E K : Nat)
    (h : HSys y r W B A E K) (hst : ∀ st ∈ steps, st.journal = true) (hr : r.run (stepOps steps) = some r')
    (hwf : ∀ op ∈ stepOps steps, op.WF ∧ op.small) (hnd : (y.run steps).worker.pc ≠ .dead) :
    HSys (y.run steps) r' (W ++ expandOps r (stepOps steps)) (y.markRun steps B) (y.ackRun steps A) E K :=
  (HSys.run_induct (I := fun _ _ _ _ _ _ _ => True) (fun _ _ _ _ _ _ _ => trivial) steps y r r' W B A E K
    h trivial hst hr hwf hnd).1

theorem HSys.retarget {y : Sys} {r : RefLog} {W : List Op} {B A E K : Nat} (h : HSys y r W B A E K) :
    ∃ s, y.store = some s ∧ HSys y r W B A s.openEnd W.length :=
  let ⟨⟨s, hs, hd, hi⟩, h2⟩ := h
  ⟨s, hs, ⟨s, hs, hd, hi.retarget_C3b⟩, h2⟩

theorem Sys.markRun_append (a b : List Step) : ∀ (y : Sys) (B : Nat),
    y.markRun (a ++ b) B = (y.run a).markRun b (y.markRun a B) := by
  induction a with
  | nil => intro y B; rfl
  | cons st rest ih =>
    intro y B
    simp only [List.cons_append, Sys.markRun, Sys.run, List.foldl_cons]
    exact ih _ _

theorem Sys.le_ackStep (y : Sys) (st : Step) (A : Nat) : A ≤ y.ackStep st A := by
  unfold Sys.ackStep
  split
  · exact WCtx.le_ackStep _ _ _
  · exact WCtx.le_ackQuiet _ _ _
  · exact Nat.le_refl _

theorem Sys.le_ackRun (steps : List Step) : ∀ (y : Sys) (A : Nat), A ≤ y.ackRun steps A := by
  induction steps with
  | nil => intro y A; exact Nat.le_refl _
  | cons st rest ih =>
    intro y A
    exact Nat.le_trans (y.le_ackStep st A) (ih _ _)

theorem Sys.ackRun_append (a b : List Step) : ∀ (y : Sys) (A : Nat),
    y.ackRun (a ++ b) A = (y.run a).ackRun b (y.ackRun a A) := by
  induction a with
  | nil => intro y A; rfl
  | cons st rest ih =>
    intro y A
    simp only [List.cons_append, Sys.ackRun, Sys.run, List.foldl_cons]
    exact ih _ _

/-- `HSys.run_induct` along `pre ++ post`, with the tracked pair set at the end of `pre` to the journal end
and the number of writes there (`hret`: the rider does not mind). -/
theorem HSys.run_induct_at {I : Sys → RefLog → List Op → Nat → Nat → Nat → Nat → Prop}
    (hstep : ∀ {y : Sys} {r r' : RefLog} {W : List Op} {B A E K : Nat} (st : Step),
      HSys y r W B A E K → I y r W B A E K → st.journal = true → r.run (stepOps [st]) = some r' →
      (∀ op, st = .call op → op.WF ∧ op.small) → (y.step st).worker.pc ≠ .dead →
      I (y.step st) r' (W ++ expandOps r (stepOps [st])) (y.markStep st B) (y.ackStep st A) E K)
    (hret : ∀ {y : Sys} {r : RefLog} {W : List Op} {B A E K : Nat} {s : Store}, y.store = some s →
      I y r W B A E K → I y r W B A s.openEnd W.length)
    (pre post : List Step) (y : Sys) (r r' : RefLog) (W : List Op) (B A E K : Nat)
    (hh : HSys y r W B A E K) (hI : I y r W B A E K) (hsteps : ∀ st ∈ pre ++ post, st.journal = true)
    (hlegal : r.run (stepOps (pre ++ post)) = some r')
    (hwf : ∀ op ∈ stepOps (pre ++ post), op.WF ∧ op.small)
    (halive : (y.run (pre ++ post)).worker.pc ≠ .dead) :
    ∃ s1, (y.run pre).store = some s1 ∧
      HSys (y.run (pre ++ post)) r' (W ++ expandOps r (stepOps (pre ++ post))) (y.markRun (pre ++ post) B)
        (y.ackRun (pre ++ post) A) s1.openEnd (W ++ expandOps r (stepOps pre)).length ∧
      I (y.run (pre ++ post)) r' (W ++ expandOps r (stepOps (pre ++ post))) (y.markRun (pre ++ post) B)
        (y.ackRun (pre ++ post) A) s1.openEnd (W ++ expandOps r (stepOps pre)).length := by
  have hpre : ∀ st ∈ pre, st.journal = true := fun st h => hsteps st (List.mem_append_left _ h)
  have hpost : ∀ st ∈ post, st.journal = true := fun st h => hsteps st (List.mem_append_right _ h)
  have hrun := Sys.run_append y pre post
  rw [stepOps_append] at hlegal
  obtain ⟨r1, hr1, hlegal⟩ := RefLog.run_append_some.mp hlegal
  have halive1 : (y.run pre).worker.pc ≠ .dead := Sys.alive_of_run hpost (hrun ▸ halive)
  obtain ⟨h1, hI1⟩ := HSys.run_induct hstep pre y r r1 W B A E K hh hI hpre hr1
    (fun op hop => hwf op (by rw [stepOps_append]; exact List.mem_append_left _ hop)) halive1
  obtain ⟨s1, hs1, h1'⟩ := h1.retarget
  refine ⟨s1, hs1, ?_⟩
  have h2 := HSys.run_induct hstep post _ r1 r' _ _ _ _ _ h1' (hret hs1 hI1) hpost hlegal
    (fun op hop => hwf op (by rw [stepOps_append]; exact List.mem_append_right _ hop))
    (by rw [← hrun]; exact halive)
  rw [hrun, stepOps_append, expandOps_append _ _ r r1 hr1, Sys.markRun_append, Sys.ackRun_append,
    ← List.append_assoc]
  exact h2

end RaftLog
