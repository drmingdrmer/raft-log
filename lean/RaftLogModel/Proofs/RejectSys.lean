/-
C06 at system level. A rejected store-level call is the identity on the whole system provided the worker is
settled (blocked in `recv` only with an empty queue: every step keeps that); a batch stopped at an entry
leaves what the call with the entries before it leaves; the reference log's verdict is the store's (`Abs s r`).
-/
import RaftLogModel.Proofs.ReplaySys
import RaftLogModel.Proofs.WorkerSys
namespace RaftLog

/-- A worker blocked in `recv` (`pc = idle`) has nothing queued. -/
def Worker.IsSettled (w : Worker) : Prop := w.pc = .idle → w.queue = []

theorem Worker.settle_eq_iff (w : Worker) : w.settle = w ↔ w.IsSettled := by
  rcases w.settle_cases with ⟨r, q, hpc, hq, e⟩ | ⟨hs, e⟩
  · refine ⟨fun h => ?_, fun h => ?_⟩
    · have := congrArg Worker.pc (e.symm.trans h)
      rw [hpc] at this
      cases this
    · have := h hpc
      rw [hq] at this; cases this
  · exact ⟨fun _ => hs, fun _ => e⟩

theorem Worker.settle_isSettled (w : Worker) : w.settle.IsSettled := by
  rcases w.settle_cases with ⟨r, q, _, _, e⟩ | ⟨hs, e⟩ <;> rw [e]
  · intro h; cases h
  · exact hs

theorem Worker.settle_idem (w : Worker) : w.settle.settle = w.settle :=
  (Worker.settle_eq_iff _).2 w.settle_isSettled

theorem WCtx.step_isSettled (c : WCtx) (out : Outcome) : (c.step out).w.IsSettled := by
  apply c.step_landed_elim (P := Worker.IsSettled) out
  · rintro pc' (⟨rfl, h⟩ | ⟨_, _, _, rfl⟩ | ⟨_, _, _, rfl⟩) hpc
    · exact nomatch h.symm.trans hpc
    · exact nomatch hpc
    · exact nomatch hpc
  · exact fun _ hpc => nomatch hpc
  · intro w' hl _ hpc
    simp only [Worker.Landed, hpc] at hl
    exact hl.1

/-- The form in which the C06 statements say it (`settle` does nothing); `Worker.IsSettled` is the
form the worker blocks are proved in, `Sys.settled_iff` connects them. -/
def Sys.Settled (y : Sys) : Prop := y.worker.settle = y.worker

theorem Sys.settled_iff (y : Sys) : y.Settled ↔ y.worker.IsSettled := Worker.settle_eq_iff _

theorem Sys.step_settled (y : Sys) (st : Step) (h : y.Settled) : (y.step st).Settled := by
  rw [Sys.settled_iff] at h ⊢
  cases st with
  | drop =>
    simp only [Sys.step, Sys.dropStore]
    cases hs : y.store with
    | none => exact h
    | some s => intro hpc; cases hpc
  | openWith cfg =>
    rcases Sys.open_projC4S { y with cfg := cfg } with ⟨e, _, _⟩ | ⟨_, s, e, hw, _, _⟩
    · exact e ▸ h
    · exact hw ▸ fun _ => rfl
  | _ =>
    exact Sys.step_worker (I := Worker.IsSettled) (C := fun _ => True) trivial
      (fun c out _ _ => c.step_isSettled out) (fun _ _ _ _ _ => Worker.settle_isSettled _) h rfl fun _ _ => trivial

theorem Sys.open_settled (y : Sys) (h : y.Settled) : (y.open).2.1.Settled := by
  have := Sys.step_settled y (.openWith y.cfg) h
  simpa [Sys.step] using this

theorem Sys.run_settled (steps : List Step) : ∀ (y : Sys), y.Settled → (y.run steps).Settled :=
  fun _ h => Sys.run_induct (C := fun _ => True) (fun y st _ => y.step_settled st) h fun _ _ => trivial

theorem Sys.fresh_settled (cfg : Cfg) : (Sys.fresh cfg).Settled :=
  Sys.step_settled ({} : Sys) (.openWith cfg) (by rfl)

theorem Sys.reachable_settled (cfg : Cfg) (steps : List Step) :
    ((Sys.fresh cfg).run steps).Settled :=
  Sys.run_settled steps _ (Sys.fresh_settled cfg)

theorem Sys.call_rejected_eq (y : Sys) (s : Store) (op : Op) (k : ErrKind) (hs : y.store = some s)
    (hset : y.Settled) (h : s.call y.fs.has op = (.err k, s, [])) :
    y.call op = (.err k, y, []) := by
  unfold Sys.Settled at hset
  obtain ⟨fs, locked, dump, store, worker, cfg⟩ := y
  simp only at hs hset h
  subst hs
  simp only [Sys.call, h, applyEffs, hset]
  rfl

theorem Sys.step_call_rejected_C6N (y : Sys) (s : Store) (op : Op) (k : ErrKind)
    (hs : y.store = some s) (hset : y.Settled) (h : s.call y.fs.has op = (.err k, s, [])) :
    y.step (.call op) = y := by
  show (y.call op).2.1 = y
  rw [y.call_rejected_eq s op k hs hset h]

/-- If the entries `pre` are all accepted, a longer batch continues from the
store, segment and effects they produced (with some `fsHas'`: the files the
prefix created exist by now). -/
theorem appendBatch_prefix_ok (pre : List (LogId × Bytes)) :
    ∀ (fsHas : Nat → Bool) (s : Store) (seg : Seg) (effs : List Eff) (seg' : Seg) (s' : Store)
      (effs' : List Eff),
    Store.appendBatch fsHas pre s seg effs = (.ok seg', s', effs') →
    ∃ fsHas' : Nat → Bool, ∀ post,
      Store.appendBatch fsHas (pre ++ post) s seg effs = Store.appendBatch fsHas' post s' seg' effs' := by
  induction pre with
  | nil =>
    intro fsHas s seg effs seg' s' effs' h
    simp only [Store.appendBatch, Prod.mk.injEq, Res.ok.injEq] at h
    obtain ⟨h1, h2, h3⟩ := h
    subst h1; subst h2; subst h3
    exact ⟨fsHas, fun post => rfl⟩
  | cons e rest ih =>
    obtain ⟨id, p⟩ := e
    intro fsHas s seg effs seg' s' effs' h
    by_cases hU : id.index + 1 = U64
    · rw [appendBatch_cons_refused_D12 _ _ _ _ _ _ _ hU] at h; cases h
    rw [appendBatch_cons_small_D12 _ _ _ _ _ _ _ hU] at h
    cases ha : s.appendAndApply fsHas (.append id p) with
    | mk res x =>
      obtain ⟨s1, e1⟩ := x
      rw [ha] at h
      cases res with
      | ok seg1 =>
        simp only at h
        obtain ⟨fsHas', hf⟩ := ih _ s1 seg1 (effs ++ e1) seg' s' effs' h
        refine ⟨fsHas', fun post => ?_⟩
        rw [List.cons_append]
        rw [appendBatch_cons_small_D12 _ _ _ _ _ _ _ hU]
        rw [ha]
        exact hf post
      | err k => simp only at h; cases h
      | panic m => simp only at h; cases h

theorem call_append_stopped_after (fsHas : Nat → Bool) (pre rest : List (LogId × Bytes))
    (id : LogId) (p : Bytes) (s s' : Store) (seg' : Seg) (effs' : List Eff)
    (h : s.call fsHas (.append pre) = (.ok seg', s', effs'))
    (hk : id.index + 1 = U64 ∨ ∃ k, s'.st.apply (.append id p) = .err k) :
    ∃ k', s.call fsHas (.append (pre ++ (id, p) :: rest)) = (.err k', s', effs') ∧
      ∀ k, s'.st.apply (.append id p) = .err k →
        k' = if id.index + 1 = U64 then .invalidInput else k := by
  cases hl : lastSegment s.openOffsets with
  | none => simp only [Store.call, hl] at h; cases h
  | some seg0 =>
    rw [s.call_append fsHas _ hl] at h ⊢
    obtain ⟨fsHas', hf⟩ := appendBatch_prefix_ok pre fsHas s seg0 [] seg' s' effs' h
    simp only [hf]
    by_cases hU : id.index + 1 = U64
    · rw [appendBatch_cons_refused_D12 _ _ _ _ _ _ _ hU]
      exact ⟨_, rfl, fun k _ => by rw [if_pos hU]⟩
    · obtain ⟨k, hk⟩ := hk.resolve_left hU
      refine ⟨k, by simp only [appendBatch_cons_small_D12 _ _ _ _ _ _ _ hU,
        appendAndApply_of_apply_err _ _ hk, List.append_nil], fun k2 hk2 => ?_⟩
      rw [hk] at hk2
      injection hk2 with hk2
      rw [if_neg hU, hk2]

theorem Sys.call_append_stopped_after (y : Sys) (s s' : Store) (pre rest : List (LogId × Bytes))
    (id : LogId) (p : Bytes) (seg' : Seg) (effs' : List Eff) (hs : y.store = some s)
    (h : s.call y.fs.has (.append pre) = (.ok seg', s', effs'))
    (hk : id.index + 1 = U64 ∨ ∃ k, s'.st.apply (.append id p) = .err k) :
    (y.call (.append (pre ++ (id, p) :: rest))).2 = (y.call (.append pre)).2 ∧
    ∃ k', (y.call (.append (pre ++ (id, p) :: rest))).1 =
        (if (applyEffs effs' y.fs y.worker []).1 then .err k' else .err .sendFailed) ∧
      ∀ k, s'.st.apply (.append id p) = .err k →
        k' = if id.index + 1 = U64 then .invalidInput else k := by
  obtain ⟨k', h2, hk'⟩ := _root_.RaftLog.call_append_stopped_after y.fs.has pre rest id p s s' seg'
    effs' h hk
  simp only [Sys.call, hs, h, h2]
  exact ⟨trivial, k', rfl, hk'⟩

theorem Abs.rejects_vote {s : Store} {r : RefLog} (h : Abs s r) (fsHas : Nat → Bool) (v : Vote)
    (k : ErrKind) (hr : r.call (.saveVote v) = .error k) :
    s.call fsHas (.saveVote v) = (.err k, s, []) := by
  simp only [RefLog.call] at hr
  split at hr
  · cases hr
  · rename_i hc
    injection hr with hr
    subst hr
    have : s.st.apply (.saveVote v) = .err .voteReversal := by
      simp only [RState.apply, RState.updateVote, h.st, RefLog.state]
      simp [hc]
    simp only [Store.call, appendAndApply_of_apply_err _ _ this]

theorem Abs.rejects_commit {s : Store} {r : RefLog} (h : Abs s r) (fsHas : Nat → Bool) (id : LogId)
    (k : ErrKind) (hr : r.call (.commit id) = .error k) :
    s.call fsHas (.commit id) = (.err k, s, []) := by
  simp only [RefLog.call] at hr
  split at hr
  · rename_i hc
    injection hr with hr
    subst hr
    have : s.st.apply (.commit id) = .err .logIdReversal := by
      simp only [RState.apply, RState.commit, h.st, RefLog.state]
      simp [hc]
    simp only [Store.call, appendAndApply_of_apply_err _ _ this]
  · cases hr

theorem Abs.logGet_none_of_entryAt {s : Store} {r : RefLog} (h : Abs s r) {i : Nat}
    (he : r.entryAt i = none) : s.logGet i = none := by
  have hk := find_keys_eq (l := s.log) (es := r.entries) h.log i
  unfold RefLog.entryAt at he
  rw [he] at hk
  unfold Store.logGet
  cases hf : s.log.find? (fun e => e.1 = i) with
  | none => rfl
  | some x => rw [hf] at hk; simp at hk

/-- The store's guards are the reference log's: `st = r.state`, `nextIndexChecked = nextIndex` under
`PanicFree`, `logGet = none` iff `entryAt = none`; the proof follows the branches of `RefLog.call`. -/
theorem Abs.rejects_truncate {s : Store} {r : RefLog} (h : Abs s r) (fsHas : Nat → Bool) (idx : Nat)
    (k : ErrKind) (hr : r.call (.truncate idx) = .error k) :
    s.call fsHas (.truncate idx) = (.err k, s, []) := by
  have hpu : s.st.purged = r.purged := h.purged
  simp only [RefLog.call] at hr
  simp only [Store.call]
  rw [nextIndexChecked_eq h.pf.purged]
  simp only [hpu]
  split at hr
  · cases hr
  · rename_i hne
    rw [if_neg hne]
    split at hr
    · rename_i h0
      injection hr with hr
      subst hr
      rw [if_pos h0]
    · rename_i h0
      rw [if_neg h0]
      split at hr
      · rename_i hea
        injection hr with hr
        subst hr
        rw [h.logGet_none_of_entryAt hea]
      · cases hr

theorem Abs.rejects_append1 {s : Store} {r : RefLog} (h : Abs s r) (id : LogId)
    (p : Bytes) (k : ErrKind) (hr : r.append1 id p = .error k) :
    s.st.apply (.append id p) = .err k := by
  have hla : s.st.last = r.last := h.last
  unfold RefLog.append1 at hr
  simp only [RState.apply, RState.append, hla]
  split at hr
  · rename_i hc
    injection hr with hr
    subst hr
    simp [hc]
  · rename_i hc
    rw [if_neg hc]
    split at hr
    · rename_i l hl
      split at hr
      · rename_i hne
        injection hr with hr
        subst hr
        have hsm : optSmall (some l) := by
          have := h.pf.last
          rw [hla, hl] at this
          exact this
        have := nextIndexChecked_eq hsm
        simp only [nextIndex] at this
        simp only [hl, this]
        simp [hne]
      · cases hr
    · cases hr

theorem Abs.rejects_append_single {s : Store} {r : RefLog} (h : Abs s r) (fsHas : Nat → Bool)
    (id : LogId) (p : Bytes) (k : ErrKind) (hr : r.call (.append [(id, p)]) = .error k) :
    s.call fsHas (.append [(id, p)]) =
      (.err (if id.index + 1 = U64 then .invalidInput else k), s, []) := by
  have h1 : r.append1 id p = .error k := by
    simp only [RefLog.call, RefLog.appendAll] at hr
    split at hr
    · cases hr
    · rename_i k' hk'
      injection hr with hr
      subst hr
      exact hk'
  have h2 := h.rejects_append1 id p k h1
  obtain ⟨seg0, hseg⟩ := lastSegment_some h.pf.open2
  by_cases hU : id.index + 1 = U64
  · rw [s.call_append fsHas _ hseg, appendBatch_cons_refused_D12 _ _ _ _ _ _ _ hU, if_pos hU]
  · simp only [s.call_append fsHas _ hseg, appendBatch_cons_small_D12 _ _ _ _ _ _ _ hU,
      appendAndApply_of_apply_err _ _ h2, if_neg hU, List.append_nil]

/-- The ops the same-verdict theorems speak about: everything but a batch of length ≠ 1 (`append []` is not
single). `purge` and `saveUserData` are never rejected (`RefLog.never_rejects`); longer batches are
`call_append_stopped_after`. -/
def Op.single : Op → Prop
  | .append es => ∃ id p, es = [(id, p)]
  | _ => True

/-- D12 (index u64::MAX is refused): without `small` the store still rejects (store unchanged, nothing
emitted); only the error kind may be `InvalidInput` instead of the reference
log's (an `append` whose id has index u64::MAX is refused up front). -/
theorem Abs.rejects_any_D12 {s : Store} {r : RefLog} (h : Abs s r) (fsHas : Nat → Bool) (op : Op)
    (hop : op.single) (k : ErrKind) (hr : r.call op = .error k) :
    ∃ k', s.call fsHas op = (.err k', s, []) ∧ (op.small → k' = k) := by
  cases op with
  | saveVote v => exact ⟨k, h.rejects_vote fsHas v k hr, fun _ => rfl⟩
  | commit id => exact ⟨k, h.rejects_commit fsHas id k hr, fun _ => rfl⟩
  | truncate idx => exact ⟨k, h.rejects_truncate fsHas idx k hr, fun _ => rfl⟩
  | append es =>
    obtain ⟨id, p, he⟩ := hop
    subst he
    refine ⟨_, h.rejects_append_single fsHas id p k hr, ?_⟩
    intro hsm
    have hidx : ¬ id.index + 1 = U64 := by
      have : id.index + 1 < U64 := hsm (id, p) List.mem_cons_self
      omega
    rw [if_neg hidx]
  | purge upto =>
    simp only [RefLog.call] at hr
    split at hr <;> cases hr
  | saveUserData d => simp only [RefLog.call] at hr; cases hr

theorem RSys.call_store {y : Sys} {r r' : RefLog} (h : RSys y r) {op : Op}
    (hl : r.legal op = true) (hc : r.call op = .ok r') (hsm : op.small) (hwf : op.WF) :
    ∃ s seg s' effs, y.store = some s ∧ y.worker.pc ≠ .dead ∧
      s.call y.fs.has op = (.ok seg, s', effs) ∧ Abs s' r' := by
  obtain ⟨s, hs, hd, hi⟩ := h
  obtain ⟨seg, s', effs, heq, hinv⟩ :=
    call_R y.fs.has hi (Fs.has_false_of_lt hi.j.fsLt) hl hc hsm hwf
  exact ⟨s, seg, s', effs, hs, hd, heq, hinv.abs⟩

theorem Abs.rejects {s : Store} {r : RefLog} (h : Abs s r) (fsHas : Nat → Bool) (op : Op)
    (hop : op.single) (hsm : op.small) (k : ErrKind) (hr : r.call op = .error k) :
    s.call fsHas op = (.err k, s, []) := by
  obtain ⟨k', h1, h2⟩ := h.rejects_any_D12 fsHas op hop k hr
  rw [← h2 hsm]
  exact h1

theorem RefLog.never_rejects (r : RefLog) (op : Op)
    (hop : (∃ id, op = .purge id) ∨ (∃ d, op = .saveUserData d)) : ∃ r', r.call op = .ok r' := by
  rcases hop with ⟨id, rfl⟩ | ⟨d, rfl⟩
  · simp only [RefLog.call]
    split <;> exact ⟨_, rfl⟩
  · exact ⟨_, rfl⟩

end RaftLog
