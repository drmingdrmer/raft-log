/-
C07 after crash recovery: the journal of an `AppendsFresh` history is a fresh journal (`FTotC7c`,
Proofs/ReadRestartJournal.lean), along histories. `FJC7c s fs w m` says so of the record lists of the replay
invariant; it is a `LiftRider` (Proofs/RecovPayloadSys.lean), so it rides along with the payload-mirroring
invariant of C05 for the store with ALL chunks dropped so far put back: `FSysC7c` is equivalent to
`TSysK FJC7c` (`fsys_iff`). The journal of that store only grows; the journal of every directory (`open` reads
the chunk files that are still linked) is a chunk-aligned suffix of it.
-/
import RaftLogModel.Proofs.RecovPayloadSys
import RaftLogModel.Proofs.ReadTrunc
import RaftLogModel.Proofs.ReadRestartJournal
namespace RaftLog

def FJC7c (s : Store) (fs : Fs) (w : Worker) (m : Option LogId) : Prop :=
  ∃ jc jo, RepG s fs w jc jo ∧ FTotC7c (allOps s jc jo) m

theorem FJC7c.of_repG {s : Store} {fs : Fs} {w : Worker} {m : Option LogId} (h : FJC7c s fs w m)
    {jc : List (Closed × List Record)} {jo : List Record} (g : RepG s fs w jc jo) :
    FTotC7c (allOps s jc jo) m := by
  obtain ⟨jc0, jo0, g0, h0⟩ := h
  obtain ⟨e1, e2⟩ := g.unique_C3b g0
  subst e1; subst e2
  exact h0

theorem FJC7c.transport {s s2 : Store} {fs fs2 : Fs} {w w2 : Worker} {m : Option LogId}
    (h : FJC7c s fs w m)
    (h1 : s2.st = s.st) (h2 : s2.log = s.log) (h3 : s2.openOffsets = s.openOffsets)
    (h5 : s2.closed = s.closed)
    (hb : ∀ id, chunkBytes s2 fs2 w2 id = chunkBytes s fs w id) : FJC7c s2 fs2 w2 m := by
  obtain ⟨jc, jo, g, hg⟩ := h
  exact ⟨jc, jo, g.transport h1 h2 h3 h5 hb, by rw [allOps_congr h3]; exact hg⟩

theorem FJC7c.applied {s : Store} {fs : Fs} {w : Worker} {r r' : RefLog} {m : Option LogId}
    {rec : Record} (hf : FJC7c s fs w m) (hj : JInv s fs w) (ok : StepOK s r r' rec) (hwf : rec.WF)
    (hchk : FreshChkC7c rec s.st m) : FJC7c (s.applied rec r'.state) fs w (freshMC7c rec m) := by
  obtain ⟨jc, jo, g, hg⟩ := hf
  obtain ⟨g3, hops3⟩ := g.journal_C3 (s3 := s.applied rec r'.state) hj hwf rfl rfl rfl ok.hst
    (idxLogO_of_small ok.small _ _ _)
  exact ⟨jc, jo ++ [rec], g3, hops3 ▸ hg.snoc g.flat_run.1 hchk⟩

theorem FJC7c.rotated {s : Store} {fs : Fs} {w : Worker} {r : RefLog} {m : Option LogId}
    (hf : FJC7c s fs w m) (hinv : RInv s fs w r) :
    FJC7c s.rotated (effFs (rotateEffs s) fs) (w.push (effQ (rotateEffs s))) m := by
  obtain ⟨jc, jo, g, hg⟩ := hf
  obtain ⟨g4, hops⟩ := g.rotate_C3 hinv.j hinv.abs.log_below
  exact ⟨_, _, g4, hops ▸ hg.snoc (op := ⟨.state s.st, s.openEnd, _⟩) g.flat_run.1 ⟨rfl, rfl⟩⟩

theorem FJC7c.settle {s : Store} {fs : Fs} {w : Worker} {m : Option LogId} (h : FJC7c s fs w m) :
    FJC7c s fs w.settle m :=
  h.transport rfl rfl rfl rfl (settle_bytes _ _ _)

theorem FJC7c.worker {s : Store} {c c' : WCtx} {m : Option LogId} (h : FJC7c s c.fs c.w m)
    (g : StepGood c c') : FJC7c s c'.fs c'.w m :=
  h.transport rfl rfl rfl rfl (g.chunkBytes_eq _)

structure FInvC7c (s : Store) (fs : Fs) (w : Worker) (r : RefLog) (W : List Op) (T : List Closed)
    (m : Option LogId) : Prop where
  tinv : TInvC5b s fs w r W T
  fresh : FJC7c (s.liftC3b T) fs w m

theorem FJC7c.rider : LiftRider FJC7c freshOpC7b
    (fun m s _ _ rec m' => FreshChkC7c rec s.st m ∧ m' = freshMC7c rec m) :=
  ⟨fun h => h.transport, CallGhost.fresh, fun _ h => h,
    fun h hf ok hwf hchk => hchk.2 ▸ hf.applied h.j ok hwf hchk.1, fun h hf => hf.rotated h⟩

def FSysC7c (y : Sys) (r : RefLog) (W : List Op) (m : Option LogId) : Prop :=
  ∃ s T, y.store = some s ∧ FInvC7c s y.fs y.worker r W T m

theorem fsys_iff {y : Sys} {r : RefLog} {W : List Op} {m : Option LogId} :
    FSysC7c y r W m ↔ TSysK FJC7c y r W m :=
  ⟨fun ⟨s, T, hs, h⟩ => ⟨s, T, hs, h.tinv, h.fresh⟩, fun ⟨s, T, hs, h⟩ => ⟨s, T, hs, h.tinv, h.ride⟩⟩

theorem FSysC7c.tsys {y : Sys} {r : RefLog} {W : List Op} {m : Option LogId} (h : FSysC7c y r W m) :
    TSysC5b y r W := by
  obtain ⟨s, T, hs, hg⟩ := h
  exact ⟨s, T, hs, hg.tinv⟩

theorem freshOps_eq_foldlM (ops : List Op) (m : Option LogId) :
    freshOpsC7b m ops = ops.foldlM freshOpC7b m := by
  induction ops generalizing m with
  | nil => rfl
  | cons op rest ih =>
    rw [List.foldlM_cons, freshOpsC7b]
    cases freshOpC7b m op with
    | none => rfl
    | some m1 => exact ih m1

theorem run_FSys_C7c (steps : List Step) (y : Sys) (r r' : RefLog) (W : List Op) (m m' : Option LogId)
    (h : FSysC7c y r W m) (hst : ∀ st ∈ steps, st.journal = true)
    (hr : r.run (stepOps steps) = some r') (hwf : ∀ op ∈ stepOps steps, op.WF ∧ op.small)
    (hnd : (y.run steps).worker.pc ≠ .dead) (hfr : freshOpsC7b m (stepOps steps) = some m') :
    FSysC7c (y.run steps) r' (W ++ expandOps r (stepOps steps)) m' :=
  fsys_iff.2 (run_TSysK FJC7c.rider steps y r r' W m m' (fsys_iff.1 h) hst hr hwf hnd
    (freshOps_eq_foldlM _ m ▸ hfr))

theorem fresh_FSys_C7c (cfg : Cfg) : FSysC7c (Sys.fresh cfg) {} [] none := by
  rw [Sys.fresh_eq]
  -- the journal of the fresh store: one `State {}` record
  exact ⟨_, [], rfl, TInvC5b.fresh cfg, [], [.state {}], RepG.fresh cfg,
    _, [], {}, none, rfl, rfl, rfl, trivial, rfl⟩

end RaftLog
