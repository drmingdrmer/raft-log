/-
C14 (busy drop), worker level: closing the channel commutes with every worker step, up to the
exit of the worker that would block in `recv` on an empty queue. `killC14b`, `closeC14b` equal
`WCtx.frame false []`, `WCtx.reframe false []` (`killC14b_eq`, `closeC14b_eq`; Proofs/WorkerFrame).
-/
import RaftLogModel.Proofs.WorkerSys
namespace RaftLog

/-- Close the channel; the worker thread lives on (its death is `WCtx.die` / `WCtx.dies`). -/
def WCtx.killC14b (c : WCtx) : WCtx := { c with w := { c.w with senderAlive := false } }

/-- What the closed-channel worker looks like when the live-channel worker is
in state `c`: the same, except that it has exited where `c` is blocked in
`recv` on an empty queue. -/
def WCtx.closeC14b (c : WCtx) : WCtx :=
  if c.w.pc = .idle ∧ c.w.queue = [] then c.killC14b.exitC14b else c.killC14b

theorem WCtx.killC14b_eq (c : WCtx) : c.killC14b = c.frame false [] := rfl

theorem WCtx.closeC14b_eq (c : WCtx) : c.closeC14b = c.reframe false [] := by
  simp only [WCtx.closeC14b, WCtx.reframe, true_and]
  rfl

theorem WCtx.closeC14b_of_ne (c : WCtx) (h : c.w.pc ≠ .idle) : c.closeC14b = c.killC14b :=
  c.closeC14b_eq.trans (c.reframe_of_ne false [] h)

theorem WCtx.closeC14b_of_queue (c : WCtx) (h : c.w.queue ≠ []) : c.closeC14b = c.killC14b :=
  c.closeC14b_eq.trans (c.reframe_of_queue false [] h)

theorem WCtx.closeC14b_idle (c : WCtx) (h1 : c.w.pc = .idle) (h2 : c.w.queue = []) :
    c.closeC14b = c.killC14b.exitC14b :=
  c.closeC14b_eq.trans (c.reframe_idle [] h1 h2)

@[simp] theorem WCtx.killC14b_fs (c : WCtx) : c.killC14b.fs = c.fs := rfl
@[simp] theorem WCtx.killC14b_cache (c : WCtx) : c.killC14b.cache = c.cache := rfl
@[simp] theorem WCtx.killC14b_evs (c : WCtx) : c.killC14b.evs = c.evs := rfl
@[simp] theorem WCtx.killC14b_pc (c : WCtx) : c.killC14b.w.pc = c.w.pc := rfl
@[simp] theorem WCtx.killC14b_queue (c : WCtx) : c.killC14b.w.queue = c.w.queue := rfl
@[simp] theorem WCtx.killC14b_files (c : WCtx) : c.killC14b.w.files = c.w.files := rfl
@[simp] theorem WCtx.killC14b_lsf (c : WCtx) : c.killC14b.w.lastSyncFailed = c.w.lastSyncFailed := rfl
@[simp] theorem WCtx.killC14b_postponed (c : WCtx) : c.killC14b.w.postponed = c.w.postponed := rfl
@[simp] theorem WCtx.killC14b_alive (c : WCtx) : c.killC14b.w.senderAlive = false := rfl

theorem WCtx.toRecv_killC14b (c : WCtx) : c.killC14b.toRecv = c.toRecv.closeC14b :=
  (c.toRecv_frame false []).trans c.toRecv.closeC14b_eq.symm

theorem WCtx.step_killC14b (c : WCtx) (out : Outcome) : c.killC14b.step out = (c.step out).closeC14b :=
  (c.step_frame false [] out).trans (c.step out).closeC14b_eq.symm

end RaftLog
