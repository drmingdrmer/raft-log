/-
C03: the durability invariant `DInv s fs w A`: every live chunk file is written
and durable up to `A` (or to its end if the chunk ends below `A`). It is used
with `A` the acknowledged position, which `WCtx.ackStep` raises to the largest
`upto` of a batch finished by a successful sync of the newest (and then only)
file of the worker's list; `DInv.step_of_live` is the invariant under that step.
-/
import RaftLogModel.Proofs.CrashDurWorker
import RaftLogModel.Proofs.Crash
namespace RaftLog

def maxUpto : List WReq → Nat
  | [] => 0
  | r :: rest => max r.upto (maxUpto rest)

theorem le_maxUpto {b : List WReq} {r : WReq} (h : r ∈ b) : r.upto ≤ maxUpto b := by
  induction b with
  | nil => cases h
  | cons x b ih =>
    simp only [maxUpto]
    rcases List.mem_cons.mp h with e | e
    · subst e; exact Nat.le_max_left _ _
    · exact Nat.le_trans (ih e) (Nat.le_max_right _ _)

theorem maxUpto_le {b : List WReq} {N : Nat} (h : ∀ r ∈ b, r.upto ≤ N) : maxUpto b ≤ N := by
  induction b with
  | nil => exact Nat.zero_le _
  | cons x b ih =>
    simp only [maxUpto]
    exact Nat.max_le.mpr ⟨h x List.mem_cons_self, ih (fun r hr => h r (List.mem_cons_of_mem _ hr))⟩

/-- The acknowledged position after a worker step: a successful sync of the
newest file acknowledges the batch in hand. -/
def WCtx.ackStep (c : WCtx) (out : Outcome) (A : Nat) : Nat :=
  match c.w.pc with
  | .syncNew b _ => if out = .eio then A else max A (maxUpto b)
  | _ => A

theorem WCtx.ackStep_cases (c : WCtx) (out : Outcome) (A : Nat) :
    (∃ b t, c.w.pc = .syncNew b t ∧ out ≠ .eio ∧ c.ackStep out A = max A (maxUpto b)) ∨
    ((¬ ∃ b t, c.w.pc = .syncNew b t ∧ out ≠ .eio) ∧ c.ackStep out A = A) := by
  unfold WCtx.ackStep
  split
  · rename_i b t hpc
    by_cases ho : out = .eio
    · exact .inr ⟨fun ⟨_, _, _, h⟩ => h ho, if_pos ho⟩
    · exact .inl ⟨b, t, hpc, ho, if_neg ho⟩
  · rename_i hpc
    exact .inr ⟨fun ⟨b, t, h, _⟩ => hpc b t h, rfl⟩

def WCtx.ackQuiet : Nat → WCtx → Nat → Nat
  | 0, _, A => A
  | n + 1, c, A => if c.w.quiet then A else WCtx.ackQuiet n (c.step .ok) (c.ackStep .ok A)

theorem WCtx.ackQuiet_succ_of_not_quiet (n : Nat) (c : WCtx) (A : Nat) (h : c.w.quiet = false) :
    WCtx.ackQuiet (n + 1) c A = WCtx.ackQuiet n (c.step .ok) (c.ackStep .ok A) := by
  simp [WCtx.ackQuiet, h]

theorem WCtx.le_ackStep (c : WCtx) (out : Outcome) (A : Nat) : A ≤ c.ackStep out A := by
  rcases c.ackStep_cases out A with ⟨_, _, _, _, e⟩ | ⟨_, e⟩ <;> rw [e]
  · exact Nat.le_max_left _ _
  · exact Nat.le_refl _

theorem WCtx.le_ackQuiet (n : Nat) : ∀ (c : WCtx) (A : Nat), A ≤ WCtx.ackQuiet n c A := by
  induction n with
  | zero => intro c A; exact Nat.le_refl _
  | succ n ih =>
    intro c A
    unfold WCtx.ackQuiet
    split
    · exact Nat.le_refl _
    · exact Nat.le_trans (c.le_ackStep .ok A) (ih _ _)

theorem WCtx.le_ackStep_of_mem {c : WCtx} {out : Outcome} {b : List WReq} {t : Option WReq} {r : WReq}
    (hpc : c.w.pc = .syncNew b t) (ho : out ≠ .eio) (hr : r ∈ b) (A : Nat) : r.upto ≤ c.ackStep out A := by
  rcases c.ackStep_cases out A with ⟨b', t', hpc', _, e⟩ | ⟨hn, _⟩
  · cases hpc.symm.trans hpc'
    rw [e]
    exact Nat.le_trans (le_maxUpto hr) (Nat.le_max_right _ _)
  · exact absurd ⟨b, t, hpc, ho⟩ hn

structure DInv (s : Store) (fs : Fs) (w : Worker) (A : Nat) : Prop where
  wu : WU fs w
  /-- `A` is at or below every file announced beyond the worker's newest one -/
  a1 : ∀ i ∈ annIds w.rest, A ≤ i
  a2 : A ≤ s.openEnd
  /-- every live chunk is written up to `A` (or to its end) -/
  dw : ∀ offs ∈ s.chunks,
    min (lastOff offs - offs.headD 0) (A - offs.headD 0) ≤ (fdata fs (offs.headD 0)).length
  /-- ... and durable up to `A` (or to its end) -/
  dd : ∀ offs ∈ s.chunks, ∀ f, fs.find (offs.headD 0) = some f →
    min (lastOff offs - offs.headD 0) (A - offs.headD 0) ≤ f.durable

theorem min_sub_le_of_le {l e a h n : Nat} (hea : e ≤ a) (hn : min l (a - h) ≤ n) :
    min l (e - h) ≤ n :=
  Nat.le_trans (Nat.le_min.mpr ⟨Nat.min_le_left _ _,
    Nat.le_trans (Nat.min_le_right _ _) (Nat.sub_le_sub_right hea h)⟩) hn

theorem min_sub_le_min_sub {x e a h : Nat} (hae : a ≤ e) : min (x - h) (a - h) ≤ min (e - h) (a - h) :=
  Nat.le_min.mpr ⟨Nat.le_trans (Nat.min_le_right _ _) (Nat.sub_le_sub_right hae h), Nat.min_le_right _ _⟩

theorem min_sub_zero_le {x a n y : Nat} (han : a ≤ n) : min x (a - n) ≤ y := by
  rw [Nat.sub_eq_zero_of_le han, Nat.min_zero]
  exact Nat.zero_le _

theorem JInv.openEnd_eq {s : Store} {fs : Fs} {w : Worker} (hj : JInv s fs w) :
    s.openEnd = s.openId + ((fdata fs s.openId).length + (w.inflight s.openId).length)
      + s.pending.length := by
  have := hj.openBytes.lastOff_eq
  simp only [List.length_append] at this
  simp only [Store.openEnd, Store.openId] at this ⊢
  omega

theorem filterMap_appendId_C3 (l : List WReq) : l.filterMap WReq.appendId = annIds l := by
  induction l with
  | nil => rfl
  | cons r l ih => cases r <;> simp only [List.filterMap_cons, WReq.appendId, annIds, ih]

theorem pendingAppends_eq_C3 (w : Worker) : pendingAppends w = annIds w.rest := by
  simp only [pendingAppends, ← WPc.inHand_eq_held, filterMap_appendId_C3, Worker.rest]

theorem JInv.live_ids_C3 {s : Store} {fs : Fs} {w : Worker} (hj : JInv s fs w) :
    ∀ offs ∈ s.chunks, offs.headD 0 ∈ Fs.ids fs :=
  fun offs ho => (hj.chunk_ok offs ho).2

theorem JInv.old_chunk_full_C3 {s : Store} {fs : Fs} {w : Worker} (hj : JInv s fs w) :
    ∀ offs ∈ s.chunks, offs.headD 0 < w.cur →
      (fdata fs (offs.headD 0)).length = lastOff offs - offs.headD 0 := by
  intro offs ho hlt
  have hna : offs.headD 0 ∉ w.announced := by
    intro hm
    have hinc := hj.annAsc
    simp only [Worker.announced, Incr, List.pairwise_cons, List.mem_cons] at hinc hm
    rcases hm with e | e
    · omega
    · have := hinc.1 _ e; omega
  have hne : ¬ s.openId = offs.headD 0 := fun e => hna (e ▸ hj.openId_mem)
  have := (hj.chunk_ok offs ho).1.lastOff_eq
  simp only [chunkBytes, w.inflight_not_announced _ hna, hne, if_false, List.append_nil] at this
  omega

theorem WU.pos_le_end {s : Store} {fs : Fs} {w : Worker} (h : WU fs w) (hj : JInv s fs w) :
    w.cur + (fdata fs w.cur).length + w.pc.todoBytes.length ≤ s.openEnd := by
  by_cases e : w.cur = s.openId
  · have h1 := hj.openEnd_eq
    have h2 : (w.inflight s.openId).length ≥ w.pc.todoBytes.length := by
      simp only [Worker.inflight, infl, e, if_true, List.length_append]
      omega
    rw [e]
    omega
  · have hmem : s.openId ∈ w.announced := hj.openId_mem
    simp only [Worker.announced, List.mem_cons] at hmem
    rcases hmem with e' | e'
    · exact absurd e'.symm e
    · have := uptoOK_ann_ge fs w.rest _ _ h.u1 _ e'
      have := hj.openId_lt
      omega

inductive FsStep (fs : Fs) (cur : Nat) : Fs → Prop
  | same : FsStep fs cur fs
  | write (d : Bytes) : FsStep fs cur (fs.write cur d)
  | sync (id : Nat) : FsStep fs cur (fs.sync id)
  | unlink (i : Nat) : FsStep fs cur (fs.unlink i)

theorem VAct.fsStep {v v1 : WView} {fs fs1 : Fs} (h : VAct v fs v1 fs1) : FsStep fs (newestId v.files) fs1 := by
  cases h <;> constructor

theorem WCtx.step_fs_C3 (c : WCtx) (out : Outcome) (hok : c.w.pc.ok c.w.files) :
    FsStep c.fs (newestId c.w.files) (c.step out).fs := by
  rcases c.step_view out hok with hd | ⟨v1, ha, _⟩
  · rw [(c.step_dies out hd).2.1]
    exact .same
  · exact ha.fsStep

theorem FsStep.ids {fs fs' : Fs} {cur : Nat} (h : FsStep fs cur fs') : Fs.ids fs' = Fs.ids fs := by
  cases h <;> simp

theorem FsStep.fdata_mono {fs fs' : Fs} {cur : Nat} (h : FsStep fs cur fs') (hcur : cur ∈ Fs.ids fs)
    (id : Nat) : (fdata fs id).length ≤ (fdata fs' id).length := by
  cases h with
  | same => exact Nat.le_refl _
  | write d => rw [fdata_write_len_C3 _ _ _ hcur]; omega
  | sync i => rw [fdata_sync]; exact Nat.le_refl _
  | unlink i => rw [fdata_unlink]; exact Nat.le_refl _

theorem find_update_durable_C3 (fs : Fs) (i id : Nat) (g : File → File) (hg : ∀ f, (g f).id = f.id)
    {f' : File} (h : (fs.update i g).find id = some f') :
    ∃ f, fs.find id = some f ∧ ((f.id ≠ i ∧ f' = f) ∨ (f.id = i ∧ f' = g f)) := by
  rw [Fs.find_update fs i id g hg] at h
  cases hf : fs.find id with
  | none => rw [hf] at h; cases h
  | some f =>
    rw [hf] at h
    simp only [Option.map_some, Option.some.injEq] at h
    refine ⟨f, rfl, ?_⟩
    by_cases e : (f.id == i) = true
    · rw [if_pos e] at h
      exact Or.inr ⟨by simpa using e, h.symm⟩
    · rw [if_neg e] at h
      exact Or.inl ⟨by simpa using e, h.symm⟩

theorem FsStep.find {fs fs' : Fs} {cur : Nat} (h : FsStep fs cur fs') {id : Nat} {f' : File}
    (hf : fs'.find id = some f') :
    ∃ f, fs.find id = some f ∧ (f'.durable = f.durable ∨ f'.durable = f'.data.length) := by
  cases h with
  | same => exact ⟨f', hf, Or.inl rfl⟩
  | write d =>
    obtain ⟨f, h1, h2⟩ := find_update_durable_C3 fs cur id (fun f => { f with data := f.data ++ d }) (fun _ => rfl) hf
    refine ⟨f, h1, Or.inl ?_⟩
    rcases h2 with ⟨_, e⟩ | ⟨_, e⟩ <;> rw [e]
  | sync i =>
    obtain ⟨f, h1, h2⟩ := find_update_durable_C3 fs i id (fun f => { f with durable := f.data.length }) (fun _ => rfl) hf
    refine ⟨f, h1, ?_⟩
    rcases h2 with ⟨_, e⟩ | ⟨_, e⟩
    · left; rw [e]
    · right; rw [e]
  | unlink i =>
    obtain ⟨f, h1, h2⟩ := find_update_durable_C3 fs i id (fun f => { f with linked := false }) (fun _ => rfl) hf
    refine ⟨f, h1, Or.inl ?_⟩
    rcases h2 with ⟨_, e⟩ | ⟨_, e⟩ <;> rw [e]

theorem DInv.step_of_live {s : Store} {c : WCtx} {A : Nat} (out : Outcome) (h : DInv s c.fs c.w A)
    (hj : JInv s c.fs c.w) (hlive' : ∀ id ∈ s.chunkIds, c.fs.has id = true) (hcov : Covered c)
    (hwf : c.w.WF) (hnd : (c.step out).w.pc ≠ .dead) :
    DInv s (c.step out).fs (c.step out).w (c.ackStep out A) := by
  have hcur : c.w.cur ∈ Fs.ids c.fs := hj.annFs _ List.mem_cons_self
  have hcur' : newestId c.w.files ∈ Fs.ids c.fs := hcur
  have hwu' := WCtx.step_wu c out h.wu hj.wok hj.annAsc hcur hnd
  have g := WCtx.step_good c out hj.wok hcur hnd
  have hfs := c.step_fs_C3 out hj.wok
  -- the announced files after the step were announced before: `announced` only loses its head
  have hann : ∀ i ∈ annIds (c.step out).w.rest, i ∈ annIds c.w.rest := by
    have hs : annIds (c.step out).w.rest <:+ annIds c.w.rest := by
      rcases List.suffix_cons_iff.mp g.ann with e | e
      · exact (List.cons.inj e).2 ▸ List.suffix_refl _
      · exact (List.suffix_cons _ _).trans e
    exact fun i hi => hs.subset hi
  -- the position of the newest file before the step
  have hpos := h.wu.pos_le_end hj
  rcases c.ackStep_cases out A with ⟨b, t, hpc, hout, hA⟩ | ⟨_, hA⟩
  · -- the acknowledging step
    obtain ⟨f, hf⟩ := hwf.syncNew_files hpc
    have hcurf : c.w.cur = f.id := by simp [Worker.cur, hf, newestId]
    have hstep : (c.step out).fs = c.fs.sync f.id := by rw [WCtx.step_syncNew_ok hpc hf hout]; simp
    have htodo : c.w.pc.todoBytes = [] := by rw [hpc]; rfl
    have hmu : maxUpto b ≤ c.w.cur + (fdata c.fs c.w.cur).length := by
      apply maxUpto_le
      intro r hr
      have := h.wu.u2 r (by rw [hpc]; exact hr)
      rw [htodo] at this
      simpa using this
    rw [htodo] at hpos
    simp only [List.length_nil, Nat.add_zero] at hpos
    rw [hA]
    have hbeyond : ∀ i ∈ annIds c.w.rest, max A (maxUpto b) ≤ i := by
      intro i hi
      have h1 := h.a1 i hi
      have h2 := uptoOK_ann_ge c.fs c.w.rest _ _ h.wu.u1 i hi
      rw [htodo] at h2
      simp only [List.length_nil, Nat.add_zero] at h2
      exact Nat.max_le.mpr ⟨h1, Nat.le_trans hmu h2⟩
    -- every live chunk: written and durable up to the new position
    have hlive : ∀ offs ∈ s.chunks,
        min (lastOff offs - offs.headD 0) (max A (maxUpto b) - offs.headD 0)
          ≤ (fdata c.fs (offs.headD 0)).length ∧
        (offs.headD 0 ≠ c.w.cur → ∀ f0, c.fs.find (offs.headD 0) = some f0 →
          min (lastOff offs - offs.headD 0) (max A (maxUpto b) - offs.headD 0) ≤ f0.durable) := by
      intro offs ho
      have hid := hj.live_ids_C3 offs ho
      rcases Nat.lt_trichotomy (offs.headD 0) c.w.cur with hlt | heq | hgt
      · -- an older chunk: complete, and not tracked by the worker any more
        have hfull := hj.old_chunk_full_C3 offs ho hlt
        refine ⟨by rw [hfull]; exact Nat.min_le_left _ _, fun _ f0 hf0 => ?_⟩
        have hmem : f0 ∈ c.fs := List.mem_of_find?_eq_some hf0
        have hf0id : f0.id = offs.headD 0 := Fs.find_id hf0
        have hlinked : f0.linked = true := by
          obtain ⟨f, hf, hl⟩ := Fs.has_eq_true_iff.1 (hlive' (offs.headD 0) (List.mem_map.mpr ⟨offs, ho, rfl⟩))
          cases hf0.symm.trans hf
          exact hl
        have hfd : fdata c.fs (offs.headD 0) = f0.data := fdata_of_find_C3 hf0
        by_cases hd : f0.durable < f0.data.length
        · exfalso
          rcases hcov f0 hmem hd hlinked with k | k
          · rw [hf] at k
            simp only [List.map_cons, List.map_nil, List.mem_singleton] at k
            exact absurd (hf0id.symm.trans (k.trans hcurf.symm)) (Nat.ne_of_lt hlt)
          · rw [pendingAppends_eq_C3] at k
            have hinc := hj.annAsc
            simp only [Worker.announced, Incr, List.pairwise_cons] at hinc
            exact absurd (hf0id ▸ hinc.1 _ k) (Nat.lt_asymm hlt)
        · rw [hfd] at hfull
          exact Nat.le_trans (Nat.min_le_left _ _) (hfull ▸ Nat.le_of_not_lt hd)
      · -- the newest file itself
        refine ⟨?_, fun hne => absurd heq hne⟩
        have h1 := h.dw offs ho
        rw [heq] at h1 ⊢
        rcases Nat.le_total A (maxUpto b) with hle | hle
        · rw [Nat.max_eq_right hle]
          exact Nat.le_trans (Nat.min_le_right _ _) (Nat.sub_le_iff_le_add'.mpr hmu)
        · rw [Nat.max_eq_left hle]; exact h1
      · -- a newer chunk: announced, so it starts at or beyond the new position
        have hmem := h.wu.u3 _ hid hgt
        have := hbeyond _ hmem
        exact ⟨min_sub_zero_le this, fun _ _ _ => min_sub_zero_le this⟩
    refine ⟨hwu', fun i hi => hbeyond i (hann i hi), ?_, ?_, ?_⟩
    · exact Nat.max_le.mpr ⟨h.a2, Nat.le_trans hmu hpos⟩
    · intro offs ho
      rw [hstep, fdata_sync]
      exact (hlive offs ho).1
    · intro offs ho f' hf'
      rw [hstep] at hf'
      obtain ⟨f0, h1, h2⟩ := find_update_durable_C3 c.fs f.id (offs.headD 0) (fun f => { f with durable := f.data.length }) (fun _ => rfl) hf'
      rcases h2 with ⟨e0, e⟩ | ⟨e1, e2⟩
      · rw [e]
        have hid0 := Fs.find_id h1
        exact (hlive offs ho).2 (by rw [← hid0, hcurf]; exact e0) f0 h1
      · rw [e2]
        have := (hlive offs ho).1
        rw [fdata_of_find_C3 h1] at this
        exact this
  · -- any other step: the position does not move
    rw [hA]
    refine ⟨hwu', fun i hi => h.a1 i (hann i hi), h.a2, ?_, ?_⟩
    · intro offs ho
      exact Nat.le_trans (h.dw offs ho) (hfs.fdata_mono hcur' _)
    · intro offs ho f' hf'
      obtain ⟨f0, h1, h2⟩ := hfs.find hf'
      rcases h2 with e | e
      · rw [e]; exact h.dd offs ho f0 h1
      · rw [e, ← fdata_of_find_C3 hf']
        exact Nat.le_trans (h.dw offs ho) (hfs.fdata_mono hcur' _)

end RaftLog
