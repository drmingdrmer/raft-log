/-
C16 for reads: under the replay invariant (`RInv`; `truncate` allowed, kept across clean restarts) every index
entry points at an `Append` record of the retained journal. A lookup that misses the cache therefore finds no
closed chunk (`err notFound`: the record is still in the open chunk), a short file (`err eof`: not written
yet), or exactly the bytes of the entry's own `Append` record — never a `panic` branch of `loadPayload`.
The facts about the replay invariant behind it (`idxRun_srcRN`, `RepG.pts`, `RepG.op_located`: every index entry
points at an `Append` op of the journal, which sits at its segment of its chunk's bytes) are general; the C07
restart files use them too.
-/
import RaftLogModel.Proofs.ReplayRestart
import RaftLogModel.Proofs.ReadPathStore
namespace RaftLog

theorem idxLogO_srcRN {r : Record} {chunk : Nat} {seg : Seg} {l l' : Log}
    (h : idxLogO r chunk seg l = some l') :
    ∀ e ∈ l', e ∈ l ∨ ∃ p, opAt e p = ⟨r, chunk, seg⟩ := by
  obtain rfl := idxLogO_eq h
  intro e he
  rcases idxLog_mem he with h1 | ⟨id, p, rfl, rfl⟩
  · exact .inl h1
  · exact .inr ⟨p, rfl⟩

theorem idxRun_srcRN {ops : List JOp} {l l' : Log} (h : idxRun ops l = some l') :
    ∀ e ∈ l', e ∈ l ∨ ∃ p, opAt e p ∈ ops := by
  induction ops generalizing l with
  | nil =>
    simp only [idxRun, Option.some.injEq] at h; subst h
    exact fun e he => .inl he
  | cons op ops ih =>
    simp only [idxRun] at h
    split at h
    · cases h
    · rename_i l1 h1
      intro e he
      rcases ih h e he with h2 | ⟨p, hp⟩
      · rcases idxLogO_srcRN h1 e h2 with h3 | ⟨p, hp⟩
        · exact .inl h3
        · exact .inr ⟨p, by rw [hp]; exact List.mem_cons_self⟩
      · exact .inr ⟨p, List.mem_cons_of_mem _ hp⟩

theorem opsFrom_locatedRN {chunk start : Nat} {rs : List Record} {op : JOp}
    (h : op ∈ opsFrom chunk start rs) :
    ∃ pre post, encAll rs = pre ++ encRecord op.r ++ post ∧ start + pre.length = op.seg.off ∧
      op.seg.size = (encRecord op.r).length ∧ op.chunk = chunk ∧ op.r ∈ rs := by
  induction rs generalizing start with
  | nil => cases h
  | cons r rs ih =>
    simp only [opsFrom, List.mem_cons] at h
    rcases h with e | e
    · subst e
      -- closed by reducing the projections only: a plain `rfl` lets the unifier unfold `encRecord`
      refine ⟨[], encAll rs, ?_, ?_, ?_, ?_, List.mem_cons_self⟩
      · rw [List.nil_append]; rfl
      · dsimp only [List.length_nil, Nat.add_zero]
      · dsimp only
      · dsimp only
    · obtain ⟨pre, post, h1, h2, h3, h4, h5⟩ := ih e
      refine ⟨encRecord r ++ pre, post, ?_, ?_, h3, h4, List.mem_cons_of_mem _ h5⟩
      · rw [encAll_cons, h1, List.append_assoc, List.append_assoc, List.append_assoc]
      · rw [List.length_append, ← Nat.add_assoc]; exact h2

theorem slice_of_prefixRN {a b pre mid post : Bytes} (h : a ++ b = pre ++ mid ++ post)
    (hlen : pre.length + mid.length ≤ a.length) :
    (a.drop pre.length).take mid.length = mid := by
  have h1 : (a ++ b).take (pre.length + mid.length) = a.take (pre.length + mid.length) :=
    List.take_append_of_le_length hlen
  have h2 : (pre ++ mid ++ post).take (pre.length + mid.length) = pre ++ mid := by
    rw [List.take_append_of_le_length (by simp)]
    rw [List.take_of_length_le (by simp)]
  rw [h, h2] at h1
  have h3 : (a.drop pre.length).take mid.length = (a.take (pre.length + mid.length)).drop pre.length := by
    rw [List.drop_take]
    simp
  rw [h3, ← h1]
  simp

theorem RepG.pts {s : Store} {fs : Fs} {w : Worker} {jc : List (Closed × List Record)}
    {jo : List Record} (g : RepG s fs w jc jo) : ∀ x ∈ s.log, ∃ p, opAt x p ∈ allOps s jc jo := by
  intro x hx
  rcases idxRun_srcRN g.flat_run.2 x hx with h0 | h
  · cases h0
  · exact h

theorem RepG.op_located {s : Store} {fs : Fs} {w : Worker} {jc : List (Closed × List Record)}
    {jo : List Record} (g : RepG s fs w jc jo) {op : JOp} (h : op ∈ allOps s jc jo) :
    (op.chunk = s.openId ∨ ∃ c ∈ s.closed, c.id = op.chunk) ∧ op.r.WF ∧
    ∃ pre post, chunkBytes s fs w op.chunk = pre ++ encRecord op.r ++ post ∧
      op.chunk + pre.length = op.seg.off ∧ op.seg.size = (encRecord op.r).length := by
  rcases List.mem_append.mp h with h1 | h1
  · obtain ⟨q, hq, hop⟩ := mem_flatOps.mp h1
    obtain ⟨pre, post, k1, k2, k3, k4, k5⟩ := opsFrom_locatedRN hop
    obtain ⟨hwf, _, _, hb⟩ := g.closedRecs q hq
    exact ⟨.inr ⟨q.1, g.mem_closed hq, k4.symm⟩, hwf _ k5, pre, post, by rw [k4, hb]; exact k1,
      by rw [k4]; exact k2, k3⟩
  · obtain ⟨pre, post, k1, k2, k3, k4, k5⟩ := opsFrom_locatedRN h1
    obtain ⟨hwf, _, _, hb⟩ := g.openRecs
    exact ⟨.inl k4, hwf _ k5, pre, post, by rw [k4, hb]; exact k1, by rw [k4]; exact k2, k3⟩

def LookupOK (r : RefLog) (closed : List Closed) (fs : Fs) (d : LogData) : Prop :=
  loadPayload closed fs d = .err .notFound ∨ loadPayload closed fs d = .err .eof ∨
    ∃ p, (d.id, p) ∈ r.entries ∧ loadPayload closed fs d = .ok d.id p

theorem loadPayload_openRN {s : Store} {fs : Fs} {w : Worker} (hj : JInv s fs w) (d : LogData)
    (hd : d.chunk = s.openId) : loadPayload s.closed fs d = .err .notFound := by
  apply loadPayload_no_chunk
  apply List.find?_eq_none.mpr
  intro c hc
  have := hj.closed_lt hc
  simp only [beq_iff_eq]
  omega

/-- The file may be shorter than the chunk's byte string (`extra`: not written yet): hence `eof`. -/
theorem loadPayload_prefixRN {closed : List Closed} {fs : Fs} {d : LogData} {p : Bytes}
    {extra pre post : Bytes} (hwf : (Record.append d.id p).WF)
    (hbytes : fdata fs d.chunk ++ extra = pre ++ encRecord (.append d.id p) ++ post)
    (hoff : d.chunk + pre.length = d.off) (hsz : d.size = (encRecord (.append d.id p)).length) :
    loadPayload closed fs d = .err .notFound ∨ loadPayload closed fs d = .err .eof ∨
      loadPayload closed fs d = .ok d.id p := by
  cases hfind : closed.find? (fun c => c.id == d.chunk) with
  | none => exact .inl (loadPayload_no_chunk hfind)
  | some c =>
    have hcid : c.id = d.chunk := by simpa using List.find?_some hfind
    cases hf : fs.find d.chunk with
    | none => exact .inr (.inl (loadPayload_short hfind (by simp [Fs.readAt, hf])))
    | some f =>
      by_cases hle : d.off - d.chunk + d.size ≤ f.data.length
      · have hfd : fdata fs d.chunk = f.data := by unfold fdata; rw [hf]
        rw [hfd] at hbytes
        have hpre : d.off - d.chunk = pre.length := by omega
        have hslice := slice_of_prefixRN hbytes (by rw [← hpre, ← hsz]; exact hle)
        exact .inr (.inr (loadPayload_of_slice hwf ⟨c, List.mem_of_find?_eq_some hfind, hcid⟩ hf hle
          (by rw [hpre, hsz]; exact hslice)))
      · exact .inr (.inl (loadPayload_short hfind (by simp [Fs.readAt, hf, hle])))

theorem RInv.lookupOK {s : Store} {fs : Fs} {w : Worker} {r : RefLog} (h : RInv s fs w r) :
    ∀ x ∈ s.log, LookupOK r s.closed fs x.2 := by
  obtain ⟨jc, jo, g, gp, _⟩ := h.rep
  intro x hx
  obtain ⟨p, hp⟩ := g.pts x hx
  obtain ⟨hl, hwf, pre, post, hb, hoff, hsz⟩ := g.op_located hp
  simp only [opAt] at hl hwf hb hoff hsz
  rcases hl with h1 | _
  · exact .inl (loadPayload_openRN h.j x.2 h1)
  · rcases loadPayload_prefixRN (closed := s.closed) (fs := fs) hwf
        (extra := w.inflight x.2.chunk ++ (if s.openId = x.2.chunk then s.pending else []))
        (by rw [← hb]; simp [chunkBytes]) hoff hsz
      with h2 | h2 | h2
    · exact .inl h2
    · exact .inr (.inl h2)
    · exact .inr (.inr ⟨p, gp x hx p hp, h2⟩)

def ReadItem.fine : ReadItem → Prop
  | .panic => False
  | _ => True

theorem readLoop_fineRN (s : Store) (fs : Fs) (r : RefLog) (l : List (Nat × LogData))
    (hl : ∀ x ∈ l, LookupOK r s.closed fs x.2) (hh mm : Nat) :
    ∀ it ∈ (readLoop s fs l hh mm).1, it.fine := by
  induction l generalizing hh mm with
  | nil => intro it hit; simp [readLoop] at hit
  | cons x xs ih =>
    obtain ⟨i, d⟩ := x
    have hrest := fun hh mm => ih (fun x hx => hl x (List.mem_cons_of_mem _ hx)) hh mm
    intro it hit
    unfold readLoop at hit
    cases hg : s.cache.get d.id with
    | some q =>
      rw [hg] at hit
      simp only [List.mem_cons] at hit
      rcases hit with e | e
      · subst e; trivial
      · exact hrest _ _ it e
    | none =>
      rw [hg] at hit
      simp only [List.mem_cons] at hit
      rcases hit with e | e
      · subst e
        rcases hl (i, d) List.mem_cons_self with h1 | h1 | ⟨p, _, h1⟩ <;> simp only at h1 <;>
          rw [h1] <;> trivial
      · exact hrest _ _ it e

theorem RInv.read_fine {s : Store} {fs : Fs} {w : Worker} {r : RefLog} (h : RInv s fs w r)
    (a b : Nat) : ∀ it ∈ (s.read fs a b).1, it.fine := by
  unfold Store.read
  exact readLoop_fineRN s fs r _ (fun x hx => h.lookupOK x (List.mem_filter.mp hx).1) _ _

theorem RInv.iter_fine {s : Store} {fs : Fs} {w : Worker} {r : RefLog} (h : RInv s fs w r) :
    ∀ it ∈ s.iter fs, it.fine := by
  unfold Store.iter
  exact readLoop_fineRN s fs r _ h.lookupOK _ _

end RaftLog
