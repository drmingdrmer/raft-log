/-
Store-level cache invariant (C15), `CacheInv`: counter exact, keys sorted, every resident key at or below
`last`. It is kept by the caller's moves (`CacheInv.moves`), hence by every public call.
-/
import RaftLogModel.Proofs.Cache
import RaftLogModel.Proofs.CallerMoves
namespace RaftLog

structure CacheInv (s : Store) : Prop where
  ok : s.cache.OK
  le_last : KeysLe s.cache.items s.st.last

theorem CacheInv.of_fields {sm sm2 : Store} (h : CacheInv sm) (h1 : sm2.st = sm.st)
    (h3 : sm2.cache.items = sm.cache.items) (h4 : sm2.cache.size = sm.cache.size) : CacheInv sm2 :=
  ⟨⟨by rw [h3, h4]; exact h.ok.size_eq, by rw [h3]; exact h.ok.sorted⟩,
    by rw [h3, h1]; exact h.le_last⟩

theorem KeysLe.mono {l : Items} {a b : Option LogId} (h : KeysLe l a) (hab : optLe a b = true) :
    KeysLe l b := fun e he => optLe_trans (h e he) hab

theorem KeysLe.of_suffix {pre l : Items} {o : Option LogId} (h : KeysLe (pre ++ l) o) : KeysLe l o :=
  fun e he => h e (List.mem_append_right _ he)

theorem KeysLe.of_prefix {l post : Items} {o : Option LogId} (h : KeysLe (l ++ post) o) : KeysLe l o :=
  fun e he => h e (List.mem_append_left _ he)

theorem tryEvict_items_suffix (c : Cache) (h : c.OK) : ∃ pre, c.items = pre ++ c.tryEvict.items := by
  obtain ⟨pre, h1, _, _⟩ := evictLoop_spec c.maxItems c.capacity c.lastEvictable c.size c.items h.size_eq
  exact ⟨pre, h1⟩

theorem apply_append_last {st st' : RState} {id : LogId} {p : Bytes}
    (h : st.apply (.append id p) = .ok st') : st'.last = some id ∧ optLe (some id) st.last = false := by
  refine ⟨by rw [apply_eq_applied h]; rfl, ?_⟩
  simp only [RState.apply, RState.append] at h
  split at h
  · cases h
  · rename_i hle; simpa using hle

theorem items_lt_of_gt_last {s : Store} {id : LogId} (hinv : CacheInv s)
    (hnle : optLe (some id) s.st.last = false) : ∀ e ∈ s.cache.items, e.1.lt id = true :=
  fun e he => optLt_of_le_of_lt (hinv.le_last e he) ((optLt_iff_not_le _ _).2 hnle)

theorem purge_last_ge (st : RState) (id : LogId) : optLe st.last (st.purge id).last = true := by
  unfold RState.purge
  by_cases h1 : optLt st.purged (some id) <;> by_cases h2 : optLt st.last (some id) <;> simp [h1, h2]
  · exact optLe_of_lt h2
  · exact optLe_refl _
  · exact optLe_of_lt h2
  · exact optLe_refl _

theorem Cache.truncateAfter_keysLe (key : LogId) (c : Cache) (h : c.OK) :
    KeysLe (c.truncateAfter key).items (some key) := by
  obtain ⟨post, h1, _, h3⟩ := Cache.truncateAfter_spec key h
  have hs : Sorted (c.truncateAfter key).items := (h1 ▸ h.sorted : Sorted (_ ++ post)).of_append_left
  -- every kept entry is at or below the last one, which is not above `key`
  intro e he
  rcases List.eq_nil_or_concat (c.truncateAfter key).items with h0 | ⟨init, x, hx⟩
  · rw [h0] at he; cases he
  rw [hx, List.concat_eq_append] at he hs h3
  have hxle : x.1.le key = true := (LogId.not_lt_iff_le _ _).1 (h3 x (by simp))
  rcases List.mem_append.1 he with hi | hi
  · have : e.1.lt x.1 = true := (List.pairwise_append.mp hs).2.2 e hi x (List.mem_singleton.2 rfl)
    simpa using LogId.le_trans (LogId.le_of_lt this) hxle
  · cases List.mem_singleton.1 hi
    simpa using hxle

theorem truncateAfter_items_prefix (key : LogId) (c : Cache) (h : c.OK) :
    ∃ post, c.items = (c.truncateAfter key).items ++ post :=
  (Cache.truncateAfter_spec key h).imp fun _ h => h.1

theorem purgeUpto_items_suffix (key : LogId) (c : Cache) (h : c.OK) :
    ∃ pre, c.items = pre ++ (c.purgeUpto key).items := by
  obtain ⟨pre, h1, _⟩ := purgeLoop_spec key c.lastEvictable c.size c.items h.size_eq
  exact ⟨pre, h1⟩

theorem drainEvictable_items_suffix (c : Cache) (h : c.OK) :
    ∃ pre, c.items = pre ++ c.drainEvictable.items := by
  obtain ⟨pre, h1, _⟩ := drainLoop_spec c.lastEvictable c.size c.items h.size_eq
  exact ⟨pre, h1⟩

theorem CacheInv.drain {s : Store} (h : CacheInv s) :
    CacheInv { s with cache := s.cache.drainEvictable } := by
  refine ⟨Cache.drainEvictable_ok h.ok, ?_⟩
  obtain ⟨pre, hpre⟩ := drainEvictable_items_suffix s.cache h.ok
  have hl := h.le_last
  rw [hpre] at hl
  exact hl.of_suffix

theorem CacheInv.applied {s : Store} {r : Record} {st' : RState} {c : Nat}
    (hinv : CacheInv s) (hst : s.st.apply r = .ok st') (hr : ∀ x, r = .state x → x.last = s.st.last) :
    CacheInv (s.appliedAt c r st') := by
  rw [apply_eq_applied hst]
  cases r with
  | saveVote v => exact ⟨hinv.ok, hinv.le_last⟩
  | commit id => exact ⟨hinv.ok, hinv.le_last⟩
  | state x => exact ⟨hinv.ok, by show KeysLe _ x.last; rw [hr x rfl]; exact hinv.le_last⟩
  | append id p =>
    have hlt := items_lt_of_gt_last hinv (apply_append_last hst).2
    refine ⟨Cache.insert_ok id p hinv.ok hlt, ?_⟩
    -- resident keys after the insert are a suffix of old ++ [new]
    obtain ⟨pre, hpre⟩ := tryEvict_items_suffix _ (Cache.put_ok id p hinv.ok hlt)
    have hall : KeysLe (insertSorted id p s.cache.items) (some id) := by
      rw [insertSorted_of_all_lt id p s.cache.items hlt]
      intro e he
      rcases List.mem_append.mp he with h1 | h1
      · simpa using LogId.le_of_lt (hlt e h1)
      · simp at h1; subst h1; simp [LogId.le_refl]
    simp only at hpre
    rw [hpre] at hall
    exact hall.of_suffix
  | truncateAfter o =>
    cases o with
    | none => exact ⟨Cache.clear_ok _, fun e he => nomatch he⟩
    | some id =>
      refine ⟨Cache.truncateAfter_ok id hinv.ok, ?_⟩
      simp only [RState.applied, RState.truncateAfter]
      split
      · exact Cache.truncateAfter_keysLe id s.cache hinv.ok
      · obtain ⟨post, hpost⟩ := truncateAfter_items_prefix id s.cache hinv.ok
        have := hinv.le_last
        rw [hpost] at this
        exact this.of_prefix
  | purgeUpto id =>
    refine ⟨Cache.purgeUpto_ok id hinv.ok, ?_⟩
    obtain ⟨pre, hpre⟩ := purgeUpto_items_suffix id s.cache hinv.ok
    have := hinv.le_last
    rw [hpre] at this
    exact this.of_suffix.mono (purge_last_ge _ _)

theorem applyIndex_cacheInv {s s2 : Store} {r : Record} {chunk : Nat} {seg : Seg} {st' : RState}
    (hinv : CacheInv s) (hst : s.st.apply r = .ok st') (hr : ∀ x, r = .state x → x.last = s.st.last)
    (h : s.applyIndex r chunk seg = some s2) : CacheInv { s2 with st := st' } := by
  rw [applyIndex_some h]
  have := hinv.applied (c := chunk) hst hr
  exact this.of_fields rfl rfl rfl

/-- The side condition: a `State` record must carry the current `last` (it becomes the new `last`). -/
theorem CacheInv.moves :
    Moves (fun s _ => CacheInv s) fun s r => ∀ x, r = .state x → x.last = s.st.last :=
  .of_store_at (fun _ h hr hst => h.applied hst hr) (fun h => h.of_fields rfl rfl rfl)
    (fun h _ _ => h.of_fields rfl rfl rfl)

theorem appendAndApply_cacheInv {s : Store} (fsHas : Nat → Bool) (r : Record)
    (hinv : CacheInv s) (hr : ∀ x, r = .state x → x.last = s.st.last) :
    CacheInv (s.appendAndApply fsHas r).2.1 :=
  CacheInv.moves.appendAndApply (e := []) fsHas hinv hr

theorem call_cacheInv {s : Store} (fsHas : Nat → Bool) (op : Op) (hinv : CacheInv s) :
    CacheInv (s.call fsHas op).2.1 :=
  CacheInv.moves.call fsHas op (fun _ hr x hx => (hr.state_last x hx).1)
    (fun _ _ _ _ _ _ _ hx => nomatch hx) (fun _ _ h => h.of_fields rfl rfl rfl) hinv

theorem flush_cacheInv {s : Store} (cb : Option Nat) (hinv : CacheInv s) : CacheInv (s.flush cb).1 :=
  hinv.of_fields rfl rfl rfl

end RaftLog
