/-
C07 across restarts: the invariant `ReadInvC7c` ∧ `CSys` along any number
of cycles "history segment, drop, open with a new configuration"
(`Sys.runCycles`, `CleanCycles` of Proofs/ReplayRestart.lean), for `AppendsFresh` histories.
-/
import RaftLogModel.Proofs.ReadRestartInv
namespace RaftLog

def cycleStepsC7c : List (List Step × Cfg) → List Step
  | [] => []
  | seg :: rest => seg.1 ++ cycleStepsC7c rest

theorem cycleSteps_eq_C7c (segs : List (List Step × Cfg)) :
    cycleStepsC7c segs = (segs.map (·.1)).flatten := by
  induction segs with
  | nil => rfl
  | cons seg rest ih => simp only [cycleStepsC7c, ih, List.map_cons, List.flatten_cons]

theorem stepOps_cycleSteps_C7c (segs : List (List Step × Cfg)) :
    stepOps (cycleStepsC7c segs) = cycleOps segs := by
  induction segs with
  | nil => rfl
  | cons seg rest ih => simp only [cycleStepsC7c, cycleOps, stepOps_append, ih]

theorem cycles_readInv_C7c (segs : List (List Step × Cfg)) :
    ∀ (y : Sys) (r r' : RefLog) (m m' : Option LogId), ReadInvC7c y r m → CSys y r →
    (∀ seg ∈ segs, ∀ st ∈ seg.1, st.journal = true) → r.run (cycleOps segs) = some r' →
    (∀ op ∈ cycleOps segs, op.small ∧ op.WF) → freshOpsC7b m (cycleOps segs) = some m' →
    CleanCycles y segs →
    ReadInvC7c (y.runCycles segs) r' m' ∧ CSys (y.runCycles segs) r' ∧
    ∀ segs1 seg segs2 pre op post, segs = segs1 ++ seg :: segs2 → seg.1 = pre ++ Step.call op :: post →
      ∃ sg, (((y.runCycles segs1).run pre).call op).1 = .ok sg := by
  intro y r r' m m' h hC hst hr hops hfr hclean
  obtain ⟨k1, k2, k3⟩ := cycles_induct_ghost (Q := ReadInvC7c)
    (R := fun y seg => ∀ pre op post, seg.1 = pre ++ Step.call op :: post →
      ∃ sg, ((y.run pre).call op).1 = .ok sg)
    (gr := fun m _ ops m' => freshOpsC7b m ops = some m') (fun h => (Option.some.inj h).symm)
    (fun h _ => by rw [freshOps_append_C7c] at h; exact Option.bind_eq_some_iff.1 h)
    (fun y r r1 m m1 seg _ h hst hr1 hwf hm1 hnd hC1 hc => by
      obtain ⟨h1, hcalls⟩ := run_readInv_C7c seg.1 y r r1 m m1 h hst hr1 (fun op hop => (hwf op hop).symm)
        hm1 hnd
      exact ⟨(restart_readInv_C7c (y.run seg.1) r1 m1 seg.2 h1 hC1 hc).1, hcalls⟩)
    segs y r r' m m' hC h hst hr (fun op hop => (hops op hop).symm) hfr hclean
  exact ⟨k1, k2, fun segs1 seg segs2 pre op post e => k3 segs1 seg segs2 e pre op post⟩

theorem cycles_run_C7c (segs : List (List Step × Cfg)) (last : List Step) (y : Sys) (r0 r : RefLog)
    (m0 : Option LogId) (h0 : ReadInvC7c y r0 m0) (hC0 : CSys y r0)
    (hsegs : ∀ seg ∈ segs, ∀ st ∈ seg.1, st.journal = true)
    (hlast : ∀ st ∈ last, st.journal = true)
    (hlegal : r0.run (cycleOps segs ++ stepOps last) = some r)
    (hops : ∀ op ∈ cycleOps segs ++ stepOps last, op.small ∧ op.WF)
    (hfresh : (freshOpsC7b m0 (cycleOps segs ++ stepOps last)).isSome = true)
    (hclean : CleanCycles y segs) (halive : ((y.runCycles segs).run last).worker.pc ≠ .dead) :
    ∃ m, freshOpsC7b m0 (cycleOps segs ++ stepOps last) = some m ∧
      ReadInvC7c ((y.runCycles segs).run last) r m ∧ CSys ((y.runCycles segs).run last) r ∧
      (∀ pre op post, last = pre ++ Step.call op :: post →
        ∃ sg, (((y.runCycles segs).run pre).call op).1 = .ok sg) ∧
      (∀ segs1 seg segs2 pre op post, segs = segs1 ++ seg :: segs2 →
        seg.1 = pre ++ Step.call op :: post →
        ∃ sg, (((y.runCycles segs1).run pre).call op).1 = .ok sg) := by
  obtain ⟨m, hm⟩ := Option.isSome_iff_exists.mp hfresh
  refine ⟨m, hm, ?_⟩
  rw [freshOps_append_C7c] at hm
  obtain ⟨m1, hm1, hm⟩ := Option.bind_eq_some_iff.1 hm
  obtain ⟨r1, hr1, hlegal⟩ := RefLog.run_append_some.mp hlegal
  obtain ⟨g1, g2, g3⟩ := cycles_readInv_C7c segs y r0 r1 m0 m1 h0 hC0 hsegs hr1
    (fun op hop => hops op (List.mem_append_left _ hop)) hm1 hclean
  have hops2 : ∀ op ∈ stepOps last, op.small ∧ op.WF :=
    fun op hop => hops op (List.mem_append_right _ hop)
  obtain ⟨k1, k2⟩ := run_readInv_C7c last _ r1 r m1 m g1 hlast hlegal hops2 hm halive
  exact ⟨k1, run_CSys last _ r1 r g2 hlast hlegal (fun op hop => (hops2 op hop).symm) halive, k2, g3⟩

end RaftLog
