/-
C03, the positions the requests of the flush worker carry: every `write` request carries `upto`, the global
journal end at the time it was sent. `uptoOK`, `WU`: the requests not handled yet are consistent with the bytes
they carry — a write's `upto` is the position the newest file reaches once its data is written, and a file is
announced exactly at the position where the previous one ends.
-/
import RaftLogModel.Proofs.JournalStore
namespace RaftLog

/-- The journal end a `write` request was sent at; 0 for the other requests, so that they never
raise a maximum of `upto`s. -/
def WReq.upto : WReq → Nat
  | .write u _ _ => u
  | _ => 0

/-- The requests `rest`, handled from the point where the newest file is `cur`
and `base` of its bytes are written or in hand. -/
def uptoOK (fs : Fs) : Nat → Nat → List WReq → Prop
  | _, _, [] => True
  | cur, base, .write u d _ :: q => u = cur + base + d.length ∧ uptoOK fs cur (base + d.length) q
  | cur, base, .appendFile n _ :: q => n = cur + base ∧ uptoOK fs n (fdata fs n).length q
  | cur, base, .removeChunks _ :: q => uptoOK fs cur base q

/-- Newest file and its byte count after the requests. -/
def endBase (fs : Fs) : Nat → Nat → List WReq → Nat × Nat
  | cur, base, [] => (cur, base)
  | cur, base, .write _ d _ :: q => endBase fs cur (base + d.length) q
  | _, _, .appendFile n _ :: q => endBase fs n (fdata fs n).length q
  | cur, base, .removeChunks _ :: q => endBase fs cur base q

theorem uptoOK_append (fs : Fs) (a b : List WReq) : ∀ (cur base : Nat),
    uptoOK fs cur base (a ++ b) ↔
      uptoOK fs cur base a ∧ uptoOK fs (endBase fs cur base a).1 (endBase fs cur base a).2 b := by
  induction a with
  | nil => intro cur base; simp [uptoOK, endBase]
  | cons r a ih =>
    intro cur base
    cases r with
    | write u d cb => simp only [List.cons_append, uptoOK, endBase, ih, and_assoc]
    | appendFile n p => simp only [List.cons_append, uptoOK, endBase, ih, and_assoc]
    | removeChunks ids => simp only [List.cons_append, uptoOK, endBase, ih]

theorem endBase_append (fs : Fs) (a b : List WReq) : ∀ (cur base : Nat),
    endBase fs cur base (a ++ b) =
      endBase fs (endBase fs cur base a).1 (endBase fs cur base a).2 b := by
  induction a with
  | nil => intro cur base; rfl
  | cons r a ih =>
    intro cur base
    cases r <;> simp only [List.cons_append, endBase, ih]

theorem uptoOK_congr {fs fs' : Fs} (rest : List WReq) : ∀ (cur base : Nat),
    (∀ n ∈ annIds rest, (fdata fs' n).length = (fdata fs n).length) →
    (uptoOK fs' cur base rest ↔ uptoOK fs cur base rest) := by
  induction rest with
  | nil => intro cur base _; exact Iff.rfl
  | cons r rest ih =>
    intro cur base h
    cases r with
    | write u d cb =>
      simp only [uptoOK]
      rw [ih cur _ (fun n hn => h n hn)]
    | appendFile n p =>
      simp only [uptoOK]
      rw [h n (by simp [annIds]), ih n _ (fun m hm => h m (by simp [annIds, hm]))]
    | removeChunks ids =>
      simp only [uptoOK]
      exact ih cur base (fun n hn => h n hn)

theorem endBase_congr {fs fs' : Fs} (rest : List WReq) : ∀ (cur base : Nat),
    (∀ n ∈ annIds rest, (fdata fs' n).length = (fdata fs n).length) →
    endBase fs' cur base rest = endBase fs cur base rest := by
  induction rest with
  | nil => intro cur base _; rfl
  | cons r rest ih =>
    intro cur base h
    cases r with
    | write u d cb =>
      simp only [endBase]
      exact ih cur _ (fun n hn => h n hn)
    | appendFile n p =>
      simp only [endBase]
      rw [h n (by simp [annIds]), ih n _ (fun m hm => h m (by simp [annIds, hm]))]
    | removeChunks ids =>
      simp only [endBase]
      exact ih cur base (fun n hn => h n hn)

theorem uptoOK_writes (fs : Fs) (b R : List WReq) (hb : ∀ r ∈ b, r.isWrite = true) :
    ∀ (cur base : Nat), uptoOK fs cur base (b ++ R) →
      uptoOK fs cur (base + (b.map WReq.data).flatten.length) R ∧
      ∀ r ∈ b, r.upto ≤ cur + base + (b.map WReq.data).flatten.length := by
  induction b with
  | nil => intro cur base h; exact ⟨by simpa using h, fun r hr => by cases hr⟩
  | cons r b ih =>
    intro cur base h
    have hr := hb r List.mem_cons_self
    cases r with
    | appendFile n p => cases hr
    | removeChunks ids => cases hr
    | write u d cb =>
      simp only [List.cons_append, uptoOK] at h
      obtain ⟨h1, h2⟩ := ih (fun x hx => hb x (List.mem_cons_of_mem _ hx)) cur _ h.2
      simp only [List.map_cons, WReq.data, List.flatten_cons, List.length_append]
      refine ⟨by rw [← Nat.add_assoc]; exact h1, ?_⟩
      intro x hx
      rcases List.mem_cons.mp hx with e | e
      · subst e; simp only [WReq.upto]; omega
      · have := h2 x e; omega

theorem uptoOK_ann_ge (fs : Fs) (rest : List WReq) : ∀ (cur base : Nat),
    uptoOK fs cur base rest → ∀ n ∈ annIds rest, cur + base ≤ n := by
  induction rest with
  | nil => intro cur base _ n hn; cases hn
  | cons r rest ih =>
    intro cur base h n hn
    cases r with
    | write u d cb =>
      simp only [uptoOK] at h
      have := ih cur _ h.2 n hn
      omega
    | appendFile m p =>
      simp only [uptoOK] at h
      simp only [annIds, List.mem_cons] at hn
      rcases hn with e | e
      · omega
      · have := ih m _ h.2 n e
        omega
    | removeChunks ids =>
      simp only [uptoOK] at h
      exact ih cur base h n hn

theorem endBase_infl (fs : Fs) (rest : List WReq) : ∀ (cur : Nat) (tb : Bytes),
    Incr (cur :: annIds rest) →
    endBase fs cur ((fdata fs cur).length + tb.length) rest =
      (lastAnn cur rest,
        (fdata fs (lastAnn cur rest)).length + (infl cur tb rest (lastAnn cur rest)).length) := by
  induction rest with
  | nil =>
    intro cur tb _
    simp [endBase, lastAnn, infl, inflightFrom]
  | cons r rest ih =>
    intro cur tb hinc
    cases r with
    | write u d cb =>
      have hinc' : Incr (cur :: annIds rest) := hinc
      have := ih cur (tb ++ d) hinc'
      simp only [List.length_append] at this
      simp only [endBase, lastAnn, Nat.add_assoc, this]
      congr 1
      simp only [infl, inflightFrom]
      generalize lastAnn cur rest = L
      by_cases e : cur = L <;> simp [e]
    | appendFile n p =>
      simp only [annIds, Incr, List.pairwise_cons] at hinc
      have hinc' : Incr (n :: annIds rest) := by
        simp only [Incr, List.pairwise_cons]; exact hinc.2
      have := ih n [] hinc'
      simp only [List.length_nil, Nat.add_zero] at this
      simp only [endBase, lastAnn, this]
      congr 1
      -- the last announced file is not `cur`
      have hlast : (n :: annIds rest).getLast? = some (lastAnn n rest) := lastAnn_getLast n rest
      have hmem : lastAnn n rest ∈ n :: annIds rest := List.mem_of_getLast? hlast
      have hne : ¬ cur = lastAnn n rest := by
        intro e
        have := hinc.1 (lastAnn n rest) hmem
        omega
      simp only [infl, inflightFrom, hne, if_false, List.nil_append]
      generalize lastAnn n rest = L
      by_cases e : n = L <;> simp [e]
    | removeChunks ids =>
      have hinc' : Incr (cur :: annIds rest) := hinc
      have := ih cur tb hinc'
      simp only [endBase, lastAnn, this]
      rfl

structure WU (fs : Fs) (w : Worker) : Prop where
  u1 : uptoOK fs w.cur ((fdata fs w.cur).length + w.pc.todoBytes.length) w.rest
  /-- the writes of the batch in hand were sent at or below the position the newest file reaches with what is
  still to write: a sync of that file makes them durable -/
  u2 : ∀ r ∈ w.pc.batchW, r.upto ≤ w.cur + (fdata fs w.cur).length + w.pc.todoBytes.length
  u3 : ∀ i ∈ Fs.ids fs, w.cur < i → i ∈ annIds w.rest

end RaftLog
