/-
C07 with `truncate`, system level. A history is fresh (`AppendsFresh`) if every appended log id is above
every id appended earlier; the ghost bound of `RdInvC7b` is then `max (largest id appended so far) purged`,
and every public call — `truncate` included — keeps the invariant, together with any `Rider` on the chunk
table (`RdK.call`, by `call_ghost` with `CallGhost.fresh`). `ReadInvK` is the system-level invariant with a
rider, `ReadInvC7b` the case without; reads return the reference entries (`ReadInvC7b.read`).
-/
import RaftLogModel.Proofs.ReadRestartJournal
import RaftLogModel.Proofs.History
namespace RaftLog

/-- The ids of one batch, in order: each must be above the largest id appended
so far (`m`); returns the new largest id, `none` on a violation. -/
def freshIdsC7b (m : Option LogId) : List (LogId × Bytes) → Option (Option LogId)
  | [] => some m
  | (id, _) :: rest => if optLt m (some id) then freshIdsC7b (some id) rest else none

def freshOpC7b (m : Option LogId) : Op → Option (Option LogId)
  | .append es => freshIdsC7b m es
  | _ => some m

def freshOpsC7b (m : Option LogId) : List Op → Option (Option LogId)
  | [] => some m
  | op :: rest =>
    match freshOpC7b m op with
    | some m' => freshOpsC7b m' rest
    | none => none

/-- **Every log id appended in the history is strictly greater (LogId order:
term, then index) than every log id appended earlier in the history.** -/
def AppendsFresh (steps : List Step) : Bool := (freshOpsC7b none (stepOps steps)).isSome

theorem freshOps_append_C7c (m : Option LogId) (a b : List Op) :
    freshOpsC7b m (a ++ b) = (freshOpsC7b m a).bind (fun m1 => freshOpsC7b m1 b) := by
  induction a generalizing m with
  | nil => rfl
  | cons op rest ih =>
    simp only [List.cons_append, freshOpsC7b]
    cases freshOpC7b m op with
    | none => rfl
    | some m1 => exact ih m1

theorem freshOp_of_not_append {m : Option LogId} {op : Op} (h : ∀ es, op ≠ .append es) :
    freshOpC7b m op = some m := by
  cases op with
  | append es => exact absurd rfl (h es)
  | _ => rfl

/-- A property `K B s` of chunk table and index map, relative to the ghost bound, that can
ride along with `RdInvC7b` through a call: it is kept when a record is journalled whose id
(if it is an `Append`) is above the bound, when the open chunk closes, and when obsolete
closed chunks are dropped. (Not the `LiftRider` of Proofs/RecovPayloadSys.lean, which rides on the store with
all dropped chunks put back and has a ghost of its own.) -/
structure Rider (K : Option LogId → Store → Prop) : Prop where
  applied : ∀ {B B' : Option LogId} {s : Store} {rec : Record} {st' : RState}, K B s →
    optLe B B' = true → (∀ id p, rec = .append id p → optLe (some id) B = false) →
    K B' (s.applied rec st')
  rotate : ∀ {B : Option LogId} {s : Store} {fs : Fs} {w : Worker} {r : RefLog}, K B s →
    JInv s fs w → RdInvC7b B s fs w r → K B s.rotated
  dropObsolete : ∀ {B : Option LogId} {s : Store} (upto : LogId), K B s →
    K B (s.popped upto)
  congr : ∀ {B : Option LogId} {s s' : Store}, K B s → s'.closed = s.closed → s'.log = s.log → K B s'

theorem Rider.none : Rider (fun _ _ => True) :=
  ⟨fun _ _ _ => trivial, fun _ _ _ => trivial, fun _ _ => trivial, fun _ _ _ => trivial⟩

theorem Record.Plain.freshChk {s : Store} {rec : Record} (h : rec.Plain s) (m : Option LogId) :
    FreshChkC7c rec s.st m ∧ freshMC7c rec m = m := by
  rcases h with ⟨v, e⟩ | ⟨i, e⟩ | ⟨x, e, h1, h2⟩ <;> subst e
  · exact ⟨trivial, rfl⟩
  · exact ⟨trivial, rfl⟩
  · exact ⟨⟨h1, h2⟩, rfl⟩

/-- The largest id appended so far as the ghost of a call: every record the call journals passes its
freshness check `FreshChkC7c` against the value reached so far. -/
theorem CallGhost.fresh : CallGhost (fun m _ op m' => freshOpC7b m op = some m')
    (fun m s _ _ rec m' => FreshChkC7c rec s.st m ∧ m' = freshMC7c rec m) where
  single := by
    intro m m' s r r' o rc _ hg _ _ hna _ hk
    obtain rfl : m' = m := (Option.some.inj ((freshOp_of_not_append hna).symm.trans hg)).symm
    rcases hk with ⟨hk, _⟩ | ⟨x, rfl, _⟩ | ⟨u, rfl, _⟩
    · exact ⟨(hk.freshChk m').1, (hk.freshChk m').2.symm⟩
    · exact ⟨trivial, rfl⟩
    · exact ⟨trivial, rfl⟩
  nil := fun hg => (Option.some.inj hg).symm
  cons := by
    intro m m' s r r1 id p rest ha hg hc1
    simp only [freshOpC7b, freshIdsC7b] at hg
    split at hg
    · rename_i hlt
      -- the new id is above `m` by freshness, above `purged` by legality
      obtain ⟨_, _, _, _, hpg⟩ := RefLog.append1_facts ha.wf hc1
      have hpu : s.st.purged = r.purged := ha.purged
      exact ⟨some id, ⟨⟨hlt, hpu ▸ hpg.1⟩, rfl⟩, hg⟩
    · cases hg
  noop := fun hg _ => (Option.some.inj hg).symm

/-- What the freshness check gives: the bound grows, `last` stays below it, an appended id is above it. -/
theorem rinv_applied_C7b {K : Option LogId → Store → Prop} (hK : Rider K) {m : Option LogId}
    {s : Store} {fs : Fs} {w : Worker} {r r' : RefLog} {rec : Record}
    (hj : JInv s fs w) (h : RdInvC7b (optMaxC7b m r.purged) s fs w r) (hk : K (optMaxC7b m r.purged) s)
    (ok : StepOK s r r' rec) (hrec : rec.WF) (hchk : FreshChkC7c rec s.st m) :
    JInv (s.applied rec r'.state) fs w ∧
      RdInvC7b (optMaxC7b (freshMC7c rec m) r'.purged) (s.applied rec r'.state) fs w r' ∧
      K (optMaxC7b (freshMC7c rec m) r'.purged) (s.applied rec r'.state) := by
  have hpu : s.st.purged = r.purged := h.ref.abs.purged
  have hB : optLe (optMaxC7b m r.purged) (optMaxC7b (freshMC7c rec m) r'.purged) = true :=
    hpu ▸ freshStep_mono_C7c hchk ok.hst
  have hlast : optLe r'.last (optMaxC7b (freshMC7c rec m) r'.purged) = true :=
    freshStep_last_C7c (hpu ▸ h.lastB) hchk ok.hst
  have hfr : ∀ id p, rec = .append id p → optLe (some id) (optMaxC7b m r.purged) = false := by
    intro id p e
    subst e
    exact hpu ▸ optMax_not_ge_C7b ((optLt_iff_not_le _ _).1 hchk.1) ((optLt_iff_not_le _ _).1 hchk.2)
  exact ⟨hj.appliedRec hrec ok.hst, h.applied hj ok (h.ref.applied ok) hB hlast hfr,
    hK.applied hk hB hfr⟩

def RdK (K : Option LogId → Store → Prop) (r : RefLog) (B : Option LogId) (s : Store) (fs : Fs)
    (w : Worker) : Prop :=
  JInv s fs w ∧ RdInvC7b B s fs w r ∧ K B s

theorem RdK.call {K : Option LogId → Store → Prop} (hK : Rider K) {m m' : Option LogId}
    {s : Store} {fs : Fs} {w : Worker} {r r' : RefLog} (fsHas : Nat → Bool) {op : Op}
    (h : RdK K r (optMaxC7b m r.purged) s fs w) (hfs : ∀ i, s.openEnd ≤ i → fsHas i = false)
    (hl : r.legal op = true) (hc : r.call op = .ok r') (hsm : op.small) (hwf : op.WF)
    (hfr : freshOpC7b m op = some m') :
    ∃ seg s' effs, s.call fsHas op = (.ok seg, s', effs) ∧
      RdK K r' (optMaxC7b m' r'.purged) s' (effFs effs fs) (w.push (effQ effs)) := by
  obtain ⟨seg, s1, effs, h', _, heq | ⟨upto, rfl, hnn, rfl, heq⟩⟩ :=
    call_ghost CallGhost.fresh (I := fun m r s fs w => RdK K r (optMaxC7b m r.purged) s fs w) fsHas
      (fun q => q.2.1.ref.abs)
      (fun q ok hw hchk => hchk.2 ▸ rinv_applied_C7b hK q.1 q.2.1 q.2.2 ok
        (hw hwf q.1.stWF q.1.logWF) hchk.1)
      (fun q _ => ⟨q.1.rotate, q.2.1.rotate q.1, hK.rotate q.2.2 q.1 q.2.1⟩)
      h hfs hl hc hsm hfr
  · exact ⟨seg, s1, effs, heq, h'⟩
  · -- the purge drops the chunks whose closing `last` is at or below `upto`: every live entry is above `upto`
    exact ⟨seg, _, effs, heq, JInv.callerInv.popped upto h'.1, h'.2.1.dropObsolete fun x hx => by
      simpa using h'.2.1.ref.abs.purged_above x hx, hK.dropObsolete upto h'.2.2⟩

theorem RdK.frame {K : Option LogId → Store → Prop} (hK : Rider K) (r : RefLog) (B : Option LogId) :
    SysFrame (RdK K r B) :=
  JInv.frame.and
    (fun cb hj h => ⟨h.1.flush hj cb, hK.congr h.2 rfl rfl⟩)
    (fun _ h => ⟨h.1.settle, h.2⟩)
    (fun {s c} out hj h hc hnd => by
      have e : ({ s with cache := c.cache } : Store) = s := by rw [← hc]
      exact ⟨RdInvC7b.wstep (s := s) hj (e.symm ▸ h.1) (hj.step_good out hnd) (c.step_cacheStep out)
        (c.step_fents out hj.wok), hK.congr h.2 rfl rfl⟩)
    (fun _ h => ⟨h.1.drain, hK.congr h.2 rfl rfl⟩)

/-- Values the Rust types can hold: u64 id components, a payload below 4 GiB. -/
def RefLog.EntriesWF (r : RefLog) : Prop := ∀ e ∈ r.entries, (Record.append e.1 e.2).WF

theorem RefLog.call_entriesWF {r r' : RefLog} {op : Op} (h : r.EntriesWF) (hop : op.WF)
    (hc : r.call op = .ok r') : r'.EntriesWF :=
  RefLog.call_cases (P := fun op r' => op.WF → r'.EntriesWF) hc
    (fun _ he _ _ _ _ _ _ e hm => h e (he ▸ hm))
    (fun es hc hes => RefLog.appendAll_inv (I := RefLog.EntriesWF) (fun r r1 id p hm hr h1 e he => by
      rw [(RefLog.append1_shape h1).2.2] at he
      rcases List.mem_append.mp he with h2 | h2
      · exact hr e h2
      · cases List.mem_singleton.1 h2
        exact hes (id, p) hm) h hc)
    (fun _ _ _ _ e he => h e (List.mem_filter.mp he).1) (fun _ _ _ => h)
    (fun _ _ _ e he => h e (List.mem_filter.mp he).1) hop

/-- `m` (ghost): the largest log id appended so far. -/
def ReadInvC7b (y : Sys) (r : RefLog) (m : Option LogId) : Prop :=
  ∃ s, y.store = some s ∧ y.worker.pc ≠ .dead ∧ JInv s y.fs y.worker ∧
    RdInvC7b (optMaxC7b m r.purged) s y.fs y.worker r ∧ r.EntriesWF

theorem ReadInvC7b.toJ {y : Sys} {r : RefLog} {m : Option LogId} (h : ReadInvC7b y r m) : J y := by
  obtain ⟨s, hs, hd, hj, _⟩ := h
  exact ⟨s, hs, hd, hj⟩

def ReadInvK (K : Option LogId → Store → Prop) (y : Sys) (r : RefLog) (m : Option LogId) : Prop :=
  y.Live (RdK K r (optMaxC7b m r.purged)) ∧ r.EntriesWF

theorem ReadInvC7b.toK {y : Sys} {r : RefLog} {m : Option LogId} (h : ReadInvC7b y r m) :
    ReadInvK (fun _ _ => True) y r m := by
  obtain ⟨s, hs, hd, hj, hr, hew⟩ := h
  exact ⟨⟨s, hs, hd, hj, hr, trivial⟩, hew⟩

theorem ReadInvK.toC7b {K : Option LogId → Store → Prop} {y : Sys} {r : RefLog} {m : Option LogId}
    (h : ReadInvK K y r m) : ReadInvC7b y r m := by
  obtain ⟨⟨s, hs, hd, hj, hr, _⟩, hew⟩ := h
  exact ⟨s, hs, hd, hj, hr, hew⟩

theorem ReadInvK.call {K : Option LogId → Store → Prop} (hK : Rider K) {y : Sys} {r r' : RefLog}
    {m m' : Option LogId} {op : Op} (h : ReadInvK K y r m)
    (hl : r.legal op = true) (hc : r.call op = .ok r') (hsm : op.small) (hwf : op.WF)
    (hfr : freshOpC7b m op = some m') :
    ReadInvK K (y.step (.call op)) r' m' ∧ ∃ seg, (y.call op).1 = .ok seg := by
  obtain ⟨⟨s, hs, hd, hi⟩, hew⟩ := h
  obtain ⟨seg, s', effs, heq, hi'⟩ :=
    RdK.call hK y.fs.has hi (Fs.has_false_of_lt hi.1.fsLt) hl hc hsm hwf hfr
  obtain ⟨e1, e2⟩ := Sys.call_eq y op hs hd
  rw [heq] at e1 e2
  refine ⟨?_, seg, e2⟩
  show ReadInvK K (y.call op).2.1 r' m'
  rw [e1]
  exact ⟨⟨s', rfl, mt (Worker.settle_dead_iff _).1 hd, (RdK.frame hK _ _).settle hi'⟩,
    RefLog.call_entriesWF hew hwf hc⟩

theorem ReadInvK.flush {K : Option LogId → Store → Prop} (hK : Rider K) {y : Sys} {r : RefLog}
    {m : Option LogId} (h : ReadInvK K y r m)
    (cb : Option Nat) : ReadInvK K (y.step (.flush cb)) r m :=
  ⟨h.1.flush (RdK.frame hK _ _) cb, h.2⟩

theorem ReadInvK.worker {K : Option LogId → Store → Prop} (hK : Rider K) {y : Sys} {r : RefLog}
    {m : Option LogId} (h : ReadInvK K y r m)
    (out : Outcome) (hnd : (y.step (.worker out)).worker.pc ≠ .dead) :
    ReadInvK K (y.step (.worker out)) r m :=
  ⟨h.1.worker (RdK.frame hK _ _) out hnd, h.2⟩

theorem ReadInvK.workerIdle {K : Option LogId → Store → Prop} (hK : Rider K) {y : Sys} {r : RefLog}
    {m : Option LogId} (h : ReadInvK K y r m)
    (hnd : (y.step .workerIdle).worker.pc ≠ .dead) : ReadInvK K (y.step .workerIdle) r m :=
  ⟨h.1.workerIdle (RdK.frame hK _ _) hnd, h.2⟩

theorem ReadInvK.drain {K : Option LogId → Store → Prop} (hK : Rider K) {y : Sys} {r : RefLog}
    {m : Option LogId} (h : ReadInvK K y r m) :
    ReadInvK K (y.step .drain) r m :=
  ⟨h.1.drain (RdK.frame hK _ _), h.2⟩

theorem ReadInvC7b.call {y : Sys} {r r' : RefLog} {m m' : Option LogId} {op : Op} (h : ReadInvC7b y r m)
    (hl : r.legal op = true) (hc : r.call op = .ok r') (hsm : op.small) (hwf : op.WF)
    (hfr : freshOpC7b m op = some m') :
    ReadInvC7b (y.step (.call op)) r' m' ∧ ∃ seg, (y.call op).1 = .ok seg := by
  obtain ⟨h', hok⟩ := ReadInvK.call Rider.none h.toK hl hc hsm hwf hfr
  exact ⟨h'.toC7b, hok⟩

theorem ReadInvC7b.flush {y : Sys} {r : RefLog} {m : Option LogId} (h : ReadInvC7b y r m)
    (cb : Option Nat) : ReadInvC7b (y.step (.flush cb)) r m :=
  (ReadInvK.flush Rider.none h.toK cb).toC7b

theorem ReadInvC7b.worker {y : Sys} {r : RefLog} {m : Option LogId} (h : ReadInvC7b y r m)
    (out : Outcome) (hnd : (y.step (.worker out)).worker.pc ≠ .dead) :
    ReadInvC7b (y.step (.worker out)) r m :=
  (ReadInvK.worker Rider.none h.toK out hnd).toC7b

theorem ReadInvC7b.workerIdle {y : Sys} {r : RefLog} {m : Option LogId} (h : ReadInvC7b y r m)
    (hnd : (y.step .workerIdle).worker.pc ≠ .dead) : ReadInvC7b (y.step .workerIdle) r m :=
  (ReadInvK.workerIdle Rider.none h.toK hnd).toC7b

theorem ReadInvC7b.drain {y : Sys} {r : RefLog} {m : Option LogId} (h : ReadInvC7b y r m) :
    ReadInvC7b (y.step .drain) r m :=
  (ReadInvK.drain Rider.none h.toK).toC7b

theorem RdInvC7b.fresh (cfg : Cfg) : RdInvC7b none (Store.fresh cfg) Fs.fresh Worker.fresh {} :=
  ⟨(Refines.fresh cfg).noCache, nofun, nofun, nofun, nofun, ⟨rfl, nofun⟩,
    fun f hf => by
      obtain rfl : f = ⟨0, none⟩ := by simpa [Worker.fents, WPc.held, reqEnts] using hf
      exact ⟨rfl, nofun⟩,
    rfl⟩

theorem fresh_readInvK {K : Option LogId → Store → Prop} (cfg : Cfg) (hk : K none (Store.fresh cfg)) :
    ReadInvK K (Sys.fresh cfg) {} none :=
  ⟨Sys.Live.fresh ⟨JInv.fresh cfg, RdInvC7b.fresh cfg, hk⟩, nofun⟩

theorem fresh_readInv_C7b (cfg : Cfg) : ReadInvC7b (Sys.fresh cfg) {} none :=
  (fresh_readInvK (K := fun _ _ => True) cfg trivial).toC7b

theorem ReadInvK.step {K : Option LogId → Store → Prop} (hK : Rider K) {y : Sys} {r r' : RefLog}
    {m m' : Option LogId} (h : ReadInvK K y r m) (st : Step) (hst : st.journal = true)
    (hr : r.run (stepOps [st]) = some r') (hops : ∀ op ∈ stepOps [st], op.small ∧ op.WF)
    (hfr : freshOpsC7b m (stepOps [st]) = some m') (hnd : (y.step st).worker.pc ≠ .dead) :
    ReadInvK K (y.step st) r' m' ∧ ∀ op, st = .call op → ∃ seg, (y.call op).1 = .ok seg := by
  by_cases hc : ∃ op, st = .call op
  · obtain ⟨op, rfl⟩ := hc
    obtain ⟨hl, hc⟩ := RefLog.run_single.1 hr
    have hfr1 : freshOpC7b m op = some m' := by
      simp only [stepOps, freshOpsC7b] at hfr
      split at hfr
      · rename_i m1 e; exact hfr ▸ e
      · cases hfr
    obtain ⟨hsm, hwf⟩ := hops op List.mem_cons_self
    obtain ⟨h', hok⟩ := h.call hK hl hc hsm hwf hfr1
    exact ⟨h', fun _ e => Step.call.inj e ▸ hok⟩
  · have hnc : ∀ op, st ≠ .call op := fun op e => hc ⟨op, e⟩
    rw [stepOps_noncall hnc] at hr hfr
    cases hr
    cases hfr
    exact ⟨⟨h.1.step_noncall (RdK.frame hK _ _) hst hnc hnd,
      h.2⟩, fun op e => absurd e (hnc op)⟩

theorem ReadInvK.run {K : Option LogId → Store → Prop} (hK : Rider K) (steps : List Step) :
    ∀ (y : Sys) (r r' : RefLog) (m m' : Option LogId), ReadInvK K y r m →
    (∀ st ∈ steps, st.journal = true) → r.run (stepOps steps) = some r' →
    (∀ op ∈ stepOps steps, op.small ∧ op.WF) → freshOpsC7b m (stepOps steps) = some m' →
    (y.run steps).worker.pc ≠ .dead →
    ReadInvK K (y.run steps) r' m' ∧
    ∀ pre op post, steps = pre ++ Step.call op :: post → ∃ seg, ((y.run pre).call op).1 = .ok seg :=
  fun y r r' m m' h hst hr hops hfr hnd =>
    (Sys.run_induction_ghost (P := ReadInvK K)
      (Q := fun y st => ∀ op, st = .call op → ∃ seg, (y.call op).1 = .ok seg)
      (gr := fun m _ ops m' => freshOpsC7b m ops = some m')
      (fun h => (Option.some.inj h).symm)
      (fun h _ => by rw [freshOps_append_C7c] at h; exact Option.bind_eq_some_iff.1 h) steps hst
      (fun _ _ _ _ _ st hm h hr hops hfr hnd => h.step hK st (hst st hm) hr hops hfr hnd)
      y r r' m m' h hr hops hfr hnd).imp_right fun k pre op post e => k pre _ post e op rfl

theorem run_readInv_C7b (steps : List Step) (y : Sys) (r r' : RefLog) (m m' : Option LogId)
    (h : ReadInvC7b y r m) (hsteps : ∀ st ∈ steps, st.journal = true)
    (hr : r.run (stepOps steps) = some r') (hops : ∀ op ∈ stepOps steps, op.small ∧ op.WF)
    (hfr : freshOpsC7b m (stepOps steps) = some m') (hnd : (y.run steps).worker.pc ≠ .dead) :
    ReadInvC7b (y.run steps) r' m' ∧
    ∀ pre op post, steps = pre ++ Step.call op :: post → ∃ seg, ((y.run pre).call op).1 = .ok seg :=
  (ReadInvK.run Rider.none steps y r r' m m' h.toK hsteps hr hops hfr hnd).imp_left ReadInvK.toC7b

/-- A non-resident live entry whose chunk is older than the worker's newest
file: its chunk is closed, its record is completely in the chunk FILE at
`[off - chunk, + size)`, and `loadPayload` returns its payload. -/
theorem RdInvC7b.on_disk {B : Option LogId} {s : Store} {fs : Fs} {w : Worker} {r : RefLog}
    (hj : JInv s fs w)
    (h : RdInvC7b B s fs w r) (hew : r.EntriesWF) {x : Nat × LogData} (hx : x ∈ s.log) {p : Bytes}
    (hp : (x.2.id, p) ∈ r.entries) (hlt : x.2.chunk < w.cur) :
    (∃ c ∈ s.closed, c.id = x.2.chunk) ∧
    (∃ f, fs.find x.2.chunk = some f ∧ x.2.off - x.2.chunk + x.2.size ≤ f.data.length ∧
      (f.data.drop (x.2.off - x.2.chunk)).take x.2.size = encRecord (.append x.2.id p)) ∧
    w.inflight x.2.chunk = [] ∧
    loadPayload s.closed fs x.2 = .ok x.2.id p := by
  obtain ⟨p', hp', hl, hoff, hsz, pre, post, hbytes, hpre⟩ := h.loc x hx
  have hpp : p' = p := h.ref.wf.payload_unique hp' hp
  subst hpp
  have hcur_le : w.cur ≤ s.openId := hj.ann_le _ (by simp [Worker.announced])
  have hclosed : ∃ c ∈ s.closed, c.id = x.2.chunk := by
    rcases hl with h1 | h1
    · omega
    · exact h1
  obtain ⟨c, hc, hcid⟩ := hclosed
  have hna : x.2.chunk ∉ w.announced := by
    intro hm
    have := incr_head_le (a := w.cur) (l := annIds w.rest) hj.annAsc _ hm
    omega
  have hinf := w.inflight_not_announced _ hna
  have hsome := (Fs.find_isSome_iff fs x.2.chunk).mpr (hcid ▸ hj.closedFs c hc)
  cases hf : fs.find x.2.chunk with
  | none => rw [hf] at hsome; cases hsome
  | some f =>
    have hfd : fdata fs x.2.chunk = f.data := by unfold fdata; rw [hf]
    have hno : ¬ s.openId = x.2.chunk := by omega
    have hcb : chunkBytes s fs w x.2.chunk = f.data := by
      simp [chunkBytes, hinf, hfd, hno]
    rw [hcb] at hbytes
    have hslice : (f.data.drop (x.2.off - x.2.chunk)).take x.2.size =
        encRecord (.append x.2.id p') := by
      rw [hbytes, ← hpre, hsz]; simp
    have hlen : x.2.off - x.2.chunk + x.2.size ≤ f.data.length := by
      rw [hbytes, hsz, ← hpre]; simp
    exact ⟨⟨c, hc, hcid⟩, ⟨f, rfl, hlen, hslice⟩, hinf,
      loadPayload_of_slice (hew _ hp) ⟨c, hc, hcid⟩ hf hlen hslice⟩

theorem RdInvC7b.itemOK {B : Option LogId} {s : Store} {fs : Fs} {w : Worker} {r : RefLog}
    (hj : JInv s fs w) (h : RdInvC7b B s fs w r) (hew : r.EntriesWF) :
    ∀ x ∈ s.log, ∀ e ∈ r.entries, e.1 = x.2.id → ItemOK s fs x.2 e.2 := by
  intro x hx e he hid
  obtain ⟨a, b⟩ := e
  simp only at hid
  subst hid
  refine ⟨?_, ?_⟩
  · intro q hq
    exact (h.cval _ (Cache.mem_of_get hq) _ he rfl).symm
  · intro hnone
    have hlt : x.2.chunk < w.cur := by
      rcases h.res x hx with ⟨q, hq⟩ | h1
      · have := Cache.get_of_mem h.ref.cinv.ok.sorted hq
        rw [hnone] at this; cases this
      · exact h1
    exact (h.on_disk hj hew hx he hlt).2.2.2

theorem ReadInvC7b.read {y : Sys} {r : RefLog} {m : Option LogId} (h : ReadInvC7b y r m) :
    ∃ s, y.store = some s ∧ s.st = r.state ∧
      (∀ a b, (s.read y.fs a b).1 = (r.read a b).map (fun e => ReadItem.ok e.1 e.2)) ∧
      s.iter y.fs = r.entries.map (fun e => ReadItem.ok e.1 e.2) := by
  obtain ⟨s, hs, _, hj, hr, hew⟩ := h
  have hitem := hr.itemOK hj hew
  refine ⟨s, hs, hr.ref.st, ?_, ?_⟩
  · intro a b
    unfold Store.read RefLog.read
    simp only
    apply readLoop_itemOK
    · exact keys_filter hr.ref.abs.log (fun i => decide (a ≤ i) && decide (i < b))
    · intro x hx e he
      exact hitem x (List.mem_filter.mp hx).1 e (List.mem_filter.mp he).1
  · unfold Store.iter
    exact readLoop_itemOK s y.fs s.log r.entries hr.ref.log hitem 0 0

theorem ReadInvC7b.resident_or_on_disk {y : Sys} {r : RefLog} {m : Option LogId} (h : ReadInvC7b y r m) :
    ∃ s, y.store = some s ∧ ∀ x ∈ s.log, ∃ p, (x.2.id, p) ∈ r.entries ∧
      (s.cache.get x.2.id = some p ∨
        ((∃ c ∈ s.closed, c.id = x.2.chunk) ∧ y.worker.inflight x.2.chunk = [] ∧
          ∃ f, y.fs.find x.2.chunk = some f ∧ x.2.off - x.2.chunk + x.2.size ≤ f.data.length ∧
            (f.data.drop (x.2.off - x.2.chunk)).take x.2.size = encRecord (.append x.2.id p))) := by
  obtain ⟨s, hs, _, hj, hr, hew⟩ := h
  refine ⟨s, hs, ?_⟩
  intro x hx
  obtain ⟨p, hp, _⟩ := hr.loc x hx
  refine ⟨p, hp, ?_⟩
  rcases hr.res x hx with ⟨q, hq⟩ | hlt
  · left
    have := hr.cval _ hq _ hp rfl
    simp only at this
    subst this
    exact Cache.get_of_mem hr.ref.cinv.ok.sorted hq
  · right
    obtain ⟨h1, h2, h3, _⟩ := hr.on_disk hj hew hx hp hlt
    exact ⟨h1, h3, h2⟩

end RaftLog
