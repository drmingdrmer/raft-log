/-
C07, store level: `RdInv`, where a published or publishable eviction boundary is at or below `last`, and
`RdInvC7b B`, where it is at or below a ghost bound `B` (`B` only grows, every id appended later is above it,
`last` itself may go back: truncate). `RdInv` is the instance `B = last` (`rdInv_iff`), so everything is
proved for `RdInvC7b`.
-/
import RaftLogModel.Proofs.ReadPathRef
import RaftLogModel.Proofs.ReadPathWorker
import RaftLogModel.Proofs.JournalCor
import RaftLogModel.Proofs.WorkerCaller
namespace RaftLog

/-- A file entry `(n, p)` (file id, closing `last` of the chunk before it) is
consistent with the store: `p` is not beyond `last`, and every live entry with
id at or below `p` was journalled into a chunk older than `n`. The same
predicate, with `n` the worker's newest file, describes the eviction boundary. -/
def EntOK (s : Store) (n : Nat) (p : Option LogId) : Prop :=
  optLe p s.st.last = true ∧ ∀ x ∈ s.log, optLe (some x.2.id) p = true → x.2.chunk < n

/-- `EntOK` with the ghost bound `B` in place of `last`. -/
def EntOKC7b (B : Option LogId) (s : Store) (n : Nat) (p : Option LogId) : Prop :=
  optLe p B = true ∧ ∀ x ∈ s.log, optLe (some x.2.id) p = true → x.2.chunk < n

theorem EntOKC7b.mono {B : Option LogId} {s : Store} {n n' : Nat} {p : Option LogId}
    (h : EntOKC7b B s n p) (hn : n ≤ n') : EntOKC7b B s n' p :=
  ⟨h.1, fun x hx hle => Nat.lt_of_lt_of_le (h.2 x hx hle) hn⟩

theorem EntOKC7b.step {B B' : Option LogId} {s s' : Store} {n : Nat} {p : Option LogId}
    (h : EntOKC7b B s n p) (hB : optLe B B' = true)
    (hlog : ∀ x ∈ s'.log, x ∈ s.log ∨ optLe (some x.2.id) B = false) : EntOKC7b B' s' n p := by
  refine ⟨optLe_trans h.1 hB, ?_⟩
  intro x hx hle
  rcases hlog x hx with h1 | h1
  · exact h.2 x h1 hle
  · have := optLe_trans hle h.1
    rw [h1] at this; cases this

theorem EntOKC7b.congr {B : Option LogId} {s s' : Store} {n : Nat} {p : Option LogId}
    (h : EntOKC7b B s n p) (h2 : s'.log = s.log) : EntOKC7b B s' n p := by
  unfold EntOKC7b at *
  rw [h2]; exact h

def LiveChunk (s : Store) (id : Nat) : Prop := id = s.openId ∨ ∃ c ∈ s.closed, c.id = id

/-- The record `bytes` of index entry `d` sits in the byte string of its chunk
(file ++ in flight ++ pending) at `[d.off - d.chunk, + d.size)`. -/
def Located (s : Store) (fs : Fs) (w : Worker) (d : LogData) (bytes : Bytes) : Prop :=
  LiveChunk s d.chunk ∧ d.chunk ≤ d.off ∧ d.size = bytes.length ∧
  ∃ pre post, chunkBytes s fs w d.chunk = pre ++ bytes ++ post ∧ pre.length = d.off - d.chunk

theorem Located.mono {s s' : Store} {fs fs' : Fs} {w w' : Worker} {d : LogData} {b : Bytes}
    (h : Located s fs w d b) (hlive : LiveChunk s' d.chunk)
    (hext : ∃ ext, chunkBytes s' fs' w' d.chunk = chunkBytes s fs w d.chunk ++ ext) :
    Located s' fs' w' d b := by
  obtain ⟨_, h2, h3, pre, post, h4, h5⟩ := h
  obtain ⟨ext, he⟩ := hext
  exact ⟨hlive, h2, h3, pre, post ++ ext, by rw [he, h4]; simp, h5⟩

structure RdInv (s : Store) (fs : Fs) (w : Worker) (r : RefLog) : Prop where
  ref : RefinesNoCache s r
  cval : ∀ e ∈ s.cache.items, ∀ a ∈ r.entries, a.1 = e.1 → a.2 = e.2
  loc : ∀ x ∈ s.log, ∃ p, (x.2.id, p) ∈ r.entries ∧
    Located s fs w x.2 (encRecord (.append x.2.id p))
  /-- what lets a purge drop obsolete chunks -/
  clast : ∀ x ∈ s.log, ∀ c ∈ s.closed, c.id = x.2.chunk → optLe (some x.2.id) c.state.last = true
  /-- resident, or journalled into a chunk older than the worker's newest file -/
  res : ∀ x ∈ s.log, (∃ p, (x.2.id, p) ∈ s.cache.items) ∨ x.2.chunk < w.cur
  bnd : EntOK s w.cur s.cache.lastEvictable
  /-- every file entry the worker holds or will be told about is consistent -/
  ents : ∀ f ∈ w.fents, EntOK s f.id f.prevLast

/-- `RdInv` with a ghost bound: `B` is at or above `last` and above every boundary that is or can still be
published. -/
structure RdInvC7b (B : Option LogId) (s : Store) (fs : Fs) (w : Worker) (r : RefLog) : Prop where
  ref : RefinesNoCache s r
  cval : ∀ e ∈ s.cache.items, ∀ a ∈ r.entries, a.1 = e.1 → a.2 = e.2
  loc : ∀ x ∈ s.log, ∃ p, (x.2.id, p) ∈ r.entries ∧
    Located s fs w x.2 (encRecord (.append x.2.id p))
  clast : ∀ x ∈ s.log, ∀ c ∈ s.closed, c.id = x.2.chunk → optLe (some x.2.id) c.state.last = true
  res : ∀ x ∈ s.log, (∃ p, (x.2.id, p) ∈ s.cache.items) ∨ x.2.chunk < w.cur
  bnd : EntOKC7b B s w.cur s.cache.lastEvictable
  ents : ∀ f ∈ w.fents, EntOKC7b B s f.id f.prevLast
  lastB : optLe s.st.last B = true

theorem rdInv_iff {s : Store} {fs : Fs} {w : Worker} {r : RefLog} :
    RdInv s fs w r ↔ RdInvC7b s.st.last s fs w r :=
  ⟨fun h => ⟨h.ref, h.cval, h.loc, h.clast, h.res, h.bnd, h.ents, optLe_refl _⟩,
    fun h => ⟨h.ref, h.cval, h.loc, h.clast, h.res, h.bnd, h.ents⟩⟩

theorem RdInvC7b.chunk_le {B : Option LogId} {s : Store} {fs : Fs} {w : Worker} {r : RefLog}
    (h : RdInvC7b B s fs w r) (hj : JInv s fs w) {x : Nat × LogData} (hx : x ∈ s.log) :
    x.2.chunk ≤ s.openId := by
  obtain ⟨p, _, hl, _⟩ := h.loc x hx
  rcases hl with h1 | ⟨c, hc, h1⟩
  · omega
  · have := hj.closed_lt hc; omega

theorem RdInvC7b.weaken {B B' : Option LogId} {s : Store} {fs : Fs} {w : Worker} {r : RefLog}
    (h : RdInvC7b B s fs w r) (hB : optLe B B' = true) : RdInvC7b B' s fs w r :=
  ⟨h.ref, h.cval, h.loc, h.clast, h.res, ⟨optLe_trans h.bnd.1 hB, h.bnd.2⟩,
    fun f hf => ⟨optLe_trans (h.ents f hf).1 hB, (h.ents f hf).2⟩, optLe_trans h.lastB hB⟩

/-- `hbnd` and `hents` speak of the store before the change: index map and bound are the same. -/
theorem RdInvC7b.transfer {B : Option LogId} {s s' : Store} {fs fs' : Fs} {w w' : Worker} {r : RefLog}
    (h : RdInvC7b B s fs w r)
    (href : RefinesNoCache s' r) (hlog : s'.log = s.log) (hlast : s'.st.last = s.st.last)
    (hlive : ∀ x ∈ s.log, LiveChunk s x.2.chunk → LiveChunk s' x.2.chunk)
    (hbytes : ∀ x ∈ s.log, ∃ ext, chunkBytes s' fs' w' x.2.chunk = chunkBytes s fs w x.2.chunk ++ ext)
    (hclast : ∀ x ∈ s.log, ∀ c ∈ s'.closed, c.id = x.2.chunk →
      c ∈ s.closed ∨ optLe (some x.2.id) c.state.last = true)
    (hcval : ∀ e ∈ s'.cache.items, e ∈ s.cache.items)
    (hres : ∀ x ∈ s.log, ((∃ p, (x.2.id, p) ∈ s.cache.items) ∨ x.2.chunk < w.cur) →
      ((∃ p, (x.2.id, p) ∈ s'.cache.items) ∨ x.2.chunk < w'.cur))
    (hbnd : EntOKC7b B s w'.cur s'.cache.lastEvictable)
    (hents : ∀ f ∈ w'.fents, f ∈ w.fents ∨ EntOKC7b B s f.id f.prevLast) : RdInvC7b B s' fs' w' r := by
  refine ⟨href, fun e he => h.cval e (hcval e he), ?_, ?_, ?_, hbnd.congr hlog, ?_,
    by rw [hlast]; exact h.lastB⟩
  · intro x hx
    rw [hlog] at hx
    obtain ⟨p, hp, hl⟩ := h.loc x hx
    exact ⟨p, hp, hl.mono (hlive x hx hl.1) (hbytes x hx)⟩
  · intro x hx c hc hid
    rw [hlog] at hx
    rcases hclast x hx c hc hid with h1 | h1
    · exact h.clast x hx c h1 hid
    · exact h1
  · intro x hx
    rw [hlog] at hx
    exact hres x hx (h.res x hx)
  · intro f hf
    rcases hents f hf with h1 | h1
    · exact (h.ents f h1).congr hlog
    · exact h1.congr hlog

theorem res_of_suffix {s : Store} {cur : Nat} {b : Option LogId} {items items' pre : Items}
    (hb : ∀ x ∈ s.log, optLe (some x.2.id) b = true → x.2.chunk < cur)
    (hsplit : items = pre ++ items') (hpre : KeysLe pre b) {x : Nat × LogData} (hx : x ∈ s.log)
    (h : (∃ p, (x.2.id, p) ∈ items) ∨ x.2.chunk < cur) :
    (∃ p, (x.2.id, p) ∈ items') ∨ x.2.chunk < cur := by
  rcases h with ⟨p, hp⟩ | h
  · rw [hsplit] at hp
    rcases List.mem_append.mp hp with h1 | h1
    · exact .inr (hb x hx (hpre _ h1))
    · exact .inl ⟨p, h1⟩
  · exact .inr h

theorem JInv.applied {s : Store} {fs : Fs} {w : Worker} {r : Record} {st' : RState}
    (h : JInv s fs w) (hr : r.WF) (hsm : r.small) (hst : s.st.apply r = .ok st') :
    JInv (s.applied r st') fs w :=
  h.appliedRec hr hst

theorem LiveChunk.applied {s : Store} {r : Record} {st' : RState} (hne : s.openOffsets ≠ []) {id : Nat}
    (h : LiveChunk s id) : LiveChunk (s.applied r st') id := by
  unfold LiveChunk at *
  rw [Store.applied_openId hne]
  exact h

theorem idxLogO_eq {r : Record} {chunk : Nat} {seg : Seg} {l l' : Log}
    (h : idxLogO r chunk seg l = some l') : l' = idxLog r chunk seg l := by
  cases r with
  | truncateAfter o =>
    simp only [idxLogO] at h
    split at h
    · cases h
    · rename_i idx hn
      cases h
      rw [nextIndexChecked_eq_some hn]; rfl
  | purgeUpto u =>
    simp only [idxLogO] at h
    split at h
    · cases h
    · rename_i idx hn
      cases h
      rw [nextIndexChecked_eq_some hn]; rfl
  | _ => cases h; rfl

/-- `insert` = append at the end, then drop a prefix at or below the boundary. -/
theorem Cache.insert_split {c : Cache} {k : LogId} {v : Bytes} (hok : c.OK)
    (hk : ∀ e ∈ c.items, e.1.lt k = true) :
    ∃ pre, c.items ++ [(k, v)] = pre ++ (c.insert k v).items ∧ KeysLe pre c.lastEvictable := by
  have hsz : c.size + v.length = sumLen (c.items ++ [(k, v)]) := by
    rw [sumLen_append, hok.size_eq]; simp [sumLen]
  obtain ⟨pre, h1, _, h3⟩ := evictLoop_spec c.maxItems c.capacity c.lastEvictable
    (c.size + v.length) (c.items ++ [(k, v)]) hsz
  refine ⟨pre, ?_, h3⟩
  simp only [Cache.insert, Cache.tryEvict, insertSorted_of_all_lt k v c.items hk]
  exact h1

/-- What a record does to the resident set, journalled or replayed, for any cache limits: nothing comes in
but the payload of an `Append` record; what goes out is at or below the eviction boundary (eviction on
insert, purge) or above the truncation point. -/
theorem idxCache_spec (rec : Record) {c : Cache} (hok : c.OK)
    (hk : ∀ id p, rec = .append id p → ∀ e ∈ c.items, e.1.lt id = true) :
    (∀ e ∈ (idxCache rec c).items, e ∈ c.items ∨ rec = .append e.1 e.2) ∧
    ∀ e, e ∈ c.items ∨ rec = .append e.1 e.2 → e ∈ (idxCache rec c).items ∨
      optLe (some e.1) c.lastEvictable = true ∨
      ∃ o, rec = .truncateAfter o ∧ ∀ k, o = some k → k.lt e.1 = true := by
  have hsplit : ∀ {items' pre : Items}, c.items = pre ++ items' → KeysLe pre c.lastEvictable →
      ∀ e, e ∈ c.items → e ∈ items' ∨ optLe (some e.1) c.lastEvictable = true := by
    intro items' pre h1 h2 e he
    rw [h1] at he
    exact (List.mem_append.mp he).elim (fun h => .inr (h2 e h)) .inl
  cases rec with
  | append id p =>
    obtain ⟨pre, h1, h2⟩ := Cache.insert_split (v := p) hok (hk id p rfl)
    have hmem : ∀ e, e ∈ c.items ∨ Record.append id p = .append e.1 e.2 ↔ e ∈ c.items ++ [(id, p)] := by
      intro e
      rw [List.mem_append, List.mem_singleton, Record.append.injEq, Prod.ext_iff, eq_comm (a := id),
        eq_comm (a := p)]
    refine ⟨fun e he => (hmem e).2 (h1 ▸ List.mem_append_right _ he), fun e he => ?_⟩
    have := (hmem e).1 he
    rw [h1] at this
    exact (List.mem_append.mp this).elim (fun h => .inr (.inl (h2 e h))) .inl
  | truncateAfter o =>
    cases o with
    | none => exact ⟨fun e he => (nomatch he), fun e _ => .inr (.inr ⟨none, rfl, fun k hk => (nomatch hk)⟩)⟩
    | some k =>
      obtain ⟨f1, f2, _⟩ := Cache.truncateAfter_facts c k
      refine ⟨fun e he => .inl (f2 e he), fun e he => ?_⟩
      have he' : e ∈ c.items := he.elim id (fun h => nomatch h)
      cases hlt : k.lt e.1 with
      | false => exact .inl (f1 e he' hlt)
      | true => exact .inr (.inr ⟨some k, rfl, fun k' hk' => by cases hk'; exact hlt⟩)
  | purgeUpto u =>
    obtain ⟨pre, h1, _, h2⟩ := purgeLoop_spec u c.lastEvictable c.size c.items hok.size_eq
    refine ⟨fun e he => .inl (h1 ▸ List.mem_append_right _ he), fun e he => ?_⟩
    exact (hsplit h1 h2 e (he.elim id (fun h => nomatch h))).imp_right .inl
  | saveVote v => exact ⟨fun e he => .inl he, fun e he => .inl (he.elim id (fun h => nomatch h))⟩
  | commit i => exact ⟨fun e he => .inl he, fun e he => .inl (he.elim id (fun h => nomatch h))⟩
  | state x => exact ⟨fun e he => .inl he, fun e he => .inl (he.elim id (fun h => nomatch h))⟩

theorem loadPayload_no_chunk {closed : List Closed} {fs : Fs} {d : LogData}
    (h : closed.find? (fun c => c.id == d.chunk) = none) : loadPayload closed fs d = .err .notFound := by
  unfold loadPayload
  rw [h]

theorem loadPayload_short {closed : List Closed} {fs : Fs} {d : LogData} {c : Closed}
    (hc : closed.find? (fun c => c.id == d.chunk) = some c)
    (hr : fs.readAt d.chunk (d.off - d.chunk) d.size = none) : loadPayload closed fs d = .err .eof := by
  have hcid : c.id = d.chunk := by simpa using List.find?_some hc
  unfold loadPayload
  simp only [hc, hcid, hr]

theorem loadPayload_of_slice {closed : List Closed} {fs : Fs} {d : LogData} {p : Bytes} {f : File}
    (hwf : (Record.append d.id p).WF) (hc : ∃ c ∈ closed, c.id = d.chunk) (hf : fs.find d.chunk = some f)
    (hlen : d.off - d.chunk + d.size ≤ f.data.length)
    (hslice : (f.data.drop (d.off - d.chunk)).take d.size = encRecord (.append d.id p)) :
    loadPayload closed fs d = .ok d.id p := by
  obtain ⟨c, hc, hcid⟩ := hc
  unfold loadPayload
  cases hfind : closed.find? (fun c => c.id == d.chunk) with
  | none =>
    have := List.find?_eq_none.mp hfind c hc
    simp [hcid] at this
  | some c' =>
    have hc'id : c'.id = d.chunk := by simpa using List.find?_some hfind
    have hrt := record_rt (.append d.id p) [] hwf
    rw [List.append_nil] at hrt
    simp only [hc'id, Fs.readAt, hf, hlen, if_true, hslice, hrt]

/-- A truncation keeps the index entries at or below its key (`RecCheck`; the head record of a journal, a `State`
record on the empty store, needs no check). -/
theorem idxCache_keeps {rec : Record} {c : Cache} {st : RState} {l : Log} {chunk : Nat} {seg : Seg} (hok : c.OK)
    (hk : ∀ id p, rec = .append id p → ∀ e ∈ c.items, e.1.lt id = true)
    (hck : RecCheck rec st l ∨ ∃ x, rec = .state x) {x : Nat × LogData} (hx : x ∈ idxLog rec chunk seg l)
    {q : Bytes} (hq : (x.2.id, q) ∈ c.items ∨ rec = .append x.2.id q) :
    (∃ p, (x.2.id, p) ∈ (idxCache rec c).items) ∨ optLe (some x.2.id) c.lastEvictable = true := by
  rcases (idxCache_spec rec hok hk).2 (x.2.id, q) hq with k | k | ⟨o, hrec, k⟩
  · exact .inl ⟨q, k⟩
  · exact .inr k
  · exfalso
    subst hrec
    have hx' : x ∈ l ∧ x.1 < nextIndex o := by simpa [idxLog] using hx
    rcases hck with hck | ⟨_, hs⟩
    · cases o with
      | none => simp [nextIndex] at hx'
      | some k' =>
        have := hck x hx'.1 hx'.2
        rw [k k' rfl] at this; cases this
    · cases hs

/-- An appended id is above the old bound, so above every boundary: its payload stays resident. -/
theorem RdInvC7b.applied {B B' : Option LogId} {s : Store} {fs : Fs} {w : Worker} {r r' : RefLog}
    {rec : Record} (hj : JInv s fs w) (h : RdInvC7b B s fs w r) (ok : StepOK s r r' rec)
    (href : RefinesNoCache (s.applied rec r'.state) r')
    (hB : optLe B B' = true) (hlast : optLe r'.last B' = true)
    (hfr : ∀ id p, rec = .append id p → optLe (some id) B = false) :
    RdInvC7b B' (s.applied rec r'.state) fs w r' := by
  have hne := hj.openBytes.ne_nil
  -- an id that is not above the bound is not appended: `last ≤ B`
  have hold : ∀ x ∈ s.log, ∀ p, rec ≠ .append x.2.id p := fun x hx p hrec => by
    have := optLe_trans (h.ref.abs.log_below _ hx) h.lastB
    rw [hfr _ p hrec] at this; cases this
  have habove : ∀ id p, rec = .append id p → ∀ e ∈ s.cache.items, e.1.lt id = true := fun id p hrec =>
    items_lt_of_gt_last h.ref.cinv (by
      cases hle : optLe (some id) s.st.last with
      | false => rfl
      | true => have := optLe_trans hle h.lastB; rw [hfr id p hrec] at this; cases this)
  have hsub := (idxCache_spec rec h.ref.cinv.ok habove).1
  have hcls : ∀ x ∈ (s.applied rec r'.state).log,
      (x ∈ s.log ∧ ∀ p, (x.2.id, p) ∈ r.entries → (x.2.id, p) ∈ r'.entries) ∨
      ∃ p, rec = .append x.2.id p ∧ x.2 = ⟨x.2.id, s.openId, s.openEnd, (encRecord rec).length⟩ := by
    intro x hx
    rcases idxLog_mem hx with h1 | ⟨id, p, hrec, rfl⟩
    · rcases ok.pay _ _ x hx with k | ⟨_, _, p, hrec⟩
      · exact .inl k
      · exact absurd hrec (hold x h1 p)
    · exact .inr ⟨p, hrec, rfl⟩
  have hlog' : ∀ x ∈ (s.applied rec r'.state).log, x ∈ s.log ∨ optLe (some x.2.id) B = false :=
    fun x hx => (hcls x hx).imp And.left fun ⟨p, hrec, _⟩ => hfr _ p hrec
  refine ⟨href, ?_, ?_, ?_, ?_, ?_, fun f hf => (h.ents f hf).step hB hlog', hlast⟩
  · -- a cached payload is the reference payload: through the index entry with that id
    intro e he ⟨a1, a2⟩ ha hae
    simp only at hae
    subst hae
    obtain ⟨x, hx, _, hxa⟩ := mem_log_of_keys href.log ha
    show a2 = e.2
    rcases hcls x hx with ⟨h1, h2⟩ | ⟨p, hrec, _⟩
    · obtain ⟨p, hp, _⟩ := h.loc x h1
      rw [hxa] at hp h2
      rcases hsub e he with k | k
      · exact (href.wf.payload_unique ha (h2 p hp)).trans (h.cval e k (e.1, p) hp rfl)
      · exact absurd (hxa ▸ k) (hold x h1 e.2)
    · rw [hxa] at hrec
      have hap : a2 = p := href.wf.payload_unique ha (ok.newEntry _ p hrec)
      rcases hsub e he with k | k
      · -- a resident id is at or below `last`, the appended one is above the bound
        have := optLe_trans (h.ref.cinv.le_last e k) h.lastB
        rw [hfr _ p hrec] at this; cases this
      · exact hap.trans (Record.append.inj (hrec.symm.trans k)).2
  · -- the record's bytes: old entries by `Located.mono`, the new one at the end of the open chunk's bytes
    intro x hx
    rcases hcls x hx with ⟨h1, h2⟩ | ⟨p, hrec, hd⟩
    · obtain ⟨p, hp, hl⟩ := h.loc x h1
      exact ⟨p, h2 p hp, hl.mono (hl.1.applied hne) ⟨_, chunkBytes_applied fs w hne _⟩⟩
    · refine ⟨p, ok.newEntry _ p hrec, ?_, ?_, ?_, chunkBytes s fs w s.openId, [], ?_, ?_⟩
      · rw [hd]; exact .inl (Store.applied_openId hne).symm
      · rw [hd]; exact Nat.le_of_lt hj.openId_lt
      · rw [hd, hrec]
      · rw [hd]
        simp only
        rw [chunkBytes_applied fs w hne, if_pos rfl, hrec, List.append_nil]
      · rw [hd]; exact hj.openBytes_length
  · -- a new entry is in the open chunk, which is no closed one
    intro x hx c hc hid
    rcases hcls x hx with ⟨h1, _⟩ | ⟨p, _, hd⟩
    · exact h.clast x h1 c hc hid
    · exfalso
      rw [hd] at hid
      simp only at hid
      have := hj.closed_lt (c := c) hc
      omega
  · -- resident before: still resident, or evicted at or below the boundary; not cut by a truncation
    intro x hx
    show (∃ p, (x.2.id, p) ∈ (idxCache rec s.cache).items) ∨ x.2.chunk < w.cur
    have key : ∀ q, (x.2.id, q) ∈ s.cache.items ∨ rec = .append x.2.id q →
        (optLe (some x.2.id) s.cache.lastEvictable = true → x.2.chunk < w.cur) →
        (∃ p, (x.2.id, p) ∈ (idxCache rec s.cache).items) ∨ x.2.chunk < w.cur :=
      fun q hq hbelow => (idxCache_keeps h.ref.cinv.ok habove (.inl ok.check) hx hq).imp_right hbelow
    rcases hcls x hx with ⟨h1, _⟩ | ⟨p, hrec, _⟩
    · rcases h.res x h1 with ⟨q, hq⟩ | hlt
      · exact key q (.inl hq) (h.bnd.2 x h1)
      · exact .inr hlt
    · exact key p (.inr hrec) (fun k => by
        have := optLe_trans k h.bnd.1
        rw [hfr _ p hrec] at this; cases this)
  · have := h.bnd.step (s' := s.applied rec r'.state) hB hlog'
    show EntOKC7b B' (s.applied rec r'.state) w.cur (idxCache rec s.cache).lastEvictable
    rw [idxCache_lastEvictable]; exact this

theorem Worker.push_fents (w : Worker) (q : List WReq) : (w.push q).fents = w.fents ++ reqEnts q := by
  simp [Worker.fents_eq, Worker.push_rest]

theorem reqEnts_rotateEffs (s : Store) : reqEnts (effQ (rotateEffs s)) = [⟨s.openEnd, s.st.last⟩] := by
  rw [effQ_rotateEffs]
  by_cases hp : s.pending.isEmpty = true <;> simp [hp, WReq.ents]

theorem RdInvC7b.rotate {B : Option LogId} {s : Store} {fs : Fs} {w : Worker} {r : RefLog}
    (hj : JInv s fs w) (h : RdInvC7b B s fs w r) :
    RdInvC7b B s.rotated (effFs (rotateEffs s) fs) (w.push (effQ (rotateEffs s))) r := by
  have hlt := hj.openId_lt
  apply h.transfer (s' := s.rotated) h.ref.rotated rfl rfl
  case hlive =>
    intro x _ hl
    rcases hl with h1 | ⟨c, hc, h1⟩
    · refine .inr ⟨⟨s.openOffsets, s.st⟩, ?_, ?_⟩
      · simp
      · rw [h1]; rfl
    · exact .inr ⟨c, by simp [hc], h1⟩
  case hbytes =>
    intro x hx
    have := h.chunk_le hj hx
    exact ⟨[], by rw [chunkBytes_rotated hj (by omega)]; simp⟩
  case hclast =>
    intro x hx c hc hid
    have hc' : c ∈ s.closed ∨ c = ⟨s.openOffsets, s.st⟩ := by
      simpa using hc
    rcases hc' with h1 | h1
    · exact .inl h1
    · right; subst h1; exact h.ref.abs.log_below _ hx
  case hcval => exact fun e he => he
  case hres => exact fun x _ hr => hr
  case hbnd => exact h.bnd
  case hents =>
    intro f hf
    rw [Worker.push_fents, reqEnts_rotateEffs] at hf
    rcases List.mem_append.mp hf with h1 | h1
    · exact .inl h1
    · right
      simp only [List.mem_singleton] at h1
      subst h1
      refine ⟨h.lastB, fun x hx _ => ?_⟩
      have := h.chunk_le hj hx
      show x.2.chunk < s.openEnd
      omega

theorem RdInvC7b.dropObsolete {B : Option LogId} {s : Store} {fs : Fs} {w : Worker} {r : RefLog}
    {upto : LogId}
    (h : RdInvC7b B s fs w r) (hgt : ∀ x ∈ s.log, upto.lt x.2.id = true) :
    RdInvC7b B (s.popped upto) fs w r := by
  obtain ⟨k, _, h2, h3, _⟩ := popObsolete_spec upto s.closed
  apply h.transfer (s' := (s.popped upto))
    (h.ref.of_fields rfl rfl rfl rfl) rfl rfl
  case hlive =>
    intro x hx hl
    rcases hl with h1 | ⟨c, hc, h1⟩
    · exact .inl h1
    · refine .inr ⟨c, ?_, h1⟩
      show c ∈ (popObsolete upto s.closed).2
      rw [h2]
      rw [← List.take_append_drop k s.closed] at hc
      rcases List.mem_append.mp hc with h4 | h4
      · exfalso
        have hle := h.clast x hx c (List.mem_of_mem_take h4) h1
        have hcl := h3 c h4
        have hcl' : optLe c.state.last (some upto) = true := (optLe_iff_not_lt _ _).2 hcl
        have := optLe_trans hle hcl'
        simp only [optLe_some_some] at this
        have hg := hgt x hx
        rw [← LogId.not_le_iff_lt] at hg
        rw [hg] at this; cases this
      · exact h4
  case hbytes =>
    intro x _
    exact ⟨[], by rw [List.append_nil]; rfl⟩
  case hclast =>
    intro x _ c hc _
    left
    have : c ∈ (popObsolete upto s.closed).2 := hc
    rw [h2] at this
    exact List.mem_of_mem_drop this
  case hcval => exact fun e he => he
  case hres => exact fun x _ hr => hr
  case hbnd => exact h.bnd
  case hents => exact fun f hf => .inl hf

theorem reqEnts_flush (s : Store) (cb : Option Nat) : reqEnts (effQ (s.flush cb).2) = [] := by
  rw [effQ_flush]
  by_cases hr : s.removed.isEmpty = true <;> simp [hr, WReq.ents]

theorem RdInvC7b.flush {B : Option LogId} {s : Store} {fs : Fs} {w : Worker} {r : RefLog}
    (hj : JInv s fs w) (h : RdInvC7b B s fs w r) (cb : Option Nat) :
    RdInvC7b B (s.flush cb).1 (effFs (s.flush cb).2 fs) (w.push (effQ (s.flush cb).2)) r := by
  rw [effFs_flush]
  apply h.transfer (s' := (s.flush cb).1) (h.ref.of_fields rfl rfl rfl rfl) rfl rfl
  case hlive => exact fun x _ hl => hl
  case hbytes =>
    intro x _
    have := flush_bytes hj cb x.2.chunk
    rw [effFs_flush] at this
    exact ⟨[], by rw [this, List.append_nil]⟩
  case hclast => exact fun x _ c hc _ => .inl hc
  case hcval => exact fun e he => he
  case hres => exact fun x _ hr => hr
  case hbnd => exact h.bnd
  case hents =>
    intro f hf
    rw [Worker.push_fents, reqEnts_flush, List.append_nil] at hf
    exact .inl hf

theorem Worker.settle_fents (w : Worker) : w.settle.fents = w.fents := by
  rw [Worker.fents_eq, Worker.fents_eq, w.settle_rest, w.settle_files]

theorem RdInvC7b.settle {B : Option LogId} {s : Store} {fs : Fs} {w : Worker} {r : RefLog}
    (h : RdInvC7b B s fs w r) : RdInvC7b B s fs w.settle r := by
  apply h.transfer h.ref rfl rfl
  case hlive => exact fun x _ hl => hl
  case hbytes =>
    intro x _
    exact ⟨[], by simp only [chunkBytes, Worker.settle_inflight, List.append_nil]⟩
  case hclast => exact fun x _ c hc _ => .inl hc
  case hcval => exact fun e he => he
  case hres =>
    intro x _ hr
    rw [Worker.settle_cur]; exact hr
  case hbnd => rw [Worker.settle_cur]; exact h.bnd
  case hents =>
    intro f hf
    rw [Worker.settle_fents] at hf
    exact .inl hf

theorem RdInv.settle {s : Store} {fs : Fs} {w : Worker} {r : RefLog} (h : RdInv s fs w r) :
    RdInv s fs w.settle r :=
  rdInv_iff.2 (rdInv_iff.1 h).settle

theorem incr_head_le {a : Nat} {l : List Nat} (h : Incr (a :: l)) : ∀ b ∈ a :: l, a ≤ b := by
  intro b hb
  rcases List.mem_cons.mp hb with h1 | h1
  · omega
  · have := (List.pairwise_cons.mp h).1 b h1; omega

theorem StepGood.cur_le {s : Store} {c c' : WCtx} (hj : JInv s c.fs c.w) (g : StepGood c c') :
    c.w.cur ≤ c'.w.cur := by
  have h1 : c'.w.cur ∈ c.w.announced := g.ann.subset (by simp [Worker.announced])
  exact incr_head_le (a := c.w.cur) (l := annIds c.w.rest) hj.annAsc _ h1

theorem newestId_singleton (f : FileEnt) : newestId [f] = f.id := by simp [newestId]

theorem RdInvC7b.wstep {B : Option LogId} {s : Store} {c c' : WCtx} {r : RefLog} (hj : JInv s c.fs c.w)
    (h : RdInvC7b B ({ s with cache := c.cache } : Store) c.fs c.w r)
    (g : StepGood c c') (hc : CacheStep c.cache c') (hents : ∀ x ∈ c'.w.fents, x ∈ c.w.fents) :
    RdInvC7b B ({ s with cache := c'.cache } : Store) c'.fs c'.w r := by
  have hsame := hc.same
  have hcur := g.cur_le hj
  have href : RefinesNoCache ({ s with cache := c'.cache } : Store) r := h.ref.of_same hsame
  apply h.transfer (s' := ({ s with cache := c'.cache } : Store)) href rfl rfl
  case hlive => exact fun x _ hl => hl
  case hbytes =>
    intro x _
    refine ⟨[], ?_⟩
    simp only [chunkBytes, List.append_nil]
    rw [g.bytes]
    rfl
  case hclast => exact fun x _ c hc _ => .inl hc
  case hcval =>
    intro e he
    have : e ∈ c'.cache.items := he
    rw [hsame.1] at this
    exact this
  case hres =>
    intro x _ hr
    rcases hr with ⟨p, hp⟩ | hr
    · left
      refine ⟨p, ?_⟩
      show (x.2.id, p) ∈ c'.cache.items
      rw [hsame.1]; exact hp
    · right; omega
  case hbnd =>
    show EntOKC7b B ({ s with cache := c.cache } : Store) c'.w.cur c'.cache.lastEvictable
    -- the boundary stays, or is the `prevLast` of the single file left (`startSync`)
    rcases hc with hb | ⟨f, hf, hb⟩
    · rw [hb]; exact h.bnd.mono hcur
    · rw [hb]
      show EntOKC7b B _ _ f.prevLast
      have hmem : f ∈ c'.w.fents := by
        rw [Worker.fents, hf]; simp
      have := h.ents f (hents f hmem)
      have e : c'.w.cur = f.id := by
        simp only [Worker.cur, hf, newestId_singleton]
      rw [e]; exact this
  case hents => exact fun f hf => .inl (hents f hf)

theorem RdInvC7b.drain {B : Option LogId} {s : Store} {fs : Fs} {w : Worker} {r : RefLog}
    (h : RdInvC7b B s fs w r) :
    RdInvC7b B ({ s with cache := s.cache.drainEvictable } : Store) fs w r := by
  obtain ⟨pre, h1, _, h3, _⟩ :=
    drainLoop_spec s.cache.lastEvictable s.cache.size s.cache.items h.ref.cinv.ok.size_eq
  apply h.transfer (s' := ({ s with cache := s.cache.drainEvictable } : Store)) h.ref.drain rfl rfl
  case hlive => exact fun x _ hl => hl
  case hbytes =>
    intro x _
    exact ⟨[], by rw [List.append_nil]; rfl⟩
  case hclast => exact fun x _ c hc _ => .inl hc
  case hcval =>
    intro e he
    have : e ∈ (drainLoop s.cache.lastEvictable s.cache.size s.cache.items).2 := he
    rw [h1]; exact List.mem_append_right _ this
  case hres =>
    intro x hx hr
    exact res_of_suffix h.bnd.2 h1 h3 hx hr
  case hbnd => exact h.bnd
  case hents => exact fun f hf => .inl hf

end RaftLog
