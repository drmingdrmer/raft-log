/-
C05: a crash DURING recovery. The directory `open` leaves (`RecovC5b`) is again one whose every crash image can
be opened, to the same state and index map; and so is the directory after EVERY prefix of the file-system
effects of `open` (truncate + sync of a torn tail; unlink of a newest file without a complete record; create;
write of the head).
-/
import RaftLogModel.Proofs.RecovStore
namespace RaftLog

def RecoversC5b (cfg : Cfg) (st : RState) (l : Log) (X : Fs) : Prop :=
  ∀ X', CrashImage X X' →
    ∃ s w fs evs, openStore cfg X' = (.ok (s, w), fs, evs) ∧ s.st = st ∧ s.log = l

theorem ImgParseC5b.opens (cfg : Cfg) (ht : cfg.truncate = true) {img : Fs} {jc : List (Closed × List Record)}
    {oid : Nat} {jo : List Record} {stC : RState} {lC : Log} {g0 : File} {j : Nat} {rest : Bytes} {stJ : RState}
    {lJ : Log} (hp : ImgParseC5b img jc oid jo stC lC g0 j rest stJ lJ) :
    ∃ s w fs evs, openStore cfg img = (.ok (s, w), fs, evs) ∧ s.st = stJ ∧ s.log = lJ :=
  let ⟨s, w, fs, evs, _, _, q1, q⟩ := openStore_image_C5b cfg ht hp
  ⟨s, w, fs, evs, q1, q.st, q.log⟩

theorem HoldsDurable.crash {fs img : Fs} {p : Closed × List Record} (h : HoldsDurable fs p)
    (hc : CrashImage fs img) :
    HoldsChunk img p := by
  obtain ⟨f, hf, F⟩ := h
  obtain ⟨g, hg, hcut⟩ := hc.find hf F.linked
  exact ⟨g, hg, { data := (cutOf_durable_C5b F.durable hcut).trans F.data, wf := F.recs.1, head := F.recs.2.1
                  offsets := F.recs.2.2.1 }⟩

/-- A directory whose chunk files are all complete and durable: the closed chunks `jcX`, and the newest file
`fX`, which holds exactly the first `j'` records of its chunk. Not every file need be linked (an unlinked stale
file may be left behind by `unlink`); every crash image of it is an `ImgHypC5b`, parsed (`ImgParseC5b`) with an
empty tail. -/
structure CompleteDirC5b (X : Fs) (jcX : List (Closed × List Record)) (oidX : Nat) (joX : List Record)
    (stCX : RState) (lCX : Log) (fX : File) (j' : Nat) (stJ : RState) (lJ : Log) : Prop
    extends ChunksC5b jcX oidX joX stCX lCX, TakeRunC5b oidX joX j' stCX lCX stJ lJ where
  nodup : (Fs.ids X).Nodup
  ids : X.linkedIds = jcX.map (·.1.id) ++ [oidX]
  files : ∀ p ∈ jcX, HoldsDurable X p
  find : X.find oidX = some fX
  linked : fX.linked = true
  data : fX.data = encAll (joX.take j')
  durable : fX.durable = fX.data.length

theorem open_complete_dir_C5b (cfg : Cfg) (ht : cfg.truncate = true) {X : Fs}
    {jcX : List (Closed × List Record)} {oidX : Nat} {joX : List Record} {stCX : RState} {lCX : Log}
    {fX : File} {j' : Nat} {stJ : RState} {lJ : Log}
    (h : CompleteDirC5b X jcX oidX joX stCX lCX fX j' stJ lJ) : RecoversC5b cfg stJ lJ X := by
  intro X' hc
  obtain ⟨g0, hg0, hcut0⟩ := hc.find h.find h.linked
  have hwhole0 : g0.data = encAll (joX.take j') := (cutOf_durable_C5b h.durable hcut0).trans h.data
  have himg : ImgHypC5b X' jcX oidX joX stCX lCX g0 :=
    { toChunksC5b := h.toChunksC5b, nodup := hc.ids_nodup_C5b h.nodup, all := hc.durable_C5b
      ids := by rw [hc.linkedIds]; exact h.ids
      files := fun p hp => (h.files p hp).crash hc
      g0 := hg0 }
  exact ImgParseC5b.opens cfg ht
    { toTakeRunC5b := h.toTakeRunC5b, hyp := himg, data := by rw [hwhole0, List.append_nil], tail := .inl rfl }

/-- `fs'` is the directory a successful `open` left: its open chunk file is durable
(`open_complete_dir_C5b`), or it is the head of a fresh chunk, of which a crash leaves nothing or all. -/
theorem recov_crash_again_C5b {s' : Store} {w' : Worker} {fs' : Fs} {jc' : List (Closed × List Record)}
    {jo' : List Record} (h : RecovC5b s' w' fs' jc' jo')
    (hbelow : ∀ e ∈ s'.log, optLe (some e.2.id) s'.st.last = true) (cfg'' : Cfg)
    (ht : cfg''.truncate = true) : RecoversC5b cfg'' s'.st s'.log fs' := by
  obtain ⟨stC, lC, r1, r2, r3, r4⟩ := h.run
  obtain ⟨f0, hf0, F0⟩ := h.openChunkFile
  have hfd0 := F0.data
  have hcr0 := F0.recs
  have hids : fs'.linkedIds = jc'.map (·.1.id) ++ [s'.openId] := by
    rw [h.linkedIds_eq, Store.chunkIds_eq, ← h.closedEq, List.map_map]
    rfl
  have hch : Chained (jc'.map (·.1.offsets) ++ [offsetsFrom s'.openId (sizes jo')]) := by
    have := h.chained
    simp only [Store.chunks] at this
    rw [← h.closedEq, List.map_map] at this
    rw [show offsetsFrom s'.openId (sizes jo') = s'.openOffsets from hcr0.2.2.1]
    exact this
  have hchunks : ChunksC5b jc' s'.openId jo' stC lC :=
    { rep := r1, chained := hch, wfo := hcr0.1, head := hcr0.2.1, johead := r4 }
  rcases F0.durable with hd | ⟨hd, hjo, hnil⟩
  · exact open_complete_dir_C5b cfg'' ht (j' := jo'.length)
      { toChunksC5b := hchunks, nodup := h.nodup, ids := hids, files := h.closedFile, find := hf0
        linked := F0.linked
        data := by rw [List.take_length]; exact hfd0
        durable := hd
        st := by rw [List.take_length]; exact r2
        log := by rw [List.take_length]; exact r3
        below := hbelow }
  · intro img2 hc
    obtain ⟨g0, hg0, hcut0⟩ := hc.find hf0 F0.linked
    have himg : ImgHypC5b img2 jc' s'.openId jo' stC lC g0 :=
      { toChunksC5b := hchunks, nodup := hc.ids_nodup_C5b h.nodup, all := hc.durable_C5b
        ids := by rw [hc.linkedIds]; exact hids
        files := fun p hp => (h.closedFile p hp).crash hc
        g0 := hg0 }
    obtain ⟨j, hjl, rest, hdata, hcase, _⟩ :=
      cutOf_parse_both_C5b hcr0.1 (t := []) (by rw [List.append_nil]; exact hfd0) hcut0
    have hkey : stRun (jo'.take j) stC = some s'.st ∧
        idxRun (chunkOps s'.openId (jo'.take j)) lC = some s'.log := by
      rw [hjo] at r2 r3 ⊢
      have hst : stC = s'.st := by
        by_cases hne : jc' = []
        · subst hne
          obtain ⟨e1, _⟩ := r1
          rw [e1, hnil rfl]
        · obtain ⟨tl, e⟩ := r4 hne
          rw [hjo] at e
          injection e with e1 _
          injection e1 with e1
          exact e1.symm
      have hlg : lC = s'.log := by
        simp only [chunkOps, opsFrom, idxRun, idxLogO, Option.some.injEq] at r3
        exact r3
      cases j with
      | zero => exact ⟨by rw [hst]; rfl, by rw [hlg]; rfl⟩
      | succ k =>
        rw [List.take_succ_cons, List.take_nil]
        exact ⟨r2, r3⟩
    exact ImgParseC5b.opens cfg'' ht
      { hyp := himg, data := hdata, tail := hcase, st := hkey.1, log := hkey.2, below := hbelow }

theorem linkedIds_snoc_C5b {fs fs2 : Fs} {n : Nat} (hn : (Fs.ids fs).Nodup) (hn2 : (Fs.ids fs2).Nodup)
    (hlt : ∀ x ∈ fs.linkedIds, x < n)
    (h : ∀ x, fs2.has x = true ↔ (fs.has x = true ∨ x = n)) : fs2.linkedIds = fs.linkedIds ++ [n] := by
  obtain ⟨k1, k2⟩ := Fs.linkedIds_spec hn
  refine Fs.linkedIds_eq_of hn2 ?_ fun x => ?_
  · rw [List.pairwise_append]
    refine ⟨k1, by simp, fun a ha b hb => ?_⟩
    simp only [List.mem_singleton] at hb
    subst hb
    exact hlt a ha
  · rw [h, List.mem_append, k2]
    simp

theorem cut_crash_C5b (cfg : Cfg) (ht : cfg.truncate = true) {img : Fs}
    {jc : List (Closed × List Record)} {oid : Nat} {jo : List Record} {stC : RState} {lC : Log}
    {g0 : File} {j : Nat} {rest : Bytes} {stJ : RState} {lJ : Log}
    (hp : ImgParseC5b img jc oid jo stC lC g0 j rest stJ lJ) :
    RecoversC5b cfg stJ lJ (img.truncate oid (encAll (jo.take j)).length) := by
  have h := hp.hyp
  have hmem0 : g0 ∈ img := List.mem_of_find?_eq_some h.g0
  obtain ⟨f, k1, k2, k3, k4⟩ := find_trunc_open_C5b h.g0 (h.all g0 hmem0).2 hp.data
  refine open_complete_dir_C5b cfg ht
    { toChunksC5b := h.toChunksC5b, toTakeRunC5b := hp.toTakeRunC5b
      nodup := by rw [Fs.ids_truncate]; exact h.nodup
      ids := ?_, files := ?_, find := k1
      linked := by rw [k2]; exact (h.all g0 hmem0).1
      data := k3, durable := k4 }
  · rw [linkedIds_of_has_eq_C8s h.nodup (by rw [Fs.ids_truncate]; exact h.nodup)
      (fun x => Fs.has_truncate img oid _ x)]
    exact h.ids
  · exact h.closedFiles (fun id hid => Fs.find_truncate_other img (Nat.ne_of_lt hid) _)

theorem ClosedDirC5b.linkedIds {fs1 : Fs} {jc : List (Closed × List Record)} {n : Nat} {stX : RState}
    {lX : Log} (h : ClosedDirC5b fs1 jc n stX lX) : fs1.linkedIds = jc.map (·.1.id) := by
  refine Fs.linkedIds_eq_of h.nodup h.sorted fun x => ⟨h.has x, fun hx => ?_⟩
  obtain ⟨p, hp, rfl⟩ := List.mem_map.mp hx
  obtain ⟨_, f, hf, F⟩ := h.files p hp
  exact Fs.has_eq_true_iff.mpr ⟨f, hf, F.linked⟩

theorem ClosedDirC5b.created_crash (cfg : Cfg) (ht : cfg.truncate = true) {fs1 : Fs}
    {jc : List (Closed × List Record)} {n : Nat} {stX : RState} {lX : Log}
    (h : ClosedDirC5b fs1 jc n stX lX) (hbelow : ∀ e ∈ lX, optLe (some e.2.id) stX.last = true) :
    RecoversC5b cfg stX lX (fs1.create n) := by
  have hn1 := Fs.ids_create_nodup h.nodup n
  have hwfo : AllWF [Record.state stX] := by
    intro x hx
    simp only [List.mem_singleton] at hx
    subst hx
    exact h.wf
  refine open_complete_dir_C5b cfg ht (oidX := n) (joX := [.state stX]) (j' := 0) (fX := { id := n })
    { nodup := hn1, ids := ?_, files := ?_, rep := h.rep, chained := h.chained
      find := Fs.find_create_self _ _, linked := rfl, data := rfl, durable := rfl, wfo := hwfo
      head := ⟨stX, [], rfl⟩, johead := fun _ => ⟨[], rfl⟩, st := rfl, log := rfl, below := hbelow }
  · rw [linkedIds_snoc_C5b h.nodup hn1 (n := n) ?_ ?_, h.linkedIds]
    · intro x hx
      rw [h.linkedIds] at hx
      obtain ⟨p, hp, rfl⟩ := List.mem_map.mp hx
      exact (h.files p hp).1
    · intro x
      rw [Fs.has_create]
      by_cases hx : x = n
      · simp [hx]
      · simp [hx]
  · intro p hp
    obtain ⟨hlt, f, hf, F⟩ := h.files p hp
    exact ⟨f, by rw [Fs.find_create_ne _ (Nat.ne_of_lt hlt)]; exact hf, F⟩

theorem openStore_empty_C5b (cfg : Cfg) :
    ∃ s w fs evs, openStore cfg [] = (.ok (s, w), fs, evs) ∧ s.st = {} ∧ s.log = [] :=
  ⟨_, _, _, _, openStore_fresh (fs := []) (a := { sm := emptyStore cfg, fs := [] }) (n := 0)
    rfl (.inr rfl) rfl rfl, rfl, rfl⟩

/-- Before the `create`: the newest linked file is the last closed chunk, complete — or there
is none. -/
theorem ClosedDirC5b.crash (cfg : Cfg) (ht : cfg.truncate = true) {fs1 : Fs}
    {jc : List (Closed × List Record)} {n : Nat} {stX : RState} {lX : Log}
    (h : ClosedDirC5b fs1 jc n stX lX) : RecoversC5b cfg stX lX fs1 := by
  intro X' hc
  cases hl : jc.getLast? with
  | none =>
    have hjc : jc = [] := List.getLast?_eq_none_iff.mp hl
    subst hjc
    obtain ⟨e1, e2⟩ := h.rep
    -- no linked file: the image is empty
    have hfil : fs1.filter (fun f => f.linked) = [] := by
      rw [List.filter_eq_nil_iff]
      intro f hf hfl
      cases h.has f.id ((Fs.has_iff h.nodup f.id).mpr ⟨f, hf, hfl, rfl⟩)
    unfold CrashImage at hc
    rw [hfil] at hc
    cases hc
    obtain ⟨s, w, fs, evs, k1, k2, k3⟩ := openStore_empty_C5b cfg
    exact ⟨s, w, fs, evs, k1, by rw [k2, e1], by rw [k3, e2]⟩
  | some pL =>
    obtain ⟨jcI, hsplit⟩ := List.getLast?_eq_some_iff.mp hl
    obtain ⟨cL, rsL⟩ := pL
    have hrep := h.rep
    rw [hsplit] at hrep
    obtain ⟨st0, l0, u1, u2, u3, _, u4, u5⟩ := RepC.unsnoc hrep
    obtain ⟨_, fL, m1, FL⟩ := h.files (cL, rsL) (by rw [hsplit]; simp)
    have m5 : ChunkRecs cL.offsets rsL (encAll rsL) := FL.recs
    refine open_complete_dir_C5b cfg ht (jcX := jcI) (oidX := cL.id) (joX := rsL) (j' := rsL.length)
      (fX := fL)
      { nodup := h.nodup, ids := ?ids, files := ?files, rep := u1, chained := ?chained, find := m1
        linked := FL.linked
        data := by rw [List.take_length]; exact FL.data
        durable := FL.durable, wfo := m5.1, head := m5.2.1, johead := u5
        st := by rw [List.take_length]; exact u2
        log := by rw [List.take_length]; exact u3
        below := u4 } X' hc
    case ids => rw [h.linkedIds, hsplit]; simp
    case files => exact fun p hp => (h.files p (by rw [hsplit]; exact List.mem_append_left _ hp)).2
    case chained =>
      have hch := Chained.prefix _ _ h.chained
      rw [hsplit, List.map_append, List.map_cons, List.map_nil] at hch
      have e : offsetsFrom cL.id (sizes rsL) = cL.offsets := m5.2.2.1
      rw [e]
      exact hch

theorem imgHyp_crash_C5b {img : Fs} {jc : List (Closed × List Record)} {oid : Nat} {jo : List Record}
    {stC : RState} {lC : Log} {g0 : File} (h : ImgHypC5b img jc oid jo stC lC g0)
    {X' : Fs} (hc : CrashImage img X') :
    ∃ g0', ImgHypC5b X' jc oid jo stC lC g0' ∧ g0'.data = g0.data := by
  have hmem0 : g0 ∈ img := List.mem_of_find?_eq_some h.g0
  obtain ⟨g0', hg0, hcut0⟩ := hc.find h.g0 (h.all g0 hmem0).1
  refine ⟨g0',
    { toChunksC5b := h.toChunksC5b, nodup := hc.ids_nodup_C5b h.nodup, all := hc.durable_C5b
      ids := by rw [hc.linkedIds]; exact h.ids
      files := ?_, g0 := hg0 }, cutOf_durable_C5b (h.all g0 hmem0).2 hcut0⟩
  intro p hp
  obtain ⟨f, hf, F⟩ := h.files p hp
  have hmem : f ∈ img := List.mem_of_find?_eq_some hf
  obtain ⟨g, hg, hcut⟩ := hc.find hf (h.all f hmem).1
  exact ⟨g, hg, { F with data := (cutOf_durable_C5b (h.all f hmem).2 hcut).trans F.data }⟩

/-- What one event of `open` does to the directory; the flag says the call succeeded. -/
def openEffC5b (fs : Fs) : Ev → Fs
  | .trunc _ id len => fs.truncate id len
  | .sync _ id true => fs.sync id
  | .unlink _ id true => fs.unlink id
  | .create _ id true => fs.create id
  | .write _ id bs true => fs.write id bs
  | _ => fs

def openEffsC5b (evs : List Ev) (fs : Fs) : Fs := evs.foldl openEffC5b fs

theorem openEffs_append_C5b (xs ys : List Ev) (fs : Fs) :
    openEffsC5b (xs ++ ys) fs = openEffsC5b ys (openEffsC5b xs fs) := by
  simp [openEffsC5b, List.foldl_append]

theorem openEffs_syncEvs_C5b {fs : Fs} (hd : AllDurable fs) (ids : List Nat) :
    openEffsC5b (syncEvs ids) fs = fs := by
  induction ids with
  | nil => rfl
  | cons id ids ih =>
    show openEffsC5b (syncEvs ids) (fs.sync id) = fs
    rw [hd.sync_eq id]; exact ih

def EveryPrefixC5b (P : Fs → Prop) : List Ev → Fs → Prop
  | [], fs => P fs
  | e :: evs, fs => P fs ∧ EveryPrefixC5b P evs (openEffC5b fs e)

theorem EveryPrefixC5b.take {P : Fs → Prop} : ∀ {evs : List Ev} {fs : Fs},
    EveryPrefixC5b P evs fs → ∀ k, P (openEffsC5b (evs.take k) fs)
  | [], _, h, _ => by rw [List.take_nil]; exact h
  | _ :: _, _, h, 0 => h.1
  | _ :: _, _, h, k + 1 => EveryPrefixC5b.take h.2 k

theorem EveryPrefixC5b.append {P : Fs → Prop} : ∀ {xs ys : List Ev} {fs : Fs},
    EveryPrefixC5b P xs fs → EveryPrefixC5b P ys (openEffsC5b xs fs) → EveryPrefixC5b P (xs ++ ys) fs
  | [], _, _, _, h2 => h2
  | _ :: _, _, _, h1, h2 => ⟨h1.1, EveryPrefixC5b.append h1.2 h2⟩

theorem EveryPrefixC5b.of_syncs {P : Fs → Prop} {fs : Fs} (hd : AllDurable fs) (h : P fs) :
    ∀ ids, EveryPrefixC5b P (syncEvs ids) fs
  | [] => h
  | id :: ids => ⟨h, by
      show EveryPrefixC5b P (syncEvs ids) (fs.sync id)
      rw [hd.sync_eq id]
      exact EveryPrefixC5b.of_syncs hd h ids⟩

theorem openEffs_cutEvs_C5b {img : Fs} (hd : AllDurable img) (oid : Nat) (tr : Option Nat) :
    openEffsC5b (cutEvs oid tr) img = Fs.cut img oid tr := by
  cases tr with
  | none => rfl
  | some len => exact (hd.truncate oid len).sync_eq oid

theorem LoopEndC5b.last_eff {cfg : Cfg} {img : Fs} {jc : List (Closed × List Record)} {oid : Nat}
    {rs : List Record} {tr : Option Nat} {stJ : RState} {lJ : Log} {a : OpenAcc}
    (hl : LoopEndC5b cfg img jc oid rs tr stJ lJ a) (hd : AllDurable img) :
    openEffC5b (Fs.cut img oid tr)
      (if rs = [] then .unlink "o" oid true else .sync "o" oid true) = a.fs := by
  rw [hl.fs]
  by_cases hnil : rs = []
  · rw [if_pos hnil, if_pos hnil]; rfl
  · rw [if_neg hnil, if_neg hnil]
    cases tr with
    | none => exact hd.sync_eq oid
    | some len => exact (hd.truncate oid len).sync_eq oid

theorem LoopEndC5b.effs {cfg : Cfg} {img : Fs} {jc : List (Closed × List Record)} {oid : Nat}
    {rs : List Record} {tr : Option Nat} {stJ : RState} {lJ : Log} {a : OpenAcc}
    (hl : LoopEndC5b cfg img jc oid rs tr stJ lJ a) (hd : AllDurable img) :
    openEffsC5b a.evs img = a.fs := by
  rw [hl.evs, openEffs_append_C5b, openEffs_append_C5b, openEffs_syncEvs_C5b hd,
    openEffs_cutEvs_C5b hd]
  exact hl.last_eff hd

theorem LoopEndC5b.everyPrefix {cfg : Cfg} {img : Fs} {jc : List (Closed × List Record)} {oid : Nat}
    {rs : List Record} {tr : Option Nat} {stJ : RState} {lJ : Log} {a : OpenAcc}
    (hl : LoopEndC5b cfg img jc oid rs tr stJ lJ a) (hd : AllDurable img) {P : Fs → Prop}
    (h0 : P img) (hT : P (Fs.cut img oid tr)) (ha : P a.fs) : EveryPrefixC5b P a.evs img := by
  rw [hl.evs, List.append_assoc]
  refine (EveryPrefixC5b.of_syncs hd h0 _).append ?_
  rw [openEffs_syncEvs_C5b hd]
  have hx := hl.last_eff hd
  cases tr with
  | none => exact ⟨h0, hx ▸ ha⟩
  | some len =>
    refine ⟨h0, hT, ?_, ?_⟩
    · show P ((img.truncate oid len).sync oid)
      rw [(hd.truncate oid len).sync_eq oid]; exact hT
    · show P (openEffC5b ((img.truncate oid len).sync oid) _)
      rw [(hd.truncate oid len).sync_eq oid]; exact hx ▸ ha

/-- A crash at any moment of recovery is recoverable: replaying the events of `open` on the directory gives the
directory it returns, and after EVERY prefix of them every crash image can be opened again, with the same
state and index map. -/
theorem openStore_image_steps_C5b (cfg cfg'' : Cfg) (ht : cfg.truncate = true)
    (ht'' : cfg''.truncate = true) {img : Fs}
    {jc : List (Closed × List Record)} {oid : Nat} {jo : List Record} {stC : RState} {lC : Log}
    {g0 : File} {j : Nat} {rest : Bytes} {stJ : RState} {lJ : Log}
    (hp : ImgParseC5b img jc oid jo stC lC g0 j rest stJ lJ) :
    ∃ s' w' fs' evs, openStore cfg img = (.ok (s', w'), fs', evs) ∧ s'.st = stJ ∧ s'.log = lJ ∧
      openEffsC5b evs img = fs' ∧ ∀ k, RecoversC5b cfg'' stJ lJ (openEffsC5b (evs.take k) img) := by
  obtain ⟨s', w', fs', evs, jc', jo', a, hopen, ho, hl, hend⟩ := openStore_image_full_C5b cfg ht hp
  have h := hp.hyp
  have hAD := h.allDurable
  have himg0 : RecoversC5b cfg'' stJ lJ img := by
    intro X' hc
    obtain ⟨g0', himg', hd'⟩ := imgHyp_crash_C5b h hc
    exact ImgParseC5b.opens cfg'' ht'' { hp with hyp := himg', data := hd'.trans hp.data }
  have hT : RecoversC5b cfg'' stJ lJ (Fs.cut img oid (tailTrunc (jo.take j) rest)) := by
    unfold tailTrunc
    split
    · exact himg0
    · exact cut_crash_C5b cfg'' ht'' hp
  refine ⟨s', w', fs', evs, hopen, ho.st, ho.log, ?_, fun k => EveryPrefixC5b.take ?_ k⟩
  · cases hend with
    | reuse hne hrest hfs hevs =>
      rw [hfs, hevs, hl.effs hAD, hl.fs, if_neg hne]
      simp [tailTrunc, hrest, Fs.cut]
    | fresh _ _ hfs hevs => rw [hfs, hevs, openEffs_append_C5b, hl.effs hAD]; rfl
  · cases hend with
    | reuse hne _ _ hevs =>
      rw [hevs]
      refine hl.everyPrefix hAD himg0 hT ?_
      rw [hl.fs, if_neg hne]
      exact hT
    | fresh _ hd hfs hevs =>
      rw [hevs]
      refine (hl.everyPrefix hAD himg0 hT (hd.crash cfg'' ht'')).append ?_
      rw [hl.effs hAD]
      have hw := recov_crash_again_C5b ho.recov (by rw [ho.st, ho.log]; exact hp.below) cfg'' ht''
      rw [ho.st, ho.log, hfs] at hw
      exact ⟨hd.crash cfg'' ht'', hd.created_crash cfg'' ht'' hp.below, hw⟩

end RaftLog
