/-
C06 normalisation: every journal history of well-formed calls reaches the same
system as a LEGAL history (calls accepted by the reference log, small), obtained
by following the reference log: rejected single-record calls and refused
(index u64::MAX) purges are removed, a batch `append es` is replaced by
`append pre` for the longest prefix `pre` of `es` that the reference log accepts
and the store does not refuse. The normal form also has the same acknowledged
position (`Sys.ackRun`), which is why the crash chain is imported.
-/
import RaftLogModel.Proofs.CrashHistSys
import RaftLogModel.Proofs.RejectSys
namespace RaftLog

/-- The longest prefix of a batch that is accepted entry by entry by the
reference log and contains no entry with index u64::MAX (which the store
refuses before validation), together with the reference log after it. -/
def acceptedPrefixC6N (r : RefLog) : List (LogId × Bytes) → List (LogId × Bytes) × RefLog
  | [] => ([], r)
  | (id, p) :: rest =>
    if id.index + 1 = U64 then ([], r) else
    match r.append1 id p with
    | .ok r' => ((id, p) :: (acceptedPrefixC6N r' rest).1, (acceptedPrefixC6N r' rest).2)
    | .error _ => ([], r)

/-- A call that journals one record: kept iff the reference log accepts it. -/
def keepIfOkC6N (r : RefLog) (op : Op) : Option Step × RefLog :=
  match r.call op with
  | .ok r' => (some (.call op), r')
  | .error _ => (none, r)

/-- One step of the normalisation: the step to emit (`none`: the step is
removed) and the reference log after it. -/
def normStepC6N (r : RefLog) : Step → Option Step × RefLog
  | .call (.append es) =>
    (some (.call (.append (acceptedPrefixC6N r es).1)), (acceptedPrefixC6N r es).2)
  | .call (.purge id) => if id.index + 1 = U64 then (none, r) else keepIfOkC6N r (.purge id)
  | .call (.saveVote v) => keepIfOkC6N r (.saveVote v)
  | .call (.commit id) => keepIfOkC6N r (.commit id)
  | .call (.truncate idx) => keepIfOkC6N r (.truncate idx)
  | .call (.saveUserData d) => keepIfOkC6N r (.saveUserData d)
  | st => (some st, r)

def consOptC6N : Option Step → List Step → List Step
  | some st, l => st :: l
  | none, l => l

/-- The normalised history and the reference log at its end. -/
def normalizeC6N (r : RefLog) : List Step → List Step × RefLog
  | [] => ([], r)
  | st :: rest =>
    (consOptC6N (normStepC6N r st).1 (normalizeC6N (normStepC6N r st).2 rest).1,
      (normalizeC6N (normStepC6N r st).2 rest).2)

/-- A purge step is refused by the store (index u64::MAX) or Raft-legal for `r`. -/
def purgeOkC6N (r : RefLog) : Step → Bool
  | .call (.purge id) => decide (id.index + 1 = U64) || r.legal (.purge id)
  | _ => true

/-- Every purge of the history that the store does not refuse (index below
u64::MAX) is Raft-legal (`RefLog.legal`) for the reference
log at the point where it is issued. (The reference log never REJECTS a purge, so
an illegal purge cannot be normalised away; all history theorems assume legal
purges.) -/
def purgesLegalC6N (r : RefLog) : List Step → Bool
  | [] => true
  | st :: rest => purgeOkC6N r st && purgesLegalC6N (normStepC6N r st).2 rest

def Step.isCallC6N : Step → Bool
  | .call _ => true
  | _ => false

theorem acceptedPrefix_spec_C6N (es : List (LogId × Bytes)) : ∀ (r : RefLog),
    r.appendAll (acceptedPrefixC6N r es).1 = .ok (acceptedPrefixC6N r es).2 ∧
    (∀ e ∈ (acceptedPrefixC6N r es).1, e.1.index + 1 ≠ U64) ∧
    ((acceptedPrefixC6N r es).1 = es ∨
      ∃ id p rest, es = (acceptedPrefixC6N r es).1 ++ (id, p) :: rest ∧
        (id.index + 1 = U64 ∨ ∃ k, (acceptedPrefixC6N r es).2.append1 id p = .error k)) := by
  induction es with
  | nil => intro r; exact ⟨rfl, fun e he => (by cases he), Or.inl rfl⟩
  | cons e rest ih =>
    obtain ⟨id, p⟩ := e
    intro r
    by_cases hU : id.index + 1 = U64
    · simp only [acceptedPrefixC6N, if_pos hU]
      exact ⟨rfl, fun e he => (by cases he), Or.inr ⟨id, p, rest, rfl, Or.inl hU⟩⟩
    · cases ha : r.append1 id p with
      | error k =>
        simp only [acceptedPrefixC6N, if_neg hU, ha]
        exact ⟨rfl, fun e he => (by cases he), Or.inr ⟨id, p, rest, rfl, Or.inr ⟨k, ha⟩⟩⟩
      | ok r' =>
        obtain ⟨h1, h2, h3⟩ := ih r'
        simp only [acceptedPrefixC6N, if_neg hU, ha]
        refine ⟨?_, ?_, ?_⟩
        · simp only [RefLog.appendAll, ha]; exact h1
        · intro e he
          rcases List.mem_cons.1 he with he | he
          · subst he; exact hU
          · exact h2 e he
        · rcases h3 with h3 | ⟨id', p', rest', h3, h4⟩
          · left; rw [h3]
          · right
            refine ⟨id', p', rest', ?_, h4⟩
            rw [List.cons_append, ← h3]

theorem acceptedPrefix_append_C6N (es : List (LogId × Bytes)) (r : RefLog) :
    ∃ post, es = (acceptedPrefixC6N r es).1 ++ post := by
  rcases (acceptedPrefix_spec_C6N es r).2.2 with h | ⟨id, p, rest, h, _⟩
  · exact ⟨[], by rw [List.append_nil]; exact h.symm⟩
  · exact ⟨_, h⟩

theorem acceptedPrefix_prefix_C6N (es : List (LogId × Bytes)) (r : RefLog) :
    (acceptedPrefixC6N r es).1 <+: es :=
  (acceptedPrefix_append_C6N es r).imp fun _ h => h.symm

theorem acceptedPrefix_sub_C6N (es : List (LogId × Bytes)) (r : RefLog) :
    ∀ e ∈ (acceptedPrefixC6N r es).1, e ∈ es :=
  fun _ he => (acceptedPrefix_prefix_C6N es r).subset he

theorem acceptedPrefix_length_C6N (es : List (LogId × Bytes)) (r : RefLog) :
    (acceptedPrefixC6N r es).1.length ≤ es.length :=
  (acceptedPrefix_prefix_C6N es r).length_le

theorem acceptedPrefix_full_C6N (es : List (LogId × Bytes)) : ∀ (r r1 : RefLog),
    r.appendAll es = .ok r1 → (∀ e ∈ es, smallId e.1) → acceptedPrefixC6N r es = (es, r1) := by
  induction es with
  | nil =>
    intro r r1 h _
    simp only [RefLog.appendAll, Except.ok.injEq] at h
    subst h; rfl
  | cons e rest ih =>
    obtain ⟨id, p⟩ := e
    intro r r1 h hs
    have hU : ¬ id.index + 1 = U64 := by
      have := hs (id, p) List.mem_cons_self
      simp only [smallId] at this; omega
    simp only [RefLog.appendAll] at h
    cases ha : r.append1 id p with
    | error k => rw [ha] at h; cases h
    | ok r' =>
      rw [ha] at h
      simp only [acceptedPrefixC6N, if_neg hU, ha,
        ih r' r1 h (fun e he => hs e (List.mem_cons_of_mem _ he))]

theorem RSys.append_prefix_C6N {y : Sys} {r : RefLog} (h : RSys y r) (es : List (LogId × Bytes))
    (hwf : (Op.append es).WF) :
    y.step (.call (.append es)) = y.step (.call (.append (acceptedPrefixC6N r es).1)) ∧
    r.legal (.append (acceptedPrefixC6N r es).1) = true ∧
    r.call (.append (acceptedPrefixC6N r es).1) = .ok (acceptedPrefixC6N r es).2 ∧
    (Op.append (acceptedPrefixC6N r es).1).WF ∧ (Op.append (acceptedPrefixC6N r es).1).small := by
  obtain ⟨h1, h2, h3⟩ := acceptedPrefix_spec_C6N es r
  have hc : r.call (.append (acceptedPrefixC6N r es).1) = .ok (acceptedPrefixC6N r es).2 := h1
  have hl : r.legal (.append (acceptedPrefixC6N r es).1) = true := by
    simp only [RefLog.legal, hc]
  have hwf' : (Op.append (acceptedPrefixC6N r es).1).WF :=
    fun e he => hwf e (acceptedPrefix_sub_C6N es r e he)
  have hsm : (Op.append (acceptedPrefixC6N r es).1).small := by
    intro e he
    have := (hwf' e he).1.2
    have := h2 e he
    simp only [smallId]
    omega
  refine ⟨?_, hl, hc, hwf', hsm⟩
  rcases h3 with h3 | ⟨id, p, rest, h3, h4⟩
  · rw [h3]
  · obtain ⟨s, seg, s', effs, hs, _, hcall, habs⟩ := h.call_store hl hc hsm hwf'
    have hk : id.index + 1 = U64 ∨ ∃ k, s'.st.apply (.append id p) = .err k :=
      h4.imp_right (fun ⟨k, h4⟩ => ⟨k, habs.rejects_append1 id p k h4⟩)
    have := congrArg Prod.fst
      (y.call_append_stopped_after s s' (acceptedPrefixC6N r es).1 rest id p seg effs hs hcall hk).1
    rw [← h3] at this
    exact this

theorem legal_of_ok_C6N (r r' : RefLog) (op : Op) (hnp : ∀ id, op ≠ .purge id)
    (hc : r.call op = .ok r') : r.legal op = true := by
  cases op with
  | purge id => exact absurd rfl (hnp id)
  | saveVote v => simp only [RefLog.legal, hc]
  | commit id => simp only [RefLog.legal, hc]
  | truncate idx => simp only [RefLog.legal, hc]
  | saveUserData d => simp only [RefLog.legal, hc]
  | append es => simp only [RefLog.legal, hc]

/-- The five shapes of one normalisation step; everything below goes through this case split. -/
theorem normStep_cases_C6N (r : RefLog) (st : Step) :
    (st.isCallC6N = false ∧ normStepC6N r st = (some st, r)) ∨
    (∃ es, st = .call (.append es) ∧ normStepC6N r st =
      (some (.call (.append (acceptedPrefixC6N r es).1)), (acceptedPrefixC6N r es).2)) ∨
    (∃ op r', st = .call op ∧ r.call op = .ok r' ∧ (op.WF → op.small) ∧
      (r.legal op = true ∨ ∃ id, op = .purge id ∧ id.index + 1 ≠ U64) ∧
      normStepC6N r st = (some st, r')) ∨
    (∃ id, st = .call (.purge id) ∧ id.index + 1 = U64 ∧ normStepC6N r st = (none, r)) ∨
    (∃ op k, st = .call op ∧ op.single ∧ op.small ∧ r.call op = .error k ∧
      normStepC6N r st = (none, r)) := by
  have plain : ∀ op, op.single → op.small → (∀ id, op ≠ .purge id) →
      normStepC6N r (.call op) = keepIfOkC6N r op →
      (∃ op' r', Step.call op = .call op' ∧ r.call op' = .ok r' ∧ (op'.WF → op'.small) ∧
        (r.legal op' = true ∨ ∃ id, op' = .purge id ∧ id.index + 1 ≠ U64) ∧
        normStepC6N r (.call op) = (some (.call op), r')) ∨
      (∃ op' k, Step.call op = .call op' ∧ op'.single ∧ op'.small ∧ r.call op' = .error k ∧
        normStepC6N r (.call op) = (none, r)) := by
    intro op hs hsm hnp hn
    rw [hn]
    unfold keepIfOkC6N
    cases hc : r.call op with
    | ok r' => exact .inl ⟨op, r', rfl, hc, fun _ => hsm, .inl (legal_of_ok_C6N r r' op hnp hc), rfl⟩
    | error k => exact .inr ⟨op, k, rfl, hs, hsm, hc, rfl⟩
  cases st with
  | call op =>
    cases op with
    | append es => exact .inr (.inl ⟨es, rfl, rfl⟩)
    | purge id =>
      by_cases hU : id.index + 1 = U64
      · exact .inr (.inr (.inr (.inl ⟨id, rfl, hU, by simp only [normStepC6N, if_pos hU]⟩)))
      · obtain ⟨r', hc⟩ := r.never_rejects (.purge id) (.inl ⟨id, rfl⟩)
        exact .inr (.inr (.inl ⟨_, r', rfl, hc, fun hwf => smallId_of_lt hwf.2 hU,
          .inr ⟨id, rfl, hU⟩, by simp only [normStepC6N, if_neg hU, keepIfOkC6N, hc]⟩))
    | saveVote v => exact .inr (.inr ((plain (.saveVote v) trivial trivial (fun _ e => nomatch e) rfl).imp_right .inr))
    | commit id => exact .inr (.inr ((plain (.commit id) trivial trivial (fun _ e => nomatch e) rfl).imp_right .inr))
    | truncate idx => exact .inr (.inr ((plain (.truncate idx) trivial trivial (fun _ e => nomatch e) rfl).imp_right .inr))
    | saveUserData d => exact .inr (.inr ((plain (.saveUserData d) trivial trivial (fun _ e => nomatch e) rfl).imp_right .inr))
  | _ => exact .inl ⟨rfl, rfl⟩

theorem stepOps_noncall_C6N {st : Step} (h : st.isCallC6N = false) : stepOps [st] = [] :=
  stepOps_noncall fun op e => by rw [e] at h; cases h

theorem purgeOk_noncall_C6N (r : RefLog) {st : Step} (h : st.isCallC6N = false) :
    purgeOkC6N r st = true := by
  cases st with
  | call op => cases h
  | _ => rfl

theorem Sys.ackStep_call_C6N (y : Sys) (op : Op) (A : Nat) : y.ackStep (.call op) A = A := by
  cases hs : y.store <;> simp only [Sys.ackStep]

theorem normStep_spec_C6N {y : Sys} {r : RefLog} (h : RSys y r) (hset : y.Settled) (st : Step)
    (hj : st.journal = true) (hwf : ∀ op, st = .call op → op.WF)
    (hpl : purgeOkC6N r st = true) :
    (normStepC6N r st = (none, r) ∧ y.step st = y ∧ ∀ A, y.ackStep st A = A) ∨
    ∃ st', (normStepC6N r st).1 = some st' ∧ y.step st' = y.step st ∧ st'.journal = true ∧
      r.run (stepOps [st']) = some (normStepC6N r st).2 ∧
      (∀ op ∈ stepOps [st'], op.WF ∧ op.small) ∧ ∀ A, y.ackStep st' A = y.ackStep st A := by
  rcases normStep_cases_C6N r st with ⟨hc, e⟩ | ⟨es, rfl, e⟩ | ⟨op, r', rfl, hc, hsm, hl, e⟩ |
    ⟨id, rfl, hU, e⟩ | ⟨op, k, rfl, hop, hsm, hc, e⟩
  · rw [e]
    exact .inr ⟨st, rfl, rfl, hj, by rw [stepOps_noncall_C6N hc]; rfl,
      by rw [stepOps_noncall_C6N hc]; exact fun _ hm => (by cases hm), fun _ => rfl⟩
  · obtain ⟨g1, g2, g3, g4, g5⟩ := h.append_prefix_C6N es (hwf _ rfl)
    rw [e]
    exact .inr ⟨_, rfl, g1.symm, rfl, RefLog.run_single.2 ⟨g2, g3⟩,
      fun _ hm => List.mem_singleton.1 hm ▸ ⟨g4, g5⟩,
      fun A => by rw [y.ackStep_call_C6N, y.ackStep_call_C6N]⟩
  · have hleg : r.legal op = true := by
      rcases hl with hl | ⟨id, rfl, hU⟩
      · exact hl
      · simp only [purgeOkC6N, Bool.or_eq_true, decide_eq_true_eq] at hpl
        exact hpl.resolve_left hU
    rw [e]
    exact .inr ⟨_, rfl, rfl, rfl, RefLog.run_single.2 ⟨hleg, hc⟩,
      fun _ hm => List.mem_singleton.1 hm ▸ ⟨hwf _ rfl, hsm (hwf _ rfl)⟩, fun _ => rfl⟩
  · obtain ⟨s, hs, _, _⟩ := h
    exact .inl ⟨e, Sys.step_call_rejected_C6N y s _ .invalidInput hs hset
      (call_purge_refused_D12 s _ _ hU), y.ackStep_call_C6N _⟩
  · obtain ⟨s, hs, habs⟩ := h.abs
    exact .inl ⟨e, Sys.step_call_rejected_C6N y s op k hs hset
      (habs.rejects y.fs.has op hop hsm k hc), y.ackStep_call_C6N _⟩

theorem normalize_run_C6N (steps : List Step) : ∀ (y : Sys) (r : RefLog), CSys y r → y.Settled →
    (∀ st ∈ steps, st.journal = true) → (∀ op ∈ stepOps steps, op.WF) →
    purgesLegalC6N r steps = true → (y.run steps).worker.pc ≠ .dead →
    y.run (normalizeC6N r steps).1 = y.run steps ∧
    (∀ st ∈ (normalizeC6N r steps).1, st.journal = true) ∧
    r.run (stepOps (normalizeC6N r steps).1) = some (normalizeC6N r steps).2 ∧
    (∀ op ∈ stepOps (normalizeC6N r steps).1, op.WF ∧ op.small) ∧
    CSys (y.run steps) (normalizeC6N r steps).2 ∧
    ∀ A, y.ackRun (normalizeC6N r steps).1 A = y.ackRun steps A := by
  induction steps with
  | nil =>
    intro y r h _ _ _ _ _
    exact ⟨rfl, fun st hst => (by cases hst), rfl, fun op hop => (by cases hop), h, fun A => rfl⟩
  | cons st rest ih =>
    intro y r h hset hst hwf hpl hnd
    rw [Sys.run_cons] at hnd ⊢
    have hrest : ∀ s ∈ rest, s.journal = true := fun s hs => hst s (List.mem_cons_of_mem _ hs)
    have hnd1 : (y.step st).worker.pc ≠ .dead := fun hd => hnd (Sys.run_dead rest _ hrest hd)
    have hwf1 : ∀ op, st = .call op → op.WF :=
      fun op e => hwf op (mem_stepOps.2 (e ▸ List.mem_cons_self))
    have hwf2 : ∀ op ∈ stepOps rest, op.WF :=
      fun op hop => hwf op (mem_stepOps.2 (List.mem_cons_of_mem _ (mem_stepOps.1 hop)))
    simp only [purgesLegalC6N, Bool.and_eq_true] at hpl
    obtain ⟨hpl1, hpl2⟩ := hpl
    simp only [normalizeC6N]
    rcases normStep_spec_C6N h.1 hset st (hst st List.mem_cons_self) hwf1 hpl1 with
      ⟨e, e1, e3⟩ | ⟨st', e, e1, j1, r1, w1, a1⟩
    · -- the step is removed: `y.step st = y`, induction hypothesis at `y`
      rw [e] at hpl2 ⊢
      rw [e1] at hnd ⊢
      obtain ⟨k1, k2, k3, k4, k5, k6⟩ := ih y r h hset hrest hwf2 hpl2 hnd
      refine ⟨k1, k2, k3, k4, k5, fun A => ?_⟩
      simp only [consOptC6N]
      rw [k6 A]
      show y.ackRun rest A = (y.step st).ackRun rest (y.ackStep st A)
      rw [e1, e3]
    · -- the step is replaced by `st'` with `y.step st' = y.step st`: `CSys` over `[st']`, then the
      -- induction hypothesis at `y.step st`
      have hC1 : CSys (y.step st) (normStepC6N r st).2 := by
        have := run_CSys [st'] y r _ h (fun s hs => by
          simp only [List.mem_singleton] at hs; subst hs; exact j1) r1 w1
          (by show (y.step st').worker.pc ≠ .dead; rw [e1]; exact hnd1)
        rw [← e1]; exact this
      obtain ⟨k1, k2, k3, k4, k5, k6⟩ :=
        ih (y.step st) _ hC1 (Sys.step_settled y st hset) hrest hwf2 hpl2 hnd
      rw [e]
      simp only [consOptC6N]
      refine ⟨?_, ?_, ?_, ?_, k5, ?_⟩
      · rw [Sys.run_cons, e1]; exact k1
      · exact List.forall_mem_cons.2 ⟨j1, k2⟩
      · rw [RefLog.run_stepOps_cons, r1]
        exact k3
      · intro op hop
        rw [stepOps_cons] at hop
        exact (List.mem_append.1 hop).elim (w1 op) (k4 op)
      · intro A
        show (y.step st').ackRun _ (y.ackStep st' A) = (y.step st).ackRun rest (y.ackStep st A)
        rw [e1, a1]
        exact k6 _

theorem normalize_append_C6N (a b : List Step) : ∀ (r : RefLog),
    normalizeC6N r (a ++ b) =
      ((normalizeC6N r a).1 ++ (normalizeC6N (normalizeC6N r a).2 b).1,
        (normalizeC6N (normalizeC6N r a).2 b).2) := by
  induction a with
  | nil => intro r; rfl
  | cons st rest ih =>
    intro r
    simp only [List.cons_append, normalizeC6N, ih]
    cases (normStepC6N r st).1 <;> rfl

theorem purgesLegal_append_C6N (a b : List Step) : ∀ (r : RefLog),
    purgesLegalC6N r (a ++ b) = (purgesLegalC6N r a && purgesLegalC6N (normalizeC6N r a).2 b) := by
  induction a with
  | nil => intro r; simp only [List.nil_append, purgesLegalC6N, normalizeC6N, Bool.true_and]
  | cons st rest ih =>
    intro r
    simp only [List.cons_append, purgesLegalC6N, normalizeC6N, ih, Bool.and_assoc]

theorem normalize_prefix_C6N {y : Sys} {r : RefLog} (h : CSys y r) (hset : y.Settled)
    (a b : List Step) (hsteps : ∀ st ∈ a ++ b, st.journal = true)
    (hwf : ∀ op ∈ stepOps (a ++ b), op.WF) (hpurge : purgesLegalC6N r (a ++ b) = true)
    (halive : (y.run (a ++ b)).worker.pc ≠ .dead) :
    ((∀ st ∈ a, st.journal = true) ∧ (∀ op ∈ stepOps a, op.WF) ∧ purgesLegalC6N r a = true ∧
      (y.run a).worker.pc ≠ .dead) ∧
    y.run (normalizeC6N r a).1 = y.run a ∧
    (normalizeC6N r (a ++ b)).1 =
      (normalizeC6N r a).1 ++ (normalizeC6N (normalizeC6N r a).2 b).1 := by
  have hja : ∀ st ∈ a, st.journal = true := fun st hst => hsteps st (List.mem_append_left _ hst)
  have hwfa : ∀ op ∈ stepOps a, op.WF :=
    fun op hop => hwf op (mem_stepOps.2 (List.mem_append_left _ (mem_stepOps.1 hop)))
  have hpa : purgesLegalC6N r a = true := by
    rw [purgesLegal_append_C6N, Bool.and_eq_true] at hpurge
    exact hpurge.1
  have halivea := Sys.alive_prefix (fun st hst => hsteps st (List.mem_append_right _ hst)) halive
  exact ⟨⟨hja, hwfa, hpa, halivea⟩, (normalize_run_C6N a y r h hset hja hwfa hpa halivea).1,
    by rw [normalize_append_C6N]⟩

/-- The calls of the normalised history, one by one: a sublist-like relation
(`keep`, `remove`, `cut`: an `append` replaced by a prefix). -/
inductive NormRelC6N : List Step → List Step → Prop
  | nil : NormRelC6N [] []
  | keep (st : Step) {a b : List Step} : NormRelC6N a b → NormRelC6N (st :: a) (st :: b)
  | remove (op : Op) {a b : List Step} : NormRelC6N a b → NormRelC6N (.call op :: a) b
  | cut (pre post : List (LogId × Bytes)) {a b : List Step} : NormRelC6N a b →
      NormRelC6N (.call (.append (pre ++ post)) :: a) (.call (.append pre) :: b)

theorem normalize_rel_C6N (steps : List Step) : ∀ (r : RefLog),
    NormRelC6N steps (normalizeC6N r steps).1 := by
  induction steps with
  | nil => intro r; exact .nil
  | cons st rest ih =>
    intro r
    simp only [normalizeC6N]
    have ihr := ih (normStepC6N r st).2
    rcases normStep_cases_C6N r st with ⟨_, e⟩ | ⟨es, rfl, e⟩ | ⟨op, r', rfl, _, _, _, e⟩ |
      ⟨id, rfl, _, e⟩ | ⟨op, k, rfl, _, _, _, e⟩
    · rw [e] at ihr ⊢; exact .keep _ ihr
    · rw [e] at ihr ⊢
      obtain ⟨post, hp⟩ := acceptedPrefix_append_C6N es r
      have := NormRelC6N.cut (acceptedPrefixC6N r es).1 post ihr
      rw [← hp] at this
      exact this
    · rw [e] at ihr ⊢; exact .keep _ ihr
    · rw [e] at ihr ⊢; exact .remove _ ihr
    · rw [e] at ihr ⊢; exact .remove _ ihr

theorem NormRelC6N.length_le {a b : List Step} (h : NormRelC6N a b) : b.length ≤ a.length := by
  induction h with
  | nil => exact Nat.le_refl _
  | keep _ _ ih => exact Nat.succ_le_succ ih
  | remove _ _ ih => exact Nat.le_succ_of_le ih
  | cut _ _ _ ih => exact Nat.succ_le_succ ih

theorem NormRelC6N.noncalls {a b : List Step} (h : NormRelC6N a b) :
    b.filter (fun st => !st.isCallC6N) = a.filter (fun st => !st.isCallC6N) := by
  have call : ∀ (op : Op) (l : List Step),
      (Step.call op :: l).filter (fun st => !st.isCallC6N) = l.filter (fun st => !st.isCallC6N) :=
    fun _ _ => List.filter_cons_of_neg Bool.false_ne_true
  induction h with
  | nil => rfl
  | keep st _ ih => simp only [List.filter_cons, ih]
  | remove op _ ih => rw [call]; exact ih
  | cut pre post _ ih => rw [call, call]; exact ih

theorem normalize_length_C6N (steps : List Step) (r : RefLog) :
    (normalizeC6N r steps).1.length ≤ steps.length :=
  (normalize_rel_C6N steps r).length_le

theorem normalize_noncalls_C6N (steps : List Step) (r : RefLog) :
    (normalizeC6N r steps).1.filter (fun st => !st.isCallC6N) =
      steps.filter (fun st => !st.isCallC6N) :=
  (normalize_rel_C6N steps r).noncalls

end RaftLog
