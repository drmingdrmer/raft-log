/-
C16 for recovery, system level: `SmallSys` (every file is a prefix of a small journal) along every history of
well-formed calls and clean restarts; hence `FsSmall` for the directory as it is, for what `drop` leaves of
it at ANY point and for every crash image of it, so `open` does not panic. `RecInv_D12` bundles what
recovery needs (`J`, `LSys`, `PFSys_D12`, `SmallSys`), none of it relative to a reference log.
-/
import RaftLogModel.Proofs.SmallJournal
import RaftLogModel.Proofs.RejectSys
import RaftLogModel.Proofs.CrashOpen
namespace RaftLog

def SmallSys (y : Sys) : Prop := ∀ s, y.store = some s → SmallJ s y.fs y.worker

theorem SmallJ.settle {s : Store} {fs : Fs} {w : Worker} (h : SmallJ s fs w) : SmallJ s fs w.settle :=
  h.transport (fun _ hid => hid) (settle_bytes _ _ _)

theorem SmallJ.frame : SysFrame fun s fs w => (JInv s fs w ∧ PanicFree s) ∧ SmallJ s fs w :=
  PanicFree.frame.and_chunks And.left fun k c => k.transport (fun _ h => c.ids ▸ h) c.bytes

theorem SmallSys.live {y : Sys} (h : J y) (hp : PFSys_D12 y) (hS : SmallSys y) :
    y.Live fun s fs w => (JInv s fs w ∧ PanicFree s) ∧ SmallJ s fs w :=
  h.elim fun s h => ⟨s, h.1, h.2.1, ⟨h.2.2, hp s h.1⟩, hS s h.1⟩

theorem SmallSys.of_live {y : Sys} (h : y.Live fun s fs w => (JInv s fs w ∧ PanicFree s) ∧ SmallJ s fs w) :
    SmallSys y :=
  fun _ hs => (h.of_store hs).2.2

theorem SmallSys.worker {y : Sys} {r : RefLog} (h : RSys y r) (hS : SmallSys y) (out : Outcome)
    (hnd : (y.workerStep out).1.worker.pc ≠ .dead) : SmallSys (y.workerStep out).1 :=
  .of_live ((SmallSys.live h.J h.pf hS).worker SmallJ.frame out hnd)

theorem SmallSys.workerIdle {y : Sys} {r : RefLog} (h : RSys y r) (hS : SmallSys y)
    (hnd : y.workerIdle.1.worker.pc ≠ .dead) : SmallSys y.workerIdle.1 :=
  .of_live ((SmallSys.live h.J h.pf hS).workerIdle SmallJ.frame hnd)

theorem fresh_SmallSys (cfg : Cfg) : SmallSys (Sys.fresh cfg) := by
  rw [Sys.fresh_eq]
  intro s hs id hid
  cases hs
  simp only [Fs.ids, List.map_cons, List.map_nil, List.mem_singleton] at hid
  subst hid
  refine ⟨[.state {}], List.forall_mem_singleton.2 RState.wf_empty,
    List.forall_mem_singleton.2 ⟨trivial, fun z hz => by injection hz with hz; exact hz ▸ ⟨trivial, trivial⟩⟩,
    ?_⟩
  rw [chunkBytes_fresh]
  simp [encAll]

theorem run_SmallSys_D12 (steps : List Step) (y : Sys) (h : J y) (hp : PFSys_D12 y) (hS : SmallSys y)
    (hst : ∀ st ∈ steps, st.journal = true) (hwf : ∀ op ∈ stepOps steps, op.WF)
    (hnd : (y.run steps).worker.pc ≠ .dead) : SmallSys (y.run steps) :=
  .of_live (Sys.Live.run (C := Op.WF) SmallJ.frame (fun hop h => SmallJ.call_wf _ hop h) steps
    (SmallSys.live h hp hS) hst hwf hnd)

theorem restart_SmallSys (y : Sys) (r : RefLog) (cfg' : Cfg) (h : CSys y r) (hS : SmallSys y)
    (hc : y.Clean) : SmallSys ((y.step .drop).step (.openWith cfg')) := by
  obtain ⟨s, s', c, k⟩ := restart_eq_LIFT h hc cfg'
  rw [k.sys]
  intro s2 hs2
  obtain rfl : s' = s2 := by injection hs2
  exact (hS s c.store).transport (fun _ hid => (by rw [← Fs.ids_syncAll y.fs y.fs.linkedIds]; exact hid))
    (chunkBytes_reopen (SameBytes.syncAll _ _) c.inflight c.pending k.openOffsets k.pending _)

theorem DataSmall_of_prefixSJ {data tail : Bytes} {rs : List Record} (hwf : AllWF rs)
    (hsm : AllSmallSJ rs) (h : data ++ tail = encAll rs) : DataSmall data := by
  obtain ⟨j, rest, e, _, _, hp⟩ := prefix_parse_some_C3 hwf h
  intro x hx
  rw [hp] at hx
  have : x.1 ∈ rs.take j := by
    rw [← sized_map_fst (rs.take j)]
    exact List.mem_map.mpr ⟨x, hx, rfl⟩
  exact hsm x.1 (List.mem_of_mem_take this)

def PrefixSmall (fs : Fs) : Prop :=
  ∀ id ∈ Fs.ids fs, ∃ rs tail, AllWF rs ∧ AllSmallSJ rs ∧ fdata fs id ++ tail = encAll rs

theorem PrefixSmall.fsSmall {fs : Fs} (h : PrefixSmall fs) : FsSmall fs := by
  intro id _ f hf
  have hid : id ∈ Fs.ids fs := (Fs.find_isSome_iff fs id).mp (by rw [hf]; rfl)
  obtain ⟨rs, tail, h1, h2, h3⟩ := h id hid
  have hfd : fdata fs id = f.data := by unfold fdata; rw [hf]
  rw [hfd] at h3
  exact DataSmall_of_prefixSJ h1 h2 h3

theorem SmallJ.prefixSmall {s : Store} {fs : Fs} {w : Worker} (h : SmallJ s fs w) : PrefixSmall fs := by
  intro id hid
  obtain ⟨rs, h1, h2, h3⟩ := h id hid
  exact ⟨rs, w.inflight id ++ (if s.openId = id then s.pending else []), h1, h2, by
    rw [← h3]; simp [chunkBytes]⟩

/-- Also when the worker dies in the step. -/
theorem WCtx.step_fdata_prefix (c : WCtx) (out : Outcome) (hok : c.w.pc.ok c.w.files)
    (hcur : c.w.cur ∈ Fs.ids c.fs) :
    ∀ id, ∃ ext, fdata (c.step out).fs id ++ ext = fdata c.fs id ++ c.w.inflight id := by
  intro id
  rcases c.step_view out hok with hd | h
  · exact ⟨_, by rw [(c.step_dies out hd).2.1]⟩
  · exact ⟨_, (h.good hcur).1 id⟩

theorem WCtx.runQuiet_fdata_prefix (n : Nat) : ∀ (c : WCtx), c.w.pc.ok c.w.files →
    (∀ a ∈ c.w.announced, a ∈ Fs.ids c.fs) →
    ∀ id, ∃ ext, fdata (WCtx.runQuiet n c).fs id ++ ext = fdata c.fs id ++ c.w.inflight id := by
  induction n with
  | zero => intro c _ _ id; exact ⟨_, rfl⟩
  | succ n ih =>
    intro c hok hann id
    unfold WCtx.runQuiet
    split
    · exact ⟨_, rfl⟩
    · have hcur : c.w.cur ∈ Fs.ids c.fs := hann _ (by simp [Worker.announced])
      by_cases hd : (c.step .ok).w.pc = .dead
      · rw [WCtx.runQuiet_dead n _ hd]
        exact WCtx.step_fdata_prefix c .ok hok hcur id
      · have g := WCtx.step_good c .ok hok hcur hd
        have hids := WCtx.step_ids c .ok
        obtain ⟨ext, he⟩ := ih (c.step .ok) g.wok
          (fun a ha => by rw [hids]; exact hann a (g.ann.subset ha)) id
        exact ⟨ext, by rw [he, g.bytes]⟩

/-- `drop` at any point: the worker finishes what it can (the pending buffer is lost). -/
theorem dropStore_fdata_prefix (y : Sys) (s : Store) (hs : y.store = some s)
    (hj : JInv s y.fs y.worker) (hset : y.Settled) :
    (∀ id, ∃ ext, fdata y.dropStore.1.fs id ++ ext = fdata y.fs id ++ y.worker.inflight id) ∧
    Fs.ids y.dropStore.1.fs = Fs.ids y.fs := by
  rcases y.dropCtx_cases s with ⟨hpc, _⟩ | ⟨_, he⟩
  · have hqe : y.worker.queue = [] := (y.settled_iff.mp hset) hpc
    obtain ⟨d1, _⟩ := dropStore_quiet y s hs hpc hqe
    rw [d1]
    exact ⟨fun id => ⟨_, rfl⟩, rfl⟩
  · have hfs : y.dropStore.1.fs = (y.dropEnd s).fs := by rw [y.dropStore_eq hs]
    rw [hfs, Sys.dropEnd, he]
    refine ⟨fun id => ?_, WCtx.runQuiet_ids _ _⟩
    exact WCtx.runQuiet_fdata_prefix _
      { w := { y.worker with senderAlive := false }, fs := y.fs, cache := s.cache } hj.wok hj.annFs id

theorem dropStore_prefixSmall (y : Sys) (s : Store) (hs : y.store = some s)
    (hj : JInv s y.fs y.worker) (hset : y.Settled) (hS : SmallJ s y.fs y.worker) :
    PrefixSmall y.dropStore.1.fs := by
  obtain ⟨h1, h2⟩ := dropStore_fdata_prefix y s hs hj hset
  intro id hid
  rw [h2] at hid
  obtain ⟨rs, k1, k2, k3⟩ := hS id hid
  obtain ⟨ext, he⟩ := h1 id
  refine ⟨rs, ext ++ (if s.openId = id then s.pending else []), k1, k2, ?_⟩
  rw [← List.append_assoc, he, ← k3]
  simp [chunkBytes]

/-- The invariants recovery needs, none of which mentions the reference log:
journal (`J`), linked files (`LSys`), `PanicFree`, small journals. -/
structure RecInv_D12 (y : Sys) : Prop where
  j : J y
  l : LSys y
  pf : PFSys_D12 y
  small : SmallSys y

theorem fresh_RecInv_D12 (cfg : Cfg) : RecInv_D12 (Sys.fresh cfg) :=
  ⟨fresh_J cfg, fresh_LSys cfg, fresh_PFSys_D12 cfg, fresh_SmallSys cfg⟩

theorem run_RecInv_D12 (steps : List Step) : ∀ (y : Sys), RecInv_D12 y →
    (∀ st ∈ steps, st.journal = true) → (∀ op ∈ stepOps steps, op.WF) →
    (y.run steps).worker.pc ≠ .dead → RecInv_D12 (y.run steps) :=
  fun y h hst hwf hnd =>
    ⟨run_J steps y h.j hst hwf hnd, run_LSys steps y h.l h.j hst hwf hnd,
      run_PFSys_D12 steps y h.pf hst hwf, run_SmallSys_D12 steps y h.j h.pf h.small hst hwf hnd⟩

theorem SmallSys.open_no_panic {y : Sys} (hS : SmallSys y) (hj : J y) (hset : y.Settled)
    (cfg' : Cfg) :
    FsSmall y.fs ∧ FsSmall (y.step .drop).fs ∧
    (∀ m, (openStore cfg' y.fs).1 ≠ .panic m) ∧
    (∀ m, ({ (y.step .drop) with cfg := cfg' } : Sys).open.1 ≠ .panic m) := by
  obtain ⟨s, hs, _, hji⟩ := hj
  have h1 : FsSmall y.fs := (hS s hs).prefixSmall.fsSmall
  have h2 : FsSmall (y.step .drop).fs := (dropStore_prefixSmall y s hs hji hset (hS s hs)).fsSmall
  exact ⟨h1, h2, openStore_no_panic cfg' y.fs h1,
    fun m hm => openStore_no_panic cfg' _ h2 m (Sys.open_panic hm)⟩

/-- A crash cuts a file, and `parseChunk` of a cut yields a prefix of the journal's records. -/
theorem SmallSys.crash_fsSmall {y : Sys} (hS : SmallSys y) (hj : J y) (hl : LSys y) {img : Fs}
    (hc : CrashImage y.fs img) : FsSmall img := by
  obtain ⟨s, hs, _, _⟩ := hj
  obtain ⟨s1, hs1, hli⟩ := hl
  rw [hs] at hs1; cases hs1
  intro id hid g hg
  rw [hc.linkedIds] at hid
  have hhas : y.fs.has id = true := ((Fs.linkedIds_spec hli.nodup).2 id).mp hid
  obtain ⟨f, hf, hfl⟩ := Fs.has_eq_true_iff.mp hhas
  obtain ⟨g', hg1, hg2⟩ := hc.find hf hfl
  rw [hg] at hg1; cases hg1
  have hidm : id ∈ Fs.ids y.fs := (Fs.find_isSome_iff y.fs id).mp (by rw [hf]; rfl)
  obtain ⟨rs, k1, k2, k3⟩ := hS s hs id hidm
  have k5 : f.data ++ (y.worker.inflight id ++ (if s.openId = id then s.pending else []))
      = encAll rs := by
    rw [← k3, ← fdata_of_find_C3 hf]; simp [chunkBytes]
  obtain ⟨j, _, e, rest, hparse, _⟩ := cutOf_parses_C3 k1 k5 hg2
  intro x hx
  rw [hparse] at hx
  obtain ⟨rec, hrec, e2⟩ := List.mem_map.mp hx
  rw [← e2]
  exact k2 rec (List.mem_of_mem_take hrec)

theorem RecInv_D12.crash_fsSmall {y : Sys} (h : RecInv_D12 y) {img : Fs}
    (hc : CrashImage y.fs img) : FsSmall img :=
  h.small.crash_fsSmall h.j h.l hc

end RaftLog
