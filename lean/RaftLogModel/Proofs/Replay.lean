/-
C02: the replay invariant. For a live store with file system and worker,
`Rep s fs w r` says: there are record lists for every live chunk (closed chunks
`jc`, open chunk `jo`) whose encodings are exactly the chunk's bytes (file ++
in flight ++ pending) and whose sizes give the chunk's offsets, such that
replaying them in order from the empty state and the empty index map — cache
free — yields exactly `(s.st, s.log)`; after every closed chunk the replayed
state is the recorded closing state and every index entry is at or below its
`last`.

`RInv s fs w r` = journal invariant ∧ cache-free refinement of the reference log
`r` ∧ `Rep`; that every step keeps it is in Proofs/ReplaySys.lean. The record lists are determined by the
bytes (`RepG.unique_C3b`, with the injectivity of `encAll` on well-formed lists).
-/
import RaftLogModel.Proofs.ReplayRep
import RaftLogModel.Proofs.JournalSys
namespace RaftLog

/-- The replay part of the invariant for given witnesses (`G`): `jc` pairs every closed chunk with its
records, `jo` are the records of the open chunk. `PayG`, `RunG` below are about the same witnesses. -/
structure RepG (s : Store) (fs : Fs) (w : Worker) (jc : List (Closed × List Record))
    (jo : List Record) : Prop where
  closedEq : jc.map (·.1) = s.closed
  closedRecs : ∀ p ∈ jc, ChunkRecs p.1.offsets p.2 (chunkBytes s fs w p.1.id)
  openRecs : ChunkRecs s.openOffsets jo (chunkBytes s fs w s.openId)
  /-- replaying all of them from nothing gives the live state and index map; a chunk that is not the
  oldest starts with the `State` record of the state its predecessor closed with -/
  run : ∃ stC lC, RepC jc {} [] stC lC ∧ stRun jo stC = some s.st ∧
    idxRun (chunkOps s.openId jo) lC = some s.log ∧ (jc ≠ [] → ∃ tl, jo = .state stC :: tl)

def allOps (s : Store) (jc : List (Closed × List Record)) (jo : List Record) : List JOp :=
  flatOps jc ++ chunkOps s.openId jo

theorem allOps_congr {s s2 : Store} (h3 : s2.openOffsets = s.openOffsets)
    (jc : List (Closed × List Record)) (jo : List Record) : allOps s2 jc jo = allOps s jc jo := by
  simp [allOps, Store.openId, h3]

/-- The `Append` record an index entry points to. -/
def opAt (e : Nat × LogData) (p : Bytes) : JOp := ⟨.append e.2.id p, e.2.chunk, ⟨e.2.off, e.2.size⟩⟩

/-- Payloads: whenever the record an index entry points to is in the retained
journal, it carries the reference log's payload for that id. -/
def PayG (s : Store) (r : RefLog) (jc : List (Closed × List Record)) (jo : List Record) : Prop :=
  ∀ e ∈ s.log, ∀ p, opAt e p ∈ allOps s jc jo → (e.2.id, p) ∈ r.entries

/-- The checks of `RecCheck` hold along the retained journal after its first
record (the head `State` record of the oldest retained chunk). -/
def RunG (s : Store) (jc : List (Closed × List Record)) (jo : List Record) : Prop :=
  ∀ hd tl, allOps s jc jo = hd :: tl → ∀ x, hd.r = .state x → RunOK tl x []

def Rep (s : Store) (fs : Fs) (w : Worker) (r : RefLog) : Prop :=
  ∃ jc jo, RepG s fs w jc jo ∧ PayG s r jc jo ∧ RunG s jc jo

theorem allOps_map_r (s : Store) (jc : List (Closed × List Record)) (jo : List Record) :
    (allOps s jc jo).map (·.r) = flatRecs jc ++ jo := by
  simp only [allOps, List.map_append, flatOps_map_r, chunkOps, opsFrom_map_r]

theorem PayG.mono {s s2 : Store} {r : RefLog} {jc jc2 : List (Closed × List Record)}
    {jo jo2 : List Record} (h : PayG s r jc jo) (hlog : s2.log = s.log)
    (hops : ∀ op ∈ allOps s2 jc2 jo2, (∃ id p, op.r = .append id p) → op ∈ allOps s jc jo) :
    PayG s2 r jc2 jo2 := by
  intro e he p hop
  rw [hlog] at he
  exact h e he p (hops _ hop ⟨_, _, rfl⟩)

theorem RepG.mem_closed {s : Store} {fs : Fs} {w : Worker} {jc : List (Closed × List Record)}
    {jo : List Record} (h : RepG s fs w jc jo) {p : Closed × List Record} (hp : p ∈ jc) :
    p.1 ∈ s.closed := by
  rw [← h.closedEq]; exact List.mem_map.mpr ⟨p, hp, rfl⟩

theorem RepG.heads {s : Store} {fs : Fs} {w : Worker} {jc : List (Closed × List Record)}
    {jo : List Record} (h : RepG s fs w jc jo) : HeadsState jc :=
  fun p hp => (h.closedRecs p hp).head

theorem RepG.transport {s s2 : Store} {fs fs2 : Fs} {w w2 : Worker}
    {jc : List (Closed × List Record)} {jo : List Record} (h : RepG s fs w jc jo)
    (h1 : s2.st = s.st) (h2 : s2.log = s.log) (h3 : s2.openOffsets = s.openOffsets)
    (h5 : s2.closed = s.closed)
    (hb : ∀ id, chunkBytes s2 fs2 w2 id = chunkBytes s fs w id) : RepG s2 fs2 w2 jc jo := by
  have e1 : s2.openId = s.openId := by simp [Store.openId, h3]
  refine ⟨by rw [h5]; exact h.closedEq, fun p hp => by rw [hb]; exact h.closedRecs p hp,
    by rw [h3, e1, hb]; exact h.openRecs, ?_⟩
  obtain ⟨stC, lC, g1, g2, g3, g4⟩ := h.run
  exact ⟨stC, lC, g1, by rw [h1]; exact g2, by rw [e1, h2]; exact g3, g4⟩

theorem Rep.transport {s s2 : Store} {fs fs2 : Fs} {w w2 : Worker} {r : RefLog} (h : Rep s fs w r)
    (h1 : s2.st = s.st) (h2 : s2.log = s.log) (h3 : s2.openOffsets = s.openOffsets)
    (h5 : s2.closed = s.closed)
    (hb : ∀ id, chunkBytes s2 fs2 w2 id = chunkBytes s fs w id) : Rep s2 fs2 w2 r := by
  obtain ⟨jc, jo, g, gp, gr⟩ := h
  have e2 := allOps_congr h3 jc jo
  exact ⟨jc, jo, g.transport h1 h2 h3 h5 hb,
    gp.mono h2 (fun op hop _ => by rw [e2] at hop; exact hop), by unfold RunG; rw [e2]; exact gr⟩

theorem RepG.ops_off_lt {s : Store} {fs : Fs} {w : Worker} {jc : List (Closed × List Record)}
    {jo : List Record} (g : RepG s fs w jc jo) (hj : JInv s fs w) :
    ∀ op ∈ allOps s jc jo, op.seg.off < s.openEnd := by
  intro op hop
  rcases List.mem_append.mp hop with h1 | h1
  · obtain ⟨p, hp, hop'⟩ := mem_flatOps.mp h1
    have h2 := (opsFrom_off_lt hop').2.1
    have h3 := (g.closedRecs p hp).lastOff_eq
    have h4 := hj.closedLe p.1 (g.mem_closed hp)
    have h5 := hj.openId_lt
    simp only [Closed.id] at h2
    omega
  · have h2 := (opsFrom_off_lt h1).2.1
    have h3 := g.openRecs.lastOff_eq
    simp only [Store.openEnd, Store.openId] at h2 h3 ⊢
    omega

theorem RepG.flat_run {s : Store} {fs : Fs} {w : Worker} {jc : List (Closed × List Record)}
    {jo : List Record} (g : RepG s fs w jc jo) :
    stRunO (allOps s jc jo) {} = some s.st ∧ idxRun (allOps s jc jo) [] = some s.log := by
  obtain ⟨stC, lC, g1, g2, g3, _⟩ := g.run
  constructor
  · rw [stRunO, allOps_map_r, stRun_append, g1.st]; exact g2
  · rw [allOps, idxRun_append, g1.idx]; exact g3

theorem RepG.tail_run {s : Store} {fs : Fs} {w : Worker} {jc : List (Closed × List Record)}
    {jo : List Record} (g : RepG s fs w jc jo) {hd : JOp} {tl : List JOp} {x : RState}
    (h : allOps s jc jo = hd :: tl) (hx : hd.r = .state x) :
    stRunO tl x = some s.st ∧ idxRun tl [] = some s.log := by
  obtain ⟨k1, k2⟩ := g.flat_run
  rw [h] at k1 k2
  rw [stRunO_cons, hx] at k1
  simp only [idxRun, hx, idxLogO] at k2
  exact ⟨k1, k2⟩

theorem RunG.snoc {s s3 : Store} {fs : Fs} {w : Worker} {jc jc3 : List (Closed × List Record)}
    {jo jo3 : List Record} (gr : RunG s jc jo) (g : RepG s fs w jc jo) {op : JOp}
    (hops : allOps s3 jc3 jo3 = allOps s jc jo ++ [op]) (hck : RecCheck op.r s.st s.log) :
    RunG s3 jc3 jo3 := by
  intro hd tl h x hx
  rw [hops] at h
  cases ha : allOps s jc jo with
  | nil =>
    rw [ha] at h
    simp only [List.nil_append, List.cons.injEq] at h
    rw [← h.2]; trivial
  | cons hd0 tl0 =>
    rw [ha] at h
    simp only [List.cons_append, List.cons.injEq] at h
    obtain ⟨e1, e2⟩ := h
    subst e1
    rw [← e2]
    obtain ⟨k1, k2⟩ := g.tail_run ha hx
    refine RunOK_append.mpr ⟨gr hd0 tl0 ha x hx, fun st' l' h1 h2 => ?_⟩
    rw [k1] at h1; rw [k2] at h2
    injection h1 with h1; injection h2 with h2
    subst h1; subst h2
    exact ⟨hck, fun _ _ _ _ => trivial⟩

theorem RepG.journal_C3 {s s3 : Store} {fs : Fs} {w : Worker} {r : Record}
    {jc : List (Closed × List Record)} {jo : List Record}
    (g : RepG s fs w jc jo) (hj : JInv s fs w) (hr : r.WF)
    (hoff : s3.openOffsets = s.openOffsets ++ [s.openEnd + (encRecord r).length])
    (hp : s3.pending = s.pending ++ encRecord r) (hc : s3.closed = s.closed)
    (hst : s.st.apply r = .ok s3.st)
    (hlog : idxLogO r s.openId ⟨s.openEnd, (encRecord r).length⟩ s.log = some s3.log) :
    RepG s3 fs w jc (jo ++ [r]) ∧
      allOps s3 jc (jo ++ [r]) = allOps s jc jo ++
        [⟨r, s.openId, ⟨s.openEnd, (encRecord r).length⟩⟩] := by
  have hne := hj.openBytes.ne_nil
  have e1 := Store.openId_of_snoc hne hoff
  have hb := chunkBytes_journal (s := s) (s3 := s3) fs w hne hoff hp
  have hend : s.openId + (encAll jo).length = s.openEnd := by
    have := g.openRecs.lastOff_eq
    simp only [Store.openEnd, Store.openId] at this ⊢
    omega
  have hops : allOps s3 jc (jo ++ [r]) = allOps s jc jo ++
      [⟨r, s.openId, ⟨s.openEnd, (encRecord r).length⟩⟩] := by
    simp only [allOps, e1, chunkOps_snoc, hend, List.append_assoc]
  refine ⟨⟨by rw [hc]; exact g.closedEq, ?_, ?_, ?_⟩, hops⟩
  · intro p hp'
    have hlt := hj.closed_lt (g.mem_closed hp')
    have hne' : ¬ s.openId = p.1.id := by omega
    rw [hb, if_neg hne', List.append_nil]
    exact g.closedRecs p hp'
  · rw [hoff, e1, hb, if_pos rfl]
    exact g.openRecs.snoc hr
  · obtain ⟨stC, lC, g1, g2, g3, g4⟩ := g.run
    refine ⟨stC, lC, g1, ?_, ?_, ?_⟩
    · rw [stRun_append, g2]
      simp only [Option.bind_some, stRun, hst]
    · rw [e1, chunkOps_snoc, idxRun_append, g3]
      simp only [Option.bind_some, idxRun, hend, hlog]
    · intro hne2
      obtain ⟨tl, htl⟩ := g4 hne2
      exact ⟨tl ++ [r], by rw [htl]; rfl⟩

theorem Rep.journal {s s3 : Store} {fs : Fs} {w : Worker} {r : Record} {rl rl' : RefLog}
    (h : Rep s fs w rl)
    (hj : JInv s fs w) (hr : r.WF)
    (hoff : s3.openOffsets = s.openOffsets ++ [s.openEnd + (encRecord r).length])
    (hp : s3.pending = s.pending ++ encRecord r) (hc : s3.closed = s.closed)
    (hst : s.st.apply r = .ok s3.st)
    (hlog : idxLogO r s.openId ⟨s.openEnd, (encRecord r).length⟩ s.log = some s3.log)
    (hpay : ∀ e ∈ s3.log,
      (e ∈ s.log ∧ ∀ p, (e.2.id, p) ∈ rl.entries → (e.2.id, p) ∈ rl'.entries) ∨
      (e.2.off = s.openEnd ∧ e.2.chunk = s.openId ∧ ∃ p, r = .append e.2.id p))
    (hnew : ∀ id p, r = .append id p → (id, p) ∈ rl'.entries)
    (hck : RecCheck r s.st s.log) :
    Rep s3 fs w rl' := by
  obtain ⟨jc, jo, g, gp, gr⟩ := h
  obtain ⟨g3, hops⟩ := g.journal_C3 hj hr hoff hp hc hst hlog
  refine ⟨jc, jo ++ [r], g3, fun e he p hop => ?_, gr.snoc g hops hck⟩
  rw [hops] at hop
  rcases List.mem_append.mp hop with h1 | h1
  · rcases hpay e he with ⟨k1, k2⟩ | ⟨k1, _, _⟩
    · exact k2 p (gp e k1 p h1)
    · have := g.ops_off_lt hj _ h1
      simp only [opAt] at this
      omega
  · simp only [List.mem_singleton, opAt, JOp.mk.injEq] at h1
    exact hnew _ _ h1.1.symm


theorem RepG.rotate_C3 {s : Store} {fs : Fs} {w : Worker}
    {jc : List (Closed × List Record)} {jo : List Record}
    (g : RepG s fs w jc jo) (hj : JInv s fs w)
    (hbelow : ∀ e ∈ s.log, optLe (some e.2.id) s.st.last = true) :
    RepG s.rotated (effFs (rotateEffs s) fs) (w.push (effQ (rotateEffs s)))
      (jc ++ [(⟨s.openOffsets, s.st⟩, jo)]) [.state s.st] ∧
    allOps s.rotated (jc ++ [(⟨s.openOffsets, s.st⟩, jo)]) [.state s.st] = allOps s jc jo ++
      [⟨.state s.st, s.openEnd, ⟨s.openEnd, (encRecord (.state s.st)).length⟩⟩] := by
  have hb1 := fun id hid => chunkBytes_rotated hj (id := id) hid
  have hb2 := chunkBytes_rotated_new hj
  have hlt := hj.openId_lt
  have hops : allOps s.rotated (jc ++ [(⟨s.openOffsets, s.st⟩, jo)]) [.state s.st] = allOps s jc jo ++
      [⟨.state s.st, s.openEnd, ⟨s.openEnd, (encRecord (.state s.st)).length⟩⟩] := by
    simp only [allOps, flatOps_append, flatOps, List.append_nil, Store.rotated_openId, chunkOps, opsFrom,
      List.append_assoc]
    rfl
  refine ⟨⟨?_, ?_, ?_, ?_⟩, hops⟩
  · show _ = s.closed ++ [_]
    rw [List.map_append, g.closedEq]; rfl
  · intro p hp
    rcases List.mem_append.mp hp with h1 | h1
    · have := hj.closed_lt (g.mem_closed h1)
      rw [hb1 _ (by omega)]
      exact g.closedRecs p h1
    · simp only [List.mem_singleton] at h1
      subst h1
      show ChunkRecs s.openOffsets jo (chunkBytes s.rotated _ _ s.openId)
      rw [hb1 _ (by omega)]
      exact g.openRecs
  · show ChunkRecs [s.openEnd, _] _ (chunkBytes s.rotated _ _ s.rotated.openId)
    rw [Store.rotated_openId, hb2]
    exact ChunkRecs.fresh s.openEnd hj.stWF
  · obtain ⟨stC, lC, g1, g2, g3, g4⟩ := g.run
    refine ⟨s.st, s.log, g1.snoc g2 g3 rfl hbelow g4, ?_, ?_, fun _ => ⟨[], rfl⟩⟩
    · show stRun _ s.st = some s.st
      simp [stRun, RState.apply]
    · show idxRun _ s.log = some s.log
      simp [chunkOps, opsFrom, idxRun, idxLogO]

theorem Rep.rotate {s : Store} {fs : Fs} {w : Worker} {r : RefLog} (h : Rep s fs w r)
    (hj : JInv s fs w) (hbelow : ∀ e ∈ s.log, optLe (some e.2.id) s.st.last = true) :
    Rep s.rotated (effFs (rotateEffs s) fs) (w.push (effQ (rotateEffs s))) r := by
  obtain ⟨jc, jo, g, gp, gr⟩ := h
  obtain ⟨g', hops⟩ := g.rotate_C3 hj hbelow
  refine ⟨_, _, g', gp.mono rfl fun op hop happ => ?_,
    gr.snoc g hops (show RecCheck (Record.state s.st) s.st s.log from rfl)⟩
  rw [hops] at hop
  rcases List.mem_append.mp hop with h1 | h1
  · exact h1
  · obtain ⟨id, p, hid⟩ := happ
    rw [List.mem_singleton.mp h1] at hid
    cases hid

theorem Rep.tryCloseFull {s s' : Store} {fs : Fs} {w : Worker} {fsHas : Nat → Bool} {r : RefLog}
    {effs : List Eff} (h : Rep s fs w r) (hj : JInv s fs w)
    (hbelow : ∀ e ∈ s.log, optLe (some e.2.id) s.st.last = true)
    (heq : s.tryCloseFull fsHas = (.ok (), s', effs)) :
    Rep s' (effFs effs fs) (w.push (effQ effs)) r := by
  rcases s.tryCloseFull_outcomes fsHas with ⟨_, e⟩ | ⟨_, _, e⟩ | ⟨_, _, e⟩ <;> rw [e] at heq <;> cases heq
  · simpa [effFs, effQ] using h
  · exact h.rotate hj hbelow

theorem allOps_head_state {s : Store} {fs : Fs} {w : Worker} {jc : List (Closed × List Record)}
    {jo : List Record} (g : RepG s fs w jc jo) :
    ∃ hd tl x, allOps s jc jo = hd :: tl ∧ hd.r = .state x := by
  cases jc with
  | nil =>
    obtain ⟨x, tl, hx⟩ := g.openRecs.head
    subst hx
    exact ⟨_, _, x, by simp only [allOps, flatOps, chunkOps, opsFrom, List.nil_append]; rfl, rfl⟩
  | cons q rest =>
    obtain ⟨c, rs⟩ := q
    obtain ⟨x, tl, hx⟩ := g.heads (c, rs) List.mem_cons_self
    simp only at hx
    subst hx
    exact ⟨_, _, x, by simp only [allOps, flatOps, chunkOps, opsFrom, List.cons_append]; rfl, rfl⟩

theorem RepG.first_chunk_C3b {s : Store} {fs : Fs} {w : Worker} {c : Closed} {rs : List Record}
    {jc : List (Closed × List Record)} {jo : List Record} (g : RepG s fs w ((c, rs) :: jc) jo) :
    ∃ lD, idxRun (chunkOps c.id rs) [] = some lD ∧ ∀ e ∈ lD, optLe (some e.2.id) c.state.last = true := by
  obtain ⟨stC, lC, g1, _, _, _⟩ := g.run
  obtain ⟨st1, l1, _, h2, h3, h4, _, _⟩ := g1
  exact ⟨l1, h2, fun e he => by rw [h3]; exact h4 e he⟩

/-- **One closed chunk leaves the front of the chunk table**: every index entry of the store is above the
chunk's closing `last`. -/
theorem RepG.pop_one_C3b {s s2 : Store} {fs : Fs} {w : Worker} {c : Closed}
    {jc : List (Closed × List Record)} {jo : List Record} (g : RepG s fs w jc jo)
    (hcl : s.closed = c :: s2.closed)
    (habove : ∀ e ∈ s.log, optLt c.state.last (some e.2.id) = true)
    (h1 : s2.st = s.st) (h2 : s2.log = s.log) (h3 : s2.openOffsets = s.openOffsets)
    (h4 : s2.pending = s.pending) :
    ∃ rs jc', jc = (c, rs) :: jc' ∧ RepG s2 fs w jc' jo ∧
      allOps s jc jo = chunkOps c.id rs ++ allOps s2 jc' jo := by
  have hce := g.closedEq
  rw [hcl] at hce
  cases jc with
  | nil => cases hce
  | cons p jc' =>
    obtain ⟨c0, rs⟩ := p
    simp only [List.map_cons, List.cons.injEq] at hce
    obtain ⟨hc0, hce'⟩ := hce
    subst hc0
    obtain ⟨stC, lC, g1, g2, g3, g4⟩ := g.run
    have hheads' : HeadsState jc' := fun q hq => g.heads q (List.mem_cons_of_mem _ hq)
    obtain ⟨stC', lC', k1, k2, k3, k4⟩ := g1.drop_one g2 g3 hheads' g.openRecs.head habove
    have e1 : s2.openId = s.openId := by simp [Store.openId, h3]
    have hb : ∀ id, chunkBytes s2 fs w id = chunkBytes s fs w id :=
      fun id => chunkBytes_congr fs w id h3 h4
    refine ⟨rs, jc', rfl, ⟨hce', ?_, by rw [h3, e1, hb]; exact g.openRecs,
      ⟨stC', lC', k1, by rw [h1]; exact k2, by rw [e1, h2]; exact k3, ?_⟩⟩, ?_⟩
    · intro p hp
      rw [hb]
      exact g.closedRecs p (List.mem_cons_of_mem _ hp)
    · intro hne
      rw [k4 hne]
      exact g4 (by simp)
    · simp only [allOps, flatOps, e1, List.append_assoc]

theorem Rep.pop_one_C3b {s s2 : Store} {fs : Fs} {w : Worker} {r : RefLog} {c : Closed}
    (h : Rep s fs w r) (hcl : s.closed = c :: s2.closed)
    (habove : ∀ e ∈ s.log, optLt c.state.last (some e.2.id) = true)
    (h1 : s2.st = s.st) (h2 : s2.log = s.log) (h3 : s2.openOffsets = s.openOffsets)
    (h4 : s2.pending = s.pending) : Rep s2 fs w r := by
  obtain ⟨jc, jo, g, gp, gr⟩ := h
  obtain ⟨rs, jc', hjc, g2, hsplit⟩ := g.pop_one_C3b hcl habove h1 h2 h3 h4
  subst hjc
  refine ⟨jc', jo, g2, ?_, ?_⟩
  · apply gp.mono h2
    intro op hop _
    rw [hsplit]
    exact List.mem_append_right _ hop
  · intro hd tl hall x hx
    -- the dropped chunk starts with a `State` record
    obtain ⟨x0, tl0, hx0⟩ := g.heads (c, rs) List.mem_cons_self
    simp only at hx0
    subst hx0
    have hD : chunkOps c.id (.state x0 :: tl0)
        = ⟨.state x0, c.id, ⟨c.id, (encRecord (.state x0)).length⟩⟩ ::
            opsFrom c.id (c.id + (encRecord (.state x0)).length) tl0 := rfl
    rw [hD, hall, List.cons_append] at hsplit
    -- `RunG` for the shorter journal: the checks held along the longer one, from the map `lA` reached after
    -- the dropped chunk; `RunOK.mono` brings them down to the empty map
    have hok := gr _ _ hsplit x0 rfl
    obtain ⟨k1, k2⟩ := g.tail_run hsplit rfl
    obtain ⟨stA, ka1, ka2⟩ := stRunO_prefix k1
    obtain ⟨lA, kb1, kb2⟩ := idxRun_prefix k2
    have hB := (RunOK_append.mp hok).2 stA lA ka1 kb1
    obtain ⟨_, hB2⟩ := hB
    have hB3 := hB2 x lA (by rw [hx]; rfl) (by rw [hx]; rfl)
    exact hB3.mono SortedLog.nil (fun e he => by cases he)

/-- The same for a prefix `pre` of the chunk table, one chunk at a time. -/
theorem Rep.pop_front {fs : Fs} {w : Worker} {r : RefLog} : ∀ (pre : List Closed) {s s2 : Store}, Rep s fs w r →
    s.closed = pre ++ s2.closed →
    (∀ c ∈ pre, ∀ e ∈ s.log, optLt c.state.last (some e.2.id) = true) →
    s2.st = s.st → s2.log = s.log → s2.openOffsets = s.openOffsets → s2.pending = s.pending → Rep s2 fs w r
  | [], _, _, h, hcl, _, h1, h2, h3, h4 =>
    h.transport h1 h2 h3 hcl.symm (fun id => chunkBytes_congr fs w id h3 h4)
  | c :: pre, s, s2, h, hcl, habove, h1, h2, h3, h4 =>
    Rep.pop_front pre (s := { s with closed := pre ++ s2.closed })
      (h.pop_one_C3b (s2 := { s with closed := pre ++ s2.closed }) hcl (habove c List.mem_cons_self)
        rfl rfl rfl rfl)
      rfl (fun c' hc' => habove c' (List.mem_cons_of_mem _ hc')) h1 h2 h3 h4

theorem Rep.pop {s s2 : Store} {fs : Fs} {w : Worker} {r : RefLog} (h : Rep s fs w r) (upto : LogId)
    (habove : ∀ e ∈ s.log, optLt (some upto) (some e.2.id) = true)
    (h1 : s2.st = s.st) (h2 : s2.log = s.log) (h3 : s2.openOffsets = s.openOffsets)
    (h4 : s2.pending = s.pending) (h5 : s2.closed = (popObsolete upto s.closed).2) :
    Rep s2 fs w r := by
  obtain ⟨pre, hpre, _, hall⟩ := popObsolete_pre upto s.closed
  exact Rep.pop_front pre h (h5 ▸ hpre)
    (fun c hc e he => optLt_of_le_of_lt (optLe_of_not_lt (hall c hc)) (habove e he)) h1 h2 h3 h4

theorem encAll_inj_C3b {a b : List Record} (ha : AllWF a) (hb : AllWF b) (h : encAll a = encAll b) :
    a = b := by
  have h1 := parse_encAll' ha
  have h2 := parse_encAll' hb
  rw [h] at h1
  rw [h1] at h2
  have h3 : (sized a).map (·.1) = (sized b).map (·.1) := by
    have := congrArg (fun x => x.1) h2
    simp only at this
    rw [this]
  rw [sized_map_fst, sized_map_fst] at h3
  exact h3

theorem RepC.state_of_mem_C5b : ∀ (jl : List (Closed × List Record)) (st st' : RState) (l l' : Log),
    RepC jl st l st' l' → ∀ p ∈ jl, ∃ st0, stRun p.2 st0 = some p.1.state := by
  intro jl
  induction jl with
  | nil => intro _ _ _ _ _ p hp; cases hp
  | cons q rest ih =>
    intro st st' l l' h p hp
    obtain ⟨c, rs⟩ := q
    obtain ⟨st1, l1, g1, _, g3, _, _, g6⟩ := h
    rcases List.mem_cons.mp hp with e | e
    · subst e; exact ⟨st, by rw [g3]; exact g1⟩
    · exact ih _ _ _ _ g6 p e

theorem chunk_determined_C5b {p q : Closed × List Record} {B : Bytes}
    (hp : ChunkRecs p.1.offsets p.2 B) (hq : ChunkRecs q.1.offsets q.2 B) (hid : p.1.id = q.1.id)
    {a b : RState} (hpa : stRun p.2 a = some p.1.state) (hqb : stRun q.2 b = some q.1.state) : p = q := by
  obtain ⟨c1, r1⟩ := p
  obtain ⟨c2, r2⟩ := q
  simp only at hp hq hid hpa hqb
  have hr : r1 = r2 := encAll_inj_C3b hp.wf hq.wf (by rw [← hp.data, ← hq.data])
  subst hr
  have hoff : c1.offsets = c2.offsets := by
    rw [← hp.offsets, ← hq.offsets]
    simp only [Closed.id] at hid
    rw [hid]
  obtain ⟨x, tl, e⟩ := hp.head
  rw [e, stRun_state_head x tl a b, ← e, hqb] at hpa
  injection hpa with hst
  obtain ⟨o1, s1⟩ := c1
  obtain ⟨o2, s2⟩ := c2
  simp only at hoff hst
  subst hoff; subst hst
  rfl

theorem chunks_determined_C5b {Bf : Nat → Bytes} : ∀ (la lb : List (Closed × List Record)),
    la.map (·.1.id) = lb.map (·.1.id) →
    (∀ p ∈ la, ChunkRecs p.1.offsets p.2 (Bf p.1.id) ∧ ∃ a, stRun p.2 a = some p.1.state) →
    (∀ p ∈ lb, ChunkRecs p.1.offsets p.2 (Bf p.1.id) ∧ ∃ a, stRun p.2 a = some p.1.state) → la = lb := by
  intro la
  induction la with
  | nil =>
    intro lb h _ _
    cases lb with
    | nil => rfl
    | cons q lb => cases h
  | cons p la ih =>
    intro lb h ha hb
    cases lb with
    | nil => cases h
    | cons q lb =>
      simp only [List.map_cons, List.cons.injEq] at h
      obtain ⟨k1, ⟨a, k2⟩⟩ := ha p List.mem_cons_self
      obtain ⟨m1, ⟨b, m2⟩⟩ := hb q List.mem_cons_self
      rw [← h.1] at m1
      have := chunk_determined_C5b k1 m1 h.1 k2 m2
      subst this
      rw [ih lb h.2 (fun x hx => ha x (List.mem_cons_of_mem _ hx))
        (fun x hx => hb x (List.mem_cons_of_mem _ hx))]

theorem RepG.unique_C3b {s : Store} {fs : Fs} {w : Worker} {jc jc' : List (Closed × List Record)}
    {jo jo' : List Record} (g : RepG s fs w jc jo) (g' : RepG s fs w jc' jo') : jc = jc' ∧ jo = jo' := by
  obtain ⟨_, _, r, _⟩ := g.run
  obtain ⟨_, _, r', _⟩ := g'.run
  refine ⟨chunks_determined_C5b (Bf := chunkBytes s fs w) jc jc' ?_
      (fun p hp => ⟨g.closedRecs p hp, RepC.state_of_mem_C5b _ _ _ _ _ r p hp⟩)
      (fun p hp => ⟨g'.closedRecs p hp, RepC.state_of_mem_C5b _ _ _ _ _ r' p hp⟩),
    encAll_inj_C3b g.openRecs.wf g'.openRecs.wf (by rw [← g.openRecs.data, ← g'.openRecs.data])⟩
  have h1 : jc.map (·.1.id) = (jc.map (·.1)).map Closed.id := by rw [List.map_map]; rfl
  have h2 : jc'.map (·.1.id) = (jc'.map (·.1)).map Closed.id := by rw [List.map_map]; rfl
  rw [h1, h2, g.closedEq, g'.closedEq]

structure RInv (s : Store) (fs : Fs) (w : Worker) (r : RefLog) : Prop where
  j : JInv s fs w
  abs : Abs s r
  rep : Rep s fs w r

theorem idxLogO_of_small {rec : Record} (hr : rec.small) (chunk : Nat) (seg : Seg) (l : Log) :
    idxLogO rec chunk seg l = some (idxLog rec chunk seg l) := by
  cases rec with
  | saveVote v => rfl
  | commit id => rfl
  | state x => rfl
  | append id p => rfl
  | truncateAfter o =>
    have := nextIndexChecked_eq (o := o) hr
    simp [idxLogO, idxLog, this]
  | purgeUpto id =>
    have := nextIndexChecked_eq (o := some id) hr
    simp [idxLogO, idxLog, this, nextIndex]

theorem RInv.applied {s : Store} {fs : Fs} {w : Worker} {r r' : RefLog} {rec : Record}
    (h : RInv s fs w r) (ok : StepOK s r r' rec) (hwf : rec.WF) :
    RInv (s.applied rec r'.state) fs w r' :=
  ⟨h.j.appliedRec hwf ok.hst, h.abs.applied ok,
    h.rep.journal h.j hwf rfl rfl rfl ok.hst (idxLogO_of_small ok.small _ _ _)
      (ok.pay s.openId ⟨s.openEnd, (encRecord rec).length⟩) ok.newEntry ok.check⟩

theorem RInv.rotated {s : Store} {fs : Fs} {w : Worker} {r : RefLog} (h : RInv s fs w r) :
    RInv s.rotated (effFs (rotateEffs s) fs) (w.push (effQ (rotateEffs s))) r :=
  ⟨h.j.rotate, h.abs.rotated, h.rep.rotate h.j h.abs.log_below⟩

end RaftLog
