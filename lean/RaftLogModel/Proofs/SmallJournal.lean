/-
C16 for recovery: every chunk file — live, scheduled for removal or already unlinked — holds a prefix of the
encoding of SMALL well-formed records, which is what `open` needs not to panic (`FsSmall`, the hypothesis of
`c05_open_no_panic_partial`). `SmallJ s fs w` says it of `chunkBytes` (file ++ in flight ++ pending). No
reference log is involved: a `PanicFree` store journals small records only, so `SmallJ` rides on the journal
invariant and `PanicFree` along the caller's moves (`SmallJ.callerInv`).
-/
import RaftLogModel.Proofs.NoPanicAll
namespace RaftLog

def AllSmallSJ (rs : List Record) : Prop := ∀ r ∈ rs, RecSmall r

def SmallJ (s : Store) (fs : Fs) (w : Worker) : Prop :=
  ∀ id ∈ Fs.ids fs, ∃ rs, AllWF rs ∧ AllSmallSJ rs ∧ chunkBytes s fs w id = encAll rs

theorem SmallJ.transport {s s' : Store} {fs fs' : Fs} {w w' : Worker} (h : SmallJ s fs w)
    (hids : ∀ id ∈ Fs.ids fs', id ∈ Fs.ids fs)
    (hb : ∀ id, chunkBytes s' fs' w' id = chunkBytes s fs w id) : SmallJ s' fs' w' := by
  intro id hid
  obtain ⟨rs, h1, h2, h3⟩ := h id (hids id hid)
  exact ⟨rs, h1, h2, by rw [hb, h3]⟩

theorem SmallJ.applied {s : Store} {fs : Fs} {w : Worker} {rec : Record} {st' : RState}
    (h : SmallJ s fs w) (hne : s.openOffsets ≠ []) (hwf : rec.WF) (hsm : RecSmall rec) :
    SmallJ (s.applied rec st') fs w := by
  intro id hid
  obtain ⟨rs, h1, h2, h3⟩ := h id hid
  rw [chunkBytes_applied fs w hne id, h3]
  by_cases e : s.openId = id
  · exact ⟨rs ++ [rec], List.forall_mem_append.2 ⟨h1, List.forall_mem_singleton.2 hwf⟩,
      List.forall_mem_append.2 ⟨h2, List.forall_mem_singleton.2 hsm⟩,
      by rw [if_pos e, encAll_append]; simp⟩
  · exact ⟨rs, h1, h2, by rw [if_neg e]; simp⟩

theorem SmallJ.rotated {s : Store} {fs : Fs} {w : Worker} (hj : JInv s fs w) (h : SmallJ s fs w)
    (hst : StSmall s.st) :
    SmallJ s.rotated (effFs (rotateEffs s) fs) (w.push (effQ (rotateEffs s))) := by
  intro id hid
  by_cases e : id = s.openEnd
  · subst e
    refine ⟨[.state s.st], List.forall_mem_singleton.2 hj.stWF,
      List.forall_mem_singleton.2 ⟨trivial, fun y hy => by injection hy with hy; exact hy ▸ hst⟩, ?_⟩
    rw [chunkBytes_rotated_new hj]
    simp
  · have hid' : id ∈ Fs.ids fs := by
      exact ((Fs.ids_rotate s fs id).1 hid).resolve_right e
    obtain ⟨rs, h1, h2, h3⟩ := h id hid'
    exact ⟨rs, h1, h2, by rw [chunkBytes_rotated hj e, h3]⟩

/-- A rotation starts a chunk with the head record `state s.st`, which is small because the state is:
that is where `PanicFree` is needed beside the journal invariant. -/
theorem SmallJ.callerInv :
    CallerInv (fun s fs w => (JInv s fs w ∧ PanicFree s) ∧ SmallJ s fs w) fun _ r => r.WF ∧ RecSmall r :=
  PanicFree.callerInv.and
    (fun hj hS hg _ => hS.applied hj.1.openBytes.ne_nil hg.1 hg.2)
    (fun hj hS _ => hS.rotated hj.1 hj.2.st)
    (fun _ _ hg hn => absurd hn (applyIndex_ne_none hg.2.1 _ _))
    (fun _ _ hS => hS.transport (fun _ h => h) fun _ => rfl)

/-- A call with well-formed arguments journals well-formed small records only: a `PanicFree` store takes the
ids it journals on its own from small ones (`CallRec.small`), the others are refused at u64::MAX. -/
theorem SmallJ.call_wf {s : Store} {fs : Fs} {w : Worker} (fsHas : Nat → Bool) {op : Op} (hop : op.WF)
    (h : (JInv s fs w ∧ PanicFree s) ∧ SmallJ s fs w) :
    (JInv (s.call fsHas op).2.1 (effFs (s.call fsHas op).2.2 fs) (w.push (effQ (s.call fsHas op).2.2)) ∧
      PanicFree (s.call fsHas op).2.1) ∧
    SmallJ (s.call fsHas op).2.1 (effFs (s.call fsHas op).2.2 fs) (w.push (effQ (s.call fsHas op).2.2)) :=
  SmallJ.callerInv.call fsHas op (fun h hr => ⟨hr.wf h.1.1 hop, hr.small h.1.2 hop.indexU64⟩)
    (fun es e _ x hx hU => by
      subst e
      exact ⟨hop x hx, .append _ (smallId_of_lt (hop x hx).1.2 hU)⟩) h

theorem call_SJ_D12 {s : Store} {fs : Fs} {w : Worker} (fsHas : Nat → Bool) (op : Op)
    (h : JInv s fs w) (hS : SmallJ s fs w) (hp : PanicFree s) (hop : op.WF) :
    SmallJ (s.call fsHas op).2.1 (effFs (s.call fsHas op).2.2 fs)
      (w.push (effQ (s.call fsHas op).2.2)) :=
  (SmallJ.call_wf fsHas hop ⟨⟨h, hp⟩, hS⟩).2

end RaftLog
