/-
System level. A property of the worker kept by its steps, by the caller's effects and by `settle` holds after every
step that keeps the store (`Sys.step_worker`), and while a store is open through `drop` and `open` as well
(`Sys.step_worker_inv`; instance `SysWF`). A property of effect lists closed under what the store's write path does
(`EffsClosed`) holds of the effects of every call; instance `EffsCov`: every call keeps the unsynced files covered
(`SysCovered`, kept by calls, flushes and worker steps). Also `openStore_worker`: `open` starts the worker with
one file.
-/
import RaftLogModel.Proofs.WorkerCaller
import RaftLogModel.Proofs.IdleRun
import RaftLogModel.Proofs.CallerMoves
import RaftLogModel.Proofs.Recover
namespace RaftLog

theorem openStore_worker {cfg : Cfg} {fs fs' : Fs} {s : Store} {w : Worker} {evs : List Ev}
    (h : openStore cfg fs = (.ok (s, w), fs', evs)) : ∃ e, w = { files := [e] } :=
  let ⟨_, _, _, _, _, _, hw, _⟩ := openStore_ok_shape h
  ⟨_, hw⟩

theorem Sys.open_projC4S (y : Sys) :
    (y.open.2.1.worker = y.worker ∧ y.open.2.1.store = y.store ∧ y.open.2.1.locked = y.locked) ∨
    (y.locked = false ∧ ∃ s e, y.open.2.1.worker = { files := [e] } ∧ y.open.2.1.store = some s ∧
      y.open.2.1.locked = true) := by
  rcases y.open_cases with ⟨_, e⟩ | ⟨hl, s, w, _, _, ho, e⟩ | ⟨_, _, _, _, _, e⟩ | ⟨_, _, _, _, _, e⟩ <;> rw [e]
  · exact .inl ⟨rfl, rfl, rfl⟩
  · obtain ⟨fe, rfl⟩ := openStore_worker ho
    exact .inr ⟨hl, s, fe, rfl, rfl, rfl⟩
  · exact .inl ⟨rfl, rfl, rfl⟩
  · exact .inl ⟨rfl, rfl, rfl⟩

theorem applyEffs_pc (effs : List Eff) (fs : Fs) (w : Worker) (evs : List Ev) :
    (applyEffs effs fs w evs).2.2.1.pc = w.pc := by
  obtain ⟨q, e, _⟩ := applyEffs_worker effs fs w evs
  rw [e]

theorem Worker.TodoOK.of_pc_eq {w w' : Worker} (h : w.TodoOK) (hp : w'.pc = w.pc) : w'.TodoOK :=
  fun todo b t hpc => h todo b t (hp ▸ hpc)

theorem Worker.TodoOK.settle {w : Worker} (h : w.TodoOK) : w.settle.TodoOK := by
  rcases w.settle_cases with ⟨r, q, h1, h2, he⟩ | ⟨_, he⟩ <;> rw [he]
  · exact .of_not_writing (by simp)
  · exact h

/-- A hypothesis of the worker-level C04/C14 theorems, true of every reachable state (`SysWF.run`). -/
def SysWF (y : Sys) : Prop := y.store ≠ none → y.worker.WF ∧ y.worker.TodoOK

theorem WCtx.runQuiet_todoOK (n : Nat) (c : WCtx) (h : c.w.TodoOK) : (WCtx.runQuiet n c).w.TodoOK :=
  WCtx.runQuiet_induct (P := fun c => c.w.TodoOK) (fun c hc => c.step_todoOK .ok hc) n c h

def Step.noOpen : Step → Bool
  | .openWith _ => false
  | _ => true

theorem Sys.step_no_store {y : Sys} (h : y.store = none) {st : Step} (hst : st.noOpen = true) :
    y.step st = y := by
  cases st with
  | call op => simp [Sys.step, Sys.call, h]
  | flush cb => simp [Sys.step, Sys.flush, h]
  | worker out => simp [Sys.step, Sys.workerStep, h]
  | workerIdle => simp [Sys.step, Sys.workerIdle, h]
  | drain => simp [Sys.step, Sys.drain, h]
  | drop => simp [Sys.step, Sys.dropStore, h]
  | openWith cfg => cases hst

/-- With or without a store. `hok`: `workerIdle` is the all-ok case of the worker step. -/
theorem Sys.step_worker {I : Worker → Prop} {C : Outcome → Prop} (hok : C .ok)
    (hstep : ∀ (c : WCtx) (out : Outcome), C out → I c.w → I (c.step out).w)
    (hsend : ∀ effs fs w evs, I w → I (applyEffs effs fs w evs).2.2.1.settle)
    {y : Sys} (h : I y.worker) {st : Step} (hst : st.keepsStore = true)
    (hC : ∀ out, st = .worker out → C out) : I (y.step st).worker := by
  cases hs : y.store with
  | none => rw [Sys.step_no_store hs (by cases st <;> first | rfl | cases hst)]; exact h
  | some s =>
    cases st with
    | call op => show I (y.call op).2.1.worker; rw [(y.call_some op hs).1]; exact hsend _ _ _ _ h
    | flush cb => show I (y.flush cb).2.1.worker; rw [(y.flush_some cb hs).1]; exact hsend _ _ _ _ h
    | worker out => rw [Sys.step_eq_workerStep, y.workerStep_eq out hs]; exact hstep _ out (hC out rfl) h
    | workerIdle =>
      rw [y.step_workerIdle_eq hs]
      exact WCtx.runQuiet_induct (P := fun c => I c.w) (fun c => hstep c .ok hok) _ _ h
    | drain => rw [Sys.step_eq_drain, y.drain_eq hs]; exact h
    | drop => cases hst
    | openWith _ => cases hst

theorem Sys.step_worker_inv {I : Worker → Prop} {C : Outcome → Prop} (hok : C .ok)
    (hstep : ∀ (c : WCtx) (out : Outcome), C out → I c.w → I (c.step out).w)
    (heffs : ∀ effs fs w evs, I w → I (applyEffs effs fs w evs).2.2.1)
    (hsettle : ∀ w, I w → I w.settle) (hopen : ∀ e : FileEnt, I { files := [e] })
    {y : Sys} (h : y.store ≠ none → I y.worker) (st : Step) (hst : ∀ out, st = .worker out → C out) :
    (y.step st).store ≠ none → I (y.step st).worker := by
  cases st with
  | drop =>
    cases hs : y.store with
    | none => rw [Sys.step_no_store hs rfl]; exact h
    | some s => simp only [Sys.step, y.dropStore_eq hs]; exact fun h0 => absurd rfl h0
  | openWith cfg =>
    rcases Sys.open_projC4S { y with cfg := cfg } with ⟨e1, e2, _⟩ | ⟨_, s, e, hw, _, _⟩
    · exact e1 ▸ e2 ▸ h
    · exact hw ▸ fun _ => hopen e
  | _ =>
    intro hne
    refine Sys.step_worker hok hstep (fun _ _ _ _ hI => hsettle _ (heffs _ _ _ _ hI)) (h fun h0 => hne ?_) rfl hst
    rw [Sys.step_no_store h0 rfl]; exact h0

theorem SysWF.step {y : Sys} (h : SysWF y) (st : Step) : SysWF (y.step st) :=
  Sys.step_worker_inv (I := fun w => w.WF ∧ w.TodoOK) (C := fun _ => True) trivial
    (fun c out _ h => ⟨c.step_wf out h.1, c.step_todoOK out h.2⟩)
    (fun _ _ _ _ h => ⟨applyEffs_wf _ _ _ _ h.1, h.2.of_pc_eq (applyEffs_pc _ _ _ _)⟩)
    (fun _ h => ⟨h.1.settle, h.2.settle⟩)
    (fun e => ⟨by simp [Worker.WF], .of_not_writing (by simp)⟩) h st fun _ _ => trivial

theorem SysWF.fresh (cfg : Cfg) : SysWF (Sys.fresh cfg) := by
  have : SysWF ({ cfg := cfg } : Sys) := fun h => absurd rfl h
  exact this.step (.openWith cfg)

theorem SysWF.run {y : Sys} (h : SysWF y) (steps : List Step) : SysWF (y.run steps) :=
  Sys.run_induct (C := fun _ => True) (fun _ st _ h => h.step st) h fun _ _ => trivial

def EffsCov (effs : List Eff) : Prop :=
  ∀ fs (w : Worker) evs, w.pc ≠ .dead → CoveredFW fs w →
    (applyEffs effs fs w evs).1 = true ∧
    CoveredFW (applyEffs effs fs w evs).2.1 (applyEffs effs fs w evs).2.2.1

theorem EffsCov.nil : EffsCov [] := fun _ _ _ _ hc => ⟨rfl, hc⟩

theorem EffsCov.append {a b : List Eff} (ha : EffsCov a) (hb : EffsCov b) : EffsCov (a ++ b) := by
  intro fs w evs hp hc
  obtain ⟨_, a2, a3⟩ := applyEffs_live a fs w evs hp
  obtain ⟨_, b2, b3⟩ := applyEffs_live b (effFs a fs) (w.push (effQ a)) evs hp
  have h2 := (ha fs w evs hp hc).2
  rw [a2, a3] at h2
  have h4 := (hb _ (w.push (effQ a)) evs hp h2).2
  rw [b2, b3, Worker.push_push, ← effFs_append, ← effQ_append] at h4
  exact applyEffs_covered evs hp h4

theorem EffsCov.tryCloseFull (s : Store) (fsHas : Nat → Bool) : EffsCov (s.tryCloseFull fsHas).2.2 :=
  fun fs w evs hp hc => tryCloseFull_covered s fsHas fs w evs hp hc

/-- The store's write path builds its effects from `[]`, the effects of `tryCloseFull`, and `++`. -/
structure EffsClosed (P : List Eff → Prop) : Prop where
  nil : P []
  append : ∀ {a b : List Eff}, P a → P b → P (a ++ b)
  tryCloseFull : ∀ (s : Store) (fsHas : Nat → Bool), P (s.tryCloseFull fsHas).2.2

/-- The caller's moves issue the effects of `tryCloseFull` and nothing else. -/
theorem EffsClosed.moves {P : List Eff → Prop} (hP : EffsClosed P) :
    Moves (fun _ e => P e) fun _ _ => True := by
  refine ⟨fun {s e r st'} c _ h _ _ => hP.append h ?_, fun {s e r st'} c _ h _ _ hf => hP.append h ?_,
    fun h _ _ => h⟩
  -- `EffsClosed.tryCloseFull` is about the model function: `fsHas := fun _ => false` forces its rotating branch,
  -- `fun _ => true` below its failing one
  · have := hP.tryCloseFull (s.appliedAt c r st') fun _ => false
    rcases (s.appliedAt c r st').tryCloseFull_outcomes fun _ => false with ⟨hf, e⟩ | ⟨_, he, _⟩ | ⟨hf, _, e⟩
    · rw [Store.closeFull_of_not_full hf]; exact hP.nil
    · cases he
    · rw [Store.closeFull_of_full hf]; rwa [e] at this
  · have := hP.tryCloseFull (s.appliedAt c r st') fun _ => true
    rcases (s.appliedAt c r st').tryCloseFull_outcomes fun _ => true with ⟨hf', _⟩ | ⟨_, _, e⟩ | ⟨_, he, _⟩
    · rw [hf] at hf'; cases hf'
    · rwa [e] at this
    · cases he

theorem EffsClosed.appendAndApply {P : List Eff → Prop} (hP : EffsClosed P) (s : Store) (fsHas : Nat → Bool)
    (r : Record) : P (s.appendAndApply fsHas r).2.2 :=
  hP.moves.appendAndApply (e := []) fsHas hP.nil trivial

theorem EffsClosed.call {P : List Eff → Prop} (hP : EffsClosed P) (s : Store) (fsHas : Nat → Bool) (op : Op) :
    P (s.call fsHas op).2.2 :=
  hP.moves.call fsHas op (fun _ _ => trivial) (fun _ _ _ _ _ _ => trivial) (fun _ _ h => h) hP.nil

theorem EffsCov.closed : EffsClosed EffsCov := ⟨.nil, .append, .tryCloseFull⟩

theorem EffsCov.appendAndApply (s : Store) (fsHas : Nat → Bool) (r : Record) :
    EffsCov (s.appendAndApply fsHas r).2.2 :=
  EffsCov.closed.appendAndApply s fsHas r

theorem EffsCov.call (s : Store) (fsHas : Nat → Bool) (op : Op) : EffsCov (s.call fsHas op).2.2 :=
  EffsCov.closed.call s fsHas op

def SysCovered (y : Sys) : Prop := CoveredFW y.fs y.worker

theorem SysCovered.call {y : Sys} (h : SysCovered y) (hp : y.worker.pc ≠ .dead) (op : Op) :
    SysCovered (y.call op).2.1 := by
  cases hs : y.store with
  | none => rw [show (y.call op).2.1 = y from Sys.step_no_store hs (st := .call op) rfl]; exact h
  | some s => rw [(y.call_some op hs).1]; exact (EffsCov.call s y.fs.has op _ _ _ hp h).2.settle

theorem SysCovered.flush {y : Sys} (h : SysCovered y) (hp : y.worker.pc ≠ .dead) (cb : Option Nat) :
    SysCovered (y.flush cb).2.1 := by
  cases hs : y.store with
  | none => rw [show (y.flush cb).2.1 = y from Sys.step_no_store hs (st := .flush cb) rfl]; exact h
  | some s =>
    have := flush_covered s cb y.fs y.worker [] hp h
    rw [(y.flush_some cb hs).1]
    unfold SysCovered
    dsimp only
    rw [this.2.1]
    exact this.2.2.settle

theorem SysCovered.workerStep {y : Sys} (h : SysCovered y) (hw : y.worker.WF) (out : Outcome)
    (s : Store) (hd : (({ w := y.worker, fs := y.fs, cache := s.cache } : WCtx).dies out) = false) :
    SysCovered (y.workerStep out).1 := by
  cases hs : y.store with
  | none => rw [show (y.workerStep out).1 = y from Sys.step_no_store hs (st := .worker out) rfl]; exact h
  | some s' =>
    rw [y.workerStep_eq out hs]
    exact WCtx.step_covered (y.wctx s') out hw (by simpa [WCtx.dies, Sys.wctx] using hd) h

theorem Sys.fresh_store_isSome (cfg : Cfg) : (Sys.fresh cfg).store.isSome = true := by
  rw [Sys.fresh_eq]; rfl

theorem Sys.step_store_isSome {y : Sys} {st : Step} (hst : st.keepsStore = true)
    (h : y.store.isSome = true) : (y.step st).store.isSome = true :=
  (y.step_flags st (fun _ e => by subst e; cases hst) (fun e => by subst e; cases hst)).1.trans h

theorem Sys.run_store_isSome {y : Sys} {steps : List Step} (hst : ∀ st ∈ steps, st.keepsStore = true)
    (h : y.store.isSome = true) : (y.run steps).store.isSome = true :=
  Sys.run_induct (P := fun y => y.store.isSome = true) (fun _ _ hst h => Sys.step_store_isSome hst h) h hst

theorem Sys.run_no_store {y : Sys} (h : y.store = none) {steps : List Step}
    (hst : ∀ st ∈ steps, st.noOpen = true) : y.run steps = y :=
  Sys.run_induct (P := fun y' => y' = y) (fun _ _ hst e => e ▸ Sys.step_no_store h hst) rfl hst

end RaftLog
