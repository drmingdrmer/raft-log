/-
Journal invariant, worker side: a worker step that leaves the worker alive moves bytes from "in flight" into the file
they were meant for and changes nothing else — `fdata fs id ++ w.inflight id` is the same for every id — and the
announced ids only lose a prefix. Both are read off the view (Proofs/WorkerView).
-/
import RaftLogModel.Proofs.Journal
namespace RaftLog

theorem inflightFrom_writes (cur : Nat) (b R : List WReq) (id : Nat)
    (hb : ∀ r ∈ b, r.isWrite = true) :
    inflightFrom cur (b ++ R) id =
      (if cur = id then (b.map WReq.data).flatten else []) ++ inflightFrom cur R id := by
  induction b with
  | nil => simp
  | cons r b ih =>
    have ih' := ih (fun x hx => hb x (List.mem_cons_of_mem _ hx))
    have hr := hb r List.mem_cons_self
    cases r with
    | write u d cb =>
      simp only [List.cons_append, inflightFrom, ih', List.map_cons, WReq.data, List.flatten_cons]
      by_cases e : cur = id <;> simp [e]
    | appendFile n p => cases hr
    | removeChunks ids => cases hr

theorem annIds_writes (b R : List WReq) (hb : ∀ r ∈ b, r.isWrite = true) :
    annIds (b ++ R) = annIds R := by
  induction b with
  | nil => rfl
  | cons r b ih =>
    have ih' := ih (fun x hx => hb x (List.mem_cons_of_mem _ hx))
    have hr := hb r List.mem_cons_self
    cases r with
    | write u d cb => exact ih'
    | appendFile n p => cases hr
    | removeChunks ids => cases hr

/-- What the journal invariant needs of a worker step that leaves the worker alive. -/
structure StepGood (c c' : WCtx) : Prop where
  wok : c'.w.pc.ok c'.w.files
  bytes : ∀ id, fdata c'.fs id ++ c'.w.inflight id = fdata c.fs id ++ c.w.inflight id
  ann : c'.w.announced <:+ c.w.announced

def WView.inflight (v : WView) (id : Nat) : Bytes := infl (newestId v.files) v.tb v.rest id
def WView.announced (v : WView) : List Nat := newestId v.files :: annIds v.rest

/-- The fields `bytes` and `ann` of `StepGood`, of view and file system. -/
def VGood (v : WView) (fs : Fs) (v' : WView) (fs' : Fs) : Prop :=
  (∀ id, fdata fs' id ++ v'.inflight id = fdata fs id ++ v.inflight id) ∧ v'.announced <:+ v.announced

theorem VGood.of_same {v v' : WView} (fs : Fs) (h1 : ∀ id, v'.inflight id = v.inflight id)
    (h2 : v'.announced <:+ v.announced) : VGood v fs v' fs :=
  ⟨fun id => by rw [h1], h2⟩

theorem VGood.trans {a b c : WView} {fa fb fc : Fs} (h1 : VGood a fa b fb) (h2 : VGood b fb c fc) :
    VGood a fa c fc :=
  ⟨fun id => (h2.1 id).trans (h1.1 id), h2.2.trans h1.2⟩

theorem WView.Prim.good {a b : WView} (h : Prim a b) (fs : Fs) : VGood a fs b fs := by
  cases h with
  | batch b R h1 _ hr hb =>
    refine .of_same fs (fun id => ?_) (by simp [WView.announced, hr, annIds_writes _ _ hb])
    simp only [WView.inflight, infl, h1, hr, inflightFrom_writes _ _ _ _ hb]
    by_cases e : newestId a.files = id <;> simp [e]
  | ack ok => exact .of_same fs (fun _ => rfl) (List.suffix_refl _)
  | append n p q h1 _ hr =>
    exact .of_same fs (fun id => by simp [WView.inflight, infl, inflightFrom, newestId_append, h1, hr])
      (by simp [WView.announced, annIds, newestId_append, hr])
  | remove ids q _ hr =>
    exact .of_same fs (fun id => by simp [WView.inflight, infl, inflightFrom, hr])
      (by simp [WView.announced, annIds, hr])
  | retry => exact .of_same fs (fun id => by simp [WView.inflight]) (by simp [WView.announced])

theorem write_bytes (fs : Fs) (cur : Nat) (d tb : Bytes) (R : List WReq) (id : Nat)
    (h : cur ∈ Fs.ids fs) :
    fdata (fs.write cur d) id ++ infl cur tb R id = fdata fs id ++ infl cur (d ++ tb) R id := by
  rw [fdata_write _ _ _ _ h]
  by_cases e : cur = id <;> simp [infl, e]

theorem VAct.good {v v1 : WView} {fs fs1 : Fs} (h : VAct v fs v1 fs1) (hcur : newestId v.files ∈ Fs.ids fs) :
    VGood v fs v1 fs1 := by
  cases h with
  | none => exact .of_same fs (fun _ => rfl) (List.suffix_refl _)
  | write bs tb' h1 =>
    exact ⟨fun id => by simp only [WView.inflight, h1]; exact write_bytes _ _ _ _ _ _ hcur, List.suffix_refl _⟩
  | syncOld f rest hf hne =>
    have e := newestId_cons f hne
    exact ⟨fun id => by simp [WView.inflight, hf, e, fdata_sync], by simp [WView.announced, hf, e]⟩
  | syncNew f rest _ => exact ⟨fun id => by rw [fdata_sync], List.suffix_refl _⟩
  | unlink i rest _ => exact ⟨fun id => by rw [fdata_unlink]; rfl, List.suffix_refl _⟩

theorem WCtx.VStep.good {c c' : WCtx} (h : c.VStep c') (hcur : c.w.cur ∈ Fs.ids c.fs) :
    VGood c.w.view c.fs c'.w.view c'.fs := by
  obtain ⟨v1, ha, hq⟩ := h
  exact (ha.good hcur).trans (hq.lift (R := fun a b => VGood a c'.fs b c'.fs)
    (fun _ => .of_same _ (fun _ => rfl) (List.suffix_refl _)) .trans (fun p => p.good _))

theorem WCtx.step_good (c : WCtx) (out : Outcome) (hok : c.w.pc.ok c.w.files)
    (hcur : c.w.cur ∈ Fs.ids c.fs) (hnd : (c.step out).w.pc ≠ .dead) : StepGood c (c.step out) :=
  have g := (c.step_view_alive out hok hnd).good hcur
  ⟨c.step_ok out hok, g.1, g.2⟩

end RaftLog
