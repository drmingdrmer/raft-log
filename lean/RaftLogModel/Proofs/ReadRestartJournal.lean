/-
C07 after restarts: freshness as a property of a JOURNAL. Along a fresh run (`FreshRunC7c`: every `Append`
record above the ghost `m` and above `purged`, every `State` record keeps `last` and `purged`) the bound
`max m purged` only grows, `last` stays at or below it and every later `Append` is above it. Hence at a chunk
boundary `L = Q ++ R` of a fresh journal (`FTotC7c`) the closing `last` of `Q` is at or below the final bound
and every id appended in `R` is above it (`FTotC7c.split`): the closed-chunk invariant `ClosedOKC7c`
(Proofs/ReadRestartInv.lean), read off the journal alone.
-/
import RaftLogModel.Proofs.ReadTruncStore
import RaftLogModel.Proofs.ReplayLog
namespace RaftLog

/-- The largest appended id after a record (`FreshChkC7c` puts an appended id above `m`, so
no maximum is taken). -/
def freshMC7c (r : Record) (m : Option LogId) : Option LogId :=
  match r with
  | .append id _ => some id
  | _ => m

/-- The `State` clause is why chunk heads and `saveUserData` pass: they repeat `last` and `purged`. -/
def FreshChkC7c (r : Record) (st : RState) (m : Option LogId) : Prop :=
  match r with
  | .append id _ => optLt m (some id) = true ∧ optLt st.purged (some id) = true
  | .state x => x.last = st.last ∧ x.purged = st.purged
  | _ => True

def FreshRunC7c : List JOp → RState → Option LogId → Prop
  | [], _, _ => True
  | op :: ops, st, m =>
    FreshChkC7c op.r st m ∧ ∀ st', st.apply op.r = .ok st' → FreshRunC7c ops st' (freshMC7c op.r m)

def freshEndC7c : List JOp → Option LogId → Option LogId
  | [], m => m
  | op :: ops, m => freshEndC7c ops (freshMC7c op.r m)

theorem stRunO_cons_some {op : JOp} {ops : List JOp} {st st' : RState} :
    stRunO (op :: ops) st = some st' ↔ ∃ st1, st.apply op.r = .ok st1 ∧ stRunO ops st1 = some st' := by
  rw [stRunO_cons]
  cases st.apply op.r <;> simp

theorem freshEnd_append_C7c (a b : List JOp) (m : Option LogId) :
    freshEndC7c (a ++ b) m = freshEndC7c b (freshEndC7c a m) := by
  induction a generalizing m with
  | nil => rfl
  | cons op ops ih => simp only [List.cons_append, freshEndC7c, ih]

theorem freshRun_append_C7c {a b : List JOp} {st : RState} {m : Option LogId} :
    FreshRunC7c (a ++ b) st m ↔ FreshRunC7c a st m ∧
      ∀ st', stRunO a st = some st' → FreshRunC7c b st' (freshEndC7c a m) := by
  induction a generalizing st m with
  | nil =>
    simp only [List.nil_append, FreshRunC7c, true_and, freshEndC7c]
    constructor
    · intro h st' h1
      simp only [stRunO, List.map_nil, stRun, Option.some.injEq] at h1
      subst h1; exact h
    · intro h; exact h st rfl
  | cons op ops ih =>
    simp only [List.cons_append, FreshRunC7c, freshEndC7c]
    constructor
    · rintro ⟨h1, h2⟩
      refine ⟨⟨h1, fun st' ha => (ih.mp (h2 st' ha)).1⟩, ?_⟩
      intro st2 hs
      obtain ⟨st', ha, hs⟩ := stRunO_cons_some.1 hs
      exact (ih.mp (h2 st' ha)).2 st2 hs
    · rintro ⟨⟨h1, h2⟩, h3⟩
      exact ⟨h1, fun st' ha => ih.mpr ⟨h2 st' ha, fun st2 hs => h3 st2 (stRunO_cons_some.2 ⟨st', ha, hs⟩)⟩⟩

theorem freshRun_induct_C7c {P : RState → Option LogId → Prop}
    (step : ∀ {r : Record} {st st1 : RState} {m : Option LogId}, FreshChkC7c r st m →
      st.apply r = .ok st1 → P st m → P st1 (freshMC7c r m)) :
    ∀ (ops : List JOp) {st st' : RState} {m : Option LogId}, FreshRunC7c ops st m →
      stRunO ops st = some st' → P st m → P st' (freshEndC7c ops m)
  | [], _, _, _, _, hs, h => by cases hs; exact h
  | _ :: ops, _, _, _, ⟨h1, h2⟩, hs, h => by
    obtain ⟨st1, ha, hs⟩ := stRunO_cons_some.1 hs
    exact freshRun_induct_C7c step ops (h2 st1 ha) hs (step h1 ha h)

theorem apply_purged_last_C7c {r : Record} {st st' : RState} (ha : st.apply r = .ok st') :
    match r with
    | .state x => st' = x
    | .append id _ => st'.purged = st.purged ∧ st'.last = some id
    | .truncateAfter _ => st'.purged = st.purged ∧ optLe st'.last st.last = true
    | .purgeUpto u => optLe st.purged st'.purged = true ∧ optLe (some u) st'.purged = true ∧
        st'.last = if optLt st.last (some u) then some u else st.last
    | _ => st'.purged = st.purged ∧ st'.last = st.last := by
  obtain rfl := apply_eq_applied ha
  cases r with
  | saveVote v => exact ⟨rfl, rfl⟩
  | commit id => exact ⟨rfl, rfl⟩
  | state x => rfl
  | append id p => exact ⟨rfl, rfl⟩
  | truncateAfter o =>
    refine ⟨by simp only [RState.applied]; unfold RState.truncateAfter; split <;> rfl, ?_⟩
    simp only [RState.applied]
    unfold RState.truncateAfter
    by_cases h : optLt o st.last = true
    · simp only [h, if_true]; exact optLe_of_lt h
    · simp only [h]; exact optLe_refl _
  | purgeUpto u =>
    simp only [RState.applied]
    have hp : (st.purge u).purged = if optLt st.purged (some u) then some u else st.purged := by
      unfold RState.purge
      by_cases h1 : optLt st.purged (some u) = true <;>
        by_cases h2 : optLt st.last (some u) = true <;> simp [h1, h2]
    have hl : (st.purge u).last = if optLt st.last (some u) then some u else st.last := by
      unfold RState.purge
      by_cases h1 : optLt st.purged (some u) = true <;>
        by_cases h2 : optLt st.last (some u) = true <;> simp [h1, h2]
    rw [hp]
    by_cases h1 : optLt st.purged (some u) = true
    · simp only [h1, if_true]; exact ⟨optLe_of_lt h1, optLe_refl _, hl⟩
    · simp only [h1]; exact ⟨optLe_refl _, (optLe_iff_not_lt _ _).2 (by simpa using h1), hl⟩

theorem freshStep_mono_C7c {r : Record} {st st' : RState} {m : Option LogId}
    (hc : FreshChkC7c r st m) (ha : st.apply r = .ok st') :
    optLe (optMaxC7b m st.purged) (optMaxC7b (freshMC7c r m) st'.purged) = true := by
  have hf := apply_purged_last_C7c ha
  cases r with
  | state x =>
    obtain rfl : st' = x := hf
    simp only [freshMC7c, hc.2]; exact optLe_refl _
  | append id p => simp only [freshMC7c, hf.1]; exact optMax_mono_C7b (optLe_of_lt hc.1) (optLe_refl _)
  | purgeUpto u => exact optMax_mono_C7b (optLe_refl _) hf.1
  | saveVote v => simp only [freshMC7c, hf.1]; exact optLe_refl _
  | commit id => simp only [freshMC7c, hf.1]; exact optLe_refl _
  | truncateAfter o => simp only [freshMC7c, hf.1]; exact optLe_refl _

theorem freshStep_last_C7c {r : Record} {st st' : RState} {m : Option LogId}
    (hb : optLe st.last (optMaxC7b m st.purged) = true)
    (hc : FreshChkC7c r st m) (ha : st.apply r = .ok st') :
    optLe st'.last (optMaxC7b (freshMC7c r m) st'.purged) = true := by
  have hmono := optLe_trans hb (freshStep_mono_C7c hc ha)
  have hf := apply_purged_last_C7c ha
  cases r with
  | state x =>
    obtain rfl : st' = x := hf
    simp only [freshMC7c, hc.1, hc.2]; exact hb
  | append id p => rw [hf.2]; exact optMax_left_C7b _ _
  | truncateAfter o => exact optLe_trans hf.2 hmono
  | saveVote v => rw [hf.2]; exact hmono
  | commit id => rw [hf.2]; exact hmono
  | purgeUpto u =>
    rw [hf.2.2]
    by_cases h2 : optLt st.last (some u) = true
    · simp only [h2, if_true]; exact optLe_trans hf.2.1 (optMax_right_C7b _ _)
    · simp only [h2]; exact hmono

theorem freshRun_bound_C7c (ops : List JOp) (st st' : RState) (m : Option LogId)
    (h : FreshRunC7c ops st m) (hb : optLe st.last (optMaxC7b m st.purged) = true)
    (hs : stRunO ops st = some st') :
    optLe st'.last (optMaxC7b (freshEndC7c ops m) st'.purged) = true ∧
    optLe (optMaxC7b m st.purged) (optMaxC7b (freshEndC7c ops m) st'.purged) = true :=
  freshRun_induct_C7c (P := fun st1 m1 => optLe st1.last (optMaxC7b m1 st1.purged) = true ∧
      optLe (optMaxC7b m st.purged) (optMaxC7b m1 st1.purged) = true)
    (fun hc ha k => ⟨freshStep_last_C7c k.1 hc ha, optLe_trans k.2 (freshStep_mono_C7c hc ha)⟩)
    ops h hs ⟨hb, optLe_refl _⟩

theorem freshRun_above_C7c : ∀ (ops : List JOp) (st st' : RState) (m : Option LogId),
    FreshRunC7c ops st m → stRunO ops st = some st' →
    ∀ op ∈ ops, ∀ id p, op.r = .append id p → optLe (some id) (optMaxC7b m st.purged) = false := by
  intro ops
  induction ops with
  | nil => intro _ _ _ _ _ op hop; cases hop
  | cons o ops ih =>
    intro st st' m h hs op hop id p hr
    obtain ⟨h1, h2⟩ := h
    obtain ⟨st1, ha, hs⟩ := stRunO_cons_some.1 hs
    rcases List.mem_cons.mp hop with e | e
    · subst e
      rw [hr] at h1
      obtain ⟨k1, k2⟩ := h1
      exact optMax_not_ge_C7b ((optLt_iff_not_le _ _).1 k1) ((optLt_iff_not_le _ _).1 k2)
    · have := ih st1 st' _ (h2 st1 ha) hs op e id p hr
      have hmono := freshStep_mono_C7c h1 ha
      exact optLe_false_of_le hmono this

/-- The journal starts with a `State` record `x` (the head of its oldest chunk) and is fresh after it, from
some ghost value `m0` with `x.last ≤ max m0 x.purged`; `mEnd` is the ghost value at its end. -/
def FTotC7c (L : List JOp) (mEnd : Option LogId) : Prop :=
  ∃ hd tl x m0, L = hd :: tl ∧ hd.r = .state x ∧ optLe x.last (optMaxC7b m0 x.purged) = true ∧
    FreshRunC7c tl x m0 ∧ freshEndC7c tl m0 = mEnd

theorem stRunO_state_head_C7c {hd : JOp} {tl : List JOp} {x : RState} (hx : hd.r = .state x)
    (st : RState) : stRunO (hd :: tl) st = stRunO tl x := by
  rw [stRunO_cons, hx]
  rfl

theorem FTotC7c.snoc {L : List JOp} {m : Option LogId} {st : RState} {op : JOp} (h : FTotC7c L m)
    (hst : stRunO L {} = some st) (hc : FreshChkC7c op.r st m) :
    FTotC7c (L ++ [op]) (freshMC7c op.r m) := by
  obtain ⟨hd, tl, x, m0, hL, hx, hb, hrun, hend⟩ := h
  subst hL
  rw [stRunO_state_head_C7c hx] at hst
  refine ⟨hd, tl ++ [op], x, m0, rfl, hx, hb, ?_, ?_⟩
  · rw [freshRun_append_C7c]
    refine ⟨hrun, ?_⟩
    intro st' hs
    rw [hst] at hs
    injection hs with hs
    subst hs
    rw [hend]
    exact ⟨hc, fun _ _ => trivial⟩
  · rw [freshEnd_append_C7c, hend]; rfl

theorem FTotC7c.cons_append {p : JOp} {P S : List JOp} {m : Option LogId} (h : FTotC7c (p :: P ++ S) m) :
    ∃ x m0, p.r = .state x ∧ optLe x.last (optMaxC7b m0 x.purged) = true ∧ FreshRunC7c P x m0 ∧
      (∀ st', stRunO P x = some st' → FreshRunC7c S st' (freshEndC7c P m0)) ∧
      freshEndC7c S (freshEndC7c P m0) = m := by
  obtain ⟨hd, tl, x, m0, hL, hx, hb, hrun, hend⟩ := h
  simp only [List.cons_append, List.cons.injEq] at hL
  obtain ⟨e1, e2⟩ := hL
  subst e1
  rw [← e2, freshRun_append_C7c] at hrun
  rw [← e2, freshEnd_append_C7c] at hend
  exact ⟨x, m0, hx, hb, hrun.1, hrun.2, hend⟩

theorem FTotC7c.prefix {P S : List JOp} {m : Option LogId} (h : FTotC7c (P ++ S) m) (hne : P ≠ []) :
    ∃ m', FTotC7c P m' := by
  cases P with
  | nil => exact absurd rfl hne
  | cons p P' =>
    obtain ⟨x, m0, hx, hb, r1, _, _⟩ := h.cons_append
    exact ⟨_, p, P', x, m0, rfl, hx, hb, r1, rfl⟩

/-- The `State` head re-bases `m0` at the ghost value reached after `A`. -/
theorem FTotC7c.suffix {A S : List JOp} {m : Option LogId} {st : RState} (h : FTotC7c (A ++ S) m)
    (hst : stRunO (A ++ S) {} = some st)
    (hS : ∃ hd tl x, S = hd :: tl ∧ hd.r = .state x) : FTotC7c S m := by
  cases A with
  | nil => exact h
  | cons a A' =>
    obtain ⟨x, m0, hx, hb, r1, r2, hend⟩ := h.cons_append
    obtain ⟨hd', tl', x', hS', hx'⟩ := hS
    subst hS'
    rw [List.cons_append, stRunO_state_head_C7c hx] at hst
    obtain ⟨stA, k1, k2⟩ := stRunO_prefix hst
    obtain ⟨b1, _⟩ := freshRun_bound_C7c A' x stA m0 r1 hb k1
    obtain ⟨c1, c2⟩ := r2 stA k1
    rw [hx'] at c1
    obtain ⟨d1, d2⟩ := c1
    have hc2 := c2 x' (by rw [hx']; rfl)
    rw [hx'] at hc2
    refine ⟨hd', tl', x', freshEndC7c A' m0, rfl, hx', ?_, hc2, ?_⟩
    · rw [d1, d2]; exact b1
    · simp only [freshEndC7c, hx', freshMC7c] at hend
      exact hend

theorem FTotC7c.split {Q R : List JOp} {m : Option LogId} {stQ stEnd : RState}
    (h : FTotC7c (Q ++ R) m) (hne : Q ≠ [])
    (hQ : stRunO Q {} = some stQ) (hR : stRunO R stQ = some stEnd) :
    optLe stQ.last (optMaxC7b m stEnd.purged) = true ∧
    ∀ op ∈ R, ∀ id p, op.r = .append id p → optLe (some id) stQ.last = false := by
  cases Q with
  | nil => exact absurd rfl hne
  | cons q Q' =>
    obtain ⟨x, m0, hx, hb, r1, r2, hend⟩ := h.cons_append
    rw [stRunO_state_head_C7c hx] at hQ
    obtain ⟨b1, _⟩ := freshRun_bound_C7c Q' x stQ m0 r1 hb hQ
    have rR := r2 stQ hQ
    obtain ⟨_, b3⟩ := freshRun_bound_C7c R stQ stEnd _ rR b1 hR
    rw [hend] at b3
    refine ⟨optLe_trans b1 b3, ?_⟩
    intro op hop id p hr
    have := freshRun_above_C7c R stQ stEnd _ rR hR op hop id p hr
    exact optLe_false_of_le b1 this

theorem FTotC7c.lastB {L : List JOp} {m : Option LogId} {st : RState} (h : FTotC7c L m)
    (hst : stRunO L {} = some st) : optLe st.last (optMaxC7b m st.purged) = true := by
  obtain ⟨hd, tl, x, m0, hL, hx, hb, hrun, hend⟩ := h
  subst hL
  rw [stRunO_state_head_C7c hx] at hst
  have := (freshRun_bound_C7c tl x st m0 hrun hb hst).1
  rw [hend] at this
  exact this

theorem freshRun_m_mono_C7c (ops : List JOp) (st st' : RState) (m : Option LogId)
    (h : FreshRunC7c ops st m) (hs : stRunO ops st = some st') : optLe m (freshEndC7c ops m) = true :=
  freshRun_induct_C7c (P := fun _ m1 => optLe m m1 = true)
    (fun {r} _ _ _ hc _ k => optLe_trans k (by
      cases r with
      | append id p => exact optLe_of_lt hc.1
      | _ => exact optLe_refl _))
    ops h hs (optLe_refl _)

theorem FTotC7c.prefix_le {P S : List JOp} {m : Option LogId} {st : RState} (h : FTotC7c (P ++ S) m)
    (hne : P ≠ []) (hst : stRunO (P ++ S) {} = some st) :
    ∃ m', FTotC7c P m' ∧ optLe m' m = true := by
  cases P with
  | nil => exact absurd rfl hne
  | cons p P' =>
    obtain ⟨x, m0, hx, hb, r1, r2, hend⟩ := h.cons_append
    rw [List.cons_append, stRunO_state_head_C7c hx] at hst
    obtain ⟨stP, k1, k2⟩ := stRunO_prefix hst
    refine ⟨freshEndC7c P' m0, ⟨p, P', x, m0, rfl, hx, hb, r1, rfl⟩, ?_⟩
    rw [← hend]
    exact freshRun_m_mono_C7c S stP st _ (r2 stP k1) k2

end RaftLog
