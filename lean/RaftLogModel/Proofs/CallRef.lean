/-
An accepted call relative to the reference log. `call_ghost`: an invariant indexed by the reference log and a
ghost value that follows a record with `StepOK` when it is applied and is kept by a rotation is kept by every
legal, accepted, small call (how to use it: DESIGN.md §2.1); `call_accepted` is its case without ghost.
`call_elim` (the shapes of `Store.call_cases` for an accepted call, every record with its `StepOK`) and
`appendBatch_induct` are the walk behind it.
-/
import RaftLogModel.Proofs.ReplayAbs
import RaftLogModel.Proofs.JournalStore
namespace RaftLog

theorem RefLog.append1_shape {r r1 : RefLog} {id : LogId} {p : Bytes} (hc : r.append1 id p = .ok r1) :
    optLe (some id) r.last = false ∧ r1.last = some id ∧ r1.entries = r.entries ++ [(id, p)] := by
  unfold RefLog.append1 at hc
  split at hc
  · cases hc
  · rename_i hn
    have hn' : optLe (some id) r.last = false := by simpa using hn
    split at hc
    · split at hc
      · cases hc
      · injection hc with hc; subst hc; exact ⟨hn', rfl, rfl⟩
    · injection hc with hc; subst hc; exact ⟨hn', rfl, rfl⟩

/-- `Q` speaks of the entries still to come. `fsHas` varies: the files created by earlier entries of the
batch exist by the time of the next one; they lie below the journal end (`Growth0`). -/
theorem appendBatch_induct {Q : List (LogId × Bytes) → Store → RefLog → List Eff → Prop}
    (step : ∀ (id : LogId) (p : Bytes) (rest : List (LogId × Bytes)) (s : Store) (r r1 : RefLog)
      (effs : List Eff) (fsHas : Nat → Bool), Q ((id, p) :: rest) s r effs →
      (∀ i, s.openEnd ≤ i → fsHas i = false) → r.append1 id p = .ok r1 → smallId id →
      ∃ seg1 s1 e1, s.appendAndApply fsHas (.append id p) = (.ok seg1, s1, e1) ∧ Growth0 s s1 e1 ∧
        Q rest s1 r1 (effs ++ e1)) (es : List (LogId × Bytes)) :
    ∀ (s : Store) (r r' : RefLog) (fsHas : Nat → Bool) (seg : Seg) (effs : List Eff),
    Q es s r effs → (∀ i, s.openEnd ≤ i → fsHas i = false) → r.appendAll es = .ok r' →
    (∀ e ∈ es, smallId e.1) →
    ∃ seg' s' effs', Store.appendBatch fsHas es s seg effs = (.ok seg', s', effs ++ effs') ∧
      Q [] s' r' (effs ++ effs') ∧ Growth0 s s' effs' := by
  induction es with
  | nil =>
    intro s r r' fsHas seg effs h _ hc _
    simp only [RefLog.appendAll] at hc
    injection hc with hc
    subst hc
    exact ⟨seg, s, [], by simp [Store.appendBatch], by simpa using h, Growth0.refl s⟩
  | cons e rest ih =>
    obtain ⟨id, p⟩ := e
    intro s r r' fsHas seg effs h hfs hc hsm
    simp only [RefLog.appendAll] at hc
    split at hc
    · rename_i r1 hc1
      have hsm1 : smallId id := hsm (id, p) List.mem_cons_self
      obtain ⟨seg1, s1, e1, heq1, hg1, h1⟩ := step id p rest s r r1 effs fsHas h hfs hc1 hsm1
      obtain ⟨seg2, s2, e2, heq2, h2, hg2⟩ :=
        ih s1 r1 r' _ seg1 (effs ++ e1) h1 (hg1.fsHas hfs) hc (fun e he => hsm e (List.mem_cons_of_mem _ he))
      refine ⟨seg2, s2, e1 ++ e2, ?_, by rw [← List.append_assoc]; exact h2, hg1.trans hg2⟩
      have hidx : id.index + 1 ≠ U64 := by
        have : id.index + 1 < U64 := hsm1
        omega
      rw [appendBatch_cons_small_D12 _ _ _ _ _ _ _ hidx, heq1]
      simp only
      rw [heq2, List.append_assoc]
    · cases hc

/-- What is known of the record of a single-record op, and of what the op does to the reference log. -/
def RecOf (s : Store) (r r' : RefLog) (rc : Record) : Prop :=
  (rc.Plain s ∧ r'.entries = r.entries ∧ r'.last = r.last ∧ r'.purged = r.purged) ∨
  (∃ x, rc = .truncateAfter x ∧ r.TruncArg x ∧ r' = r.truncateTo x) ∨
  ∃ u, rc = .purgeUpto u ∧ r.legal (.purge u) = true ∧ ¬ u.index < nextIndex r.purged ∧
    r' = r.purged' u

/-- The five shapes of a legal, accepted, small call. Every journalled record comes with its `StepOK`, and
with its well-formedness once the op, the store's state and the index map are well-formed. -/
theorem call_elim {s : Store} {r r' : RefLog} {op : Op} (fsHas : Nat → Bool)
    {P : Res Seg × Store × List Eff → Prop} (h : Abs s r)
    (hfs : ∀ i, s.openEnd ≤ i → fsHas i = false)
    (hl : r.legal op = true) (hc : r.call op = .ok r') (hsm : op.small)
    (plain : ∀ rec, StepOK s r r' rec → rec.Plain s → (op.WF → s.st.WF → rec.WF) →
      (∀ es, op ≠ .append es) → (∀ upto, op ≠ .purge upto) → r'.entries = r.entries →
      r'.last = r.last → r'.purged = r.purged →
      P (s.appendAndApply fsHas rec))
    (batch : ∀ es seg0, op = .append es → P (Store.appendBatch fsHas es s seg0 []))
    (trunc : ∀ o, r.TruncArg o → r' = r.truncateTo o → StepOK s r r' (.truncateAfter o) →
      (s.st.WF → (∀ e ∈ s.log, e.2.id.WF) → (Record.truncateAfter o).WF) →
      (∀ es, op ≠ .append es) → (∀ upto, op ≠ .purge upto) →
      P (s.appendAndApply fsHas (.truncateAfter o)))
    (noop : ∀ seg0, r' = r → (∃ upto, op = .purge upto ∧ upto.index < nextIndex r.purged) →
      P (.ok seg0, s, []))
    (purge : ∀ upto, op = .purge upto → ¬ upto.index < nextIndex r.purged → r' = r.purged' upto →
      StepOK s r r' (.purgeUpto upto) →
      ∀ seg s1 effs, s.appendAndApply fsHas (.purgeUpto upto) = (.ok seg, s1, effs) →
      P (.ok seg, { s1 with closed := (popObsolete upto s1.closed).2,
                            removed := s1.removed ++ (popObsolete upto s1.closed).1 }, effs)) :
    P (s.call fsHas op) := by
  have hpu : s.st.purged = r.purged := h.purged
  have hnx : nextIndexChecked s.st.purged = some (nextIndex r.purged) :=
    hpu ▸ nextIndexChecked_eq h.pf.purged
  have pur : ∀ upto, op = .purge upto → ¬ upto.index < nextIndex r.purged →
      r' = r.purged' upto ∧ StepOK s r (r.purged' upto) (.purgeUpto upto) := by
    rintro upto rfl hlt
    simp only [RefLog.call, if_neg hlt] at hc
    injection hc with hc
    exact ⟨hc.symm, stepOK_purgeUpto h hl hlt hsm⟩
  -- the store's guards are the reference log's (`st = r.state`)
  rcases s.call_cases fsHas op with ⟨x, e, hx⟩ | ⟨es, seg0, rfl, e⟩ | ⟨rec, hr, e⟩ |
    ⟨upto, seg, s1, effs, hr, ha, e⟩ <;> rw [e]
  · cases x with
    | ok seg =>
      obtain ⟨_, upto, nxt, rfl, hn, hlt⟩ := hx
      cases hnx.symm.trans hn
      simp only [RefLog.call, if_pos hlt] at hc
      cases hc
      exact noop seg rfl ⟨upto, rfl, hlt⟩
    | err k =>
      exfalso
      rcases hx with ⟨_, idx, nxt, rfl, hn, hne, h0⟩ | ⟨_, upto, rfl, hU⟩
      · cases hnx.symm.trans hn
        rcases RefLog.truncate_arg hc with ⟨h1, _⟩ | ⟨_, h2, e, he, _⟩
        · exact hne h1
        · obtain ⟨d, hd, _⟩ := h.logGet_of_entryAt he
          rcases h0 with h0 | h0
          · exact h2 h0
          · rw [hd] at h0; cases h0
      · have : upto.index + 1 < U64 := hsm
        omega
    | panic m =>
      exfalso
      rcases hx with hx | hx
      · rw [hnx] at hx; cases hx
      · obtain ⟨sg, hsg⟩ := lastSegment_some h.pf.open2
        rw [hsg] at hx; cases hx
  · exact batch es seg0 rfl
  · cases hr with
    | saveVote v =>
      simp only [RefLog.call] at hc
      split at hc
      · rename_i hcond
        injection hc with hc; subst hc
        have hk : Record.Plain s (.saveVote v) := .inl ⟨v, rfl⟩
        exact plain _ (stepOK_plain h (by simp [RState.apply, RState.updateVote, h.st, RefLog.state, hcond])
          hk rfl rfl rfl) hk (fun hwf _ => hwf) (fun _ e => nomatch e) (fun _ e => nomatch e) rfl rfl rfl
      · cases hc
    | commit id =>
      simp only [RefLog.call] at hc
      split at hc
      · cases hc
      · rename_i hcond
        injection hc with hc; subst hc
        have hk : Record.Plain s (.commit id) := .inr (.inl ⟨id, rfl⟩)
        exact plain _ (stepOK_plain h (by simp [RState.apply, RState.commit, h.st, RefLog.state, hcond])
          hk rfl rfl rfl) hk (fun hwf _ => hwf) (fun _ e => nomatch e) (fun _ e => nomatch e) rfl rfl rfl
    | userData d =>
      simp only [RefLog.call] at hc
      injection hc with hc; subst hc
      have hk : Record.Plain s (.state { s.st with userData := d }) := .inr (.inr ⟨_, rfl, rfl, rfl⟩)
      refine plain _ (stepOK_plain h (by simp [RState.apply, h.st, RefLog.state]) hk rfl rfl rfl) hk ?_
        (fun _ e => nomatch e) (fun _ e => nomatch e) rfl rfl rfl
      intro hwf ⟨h1, h2, h3, h4, _⟩
      exact ⟨h1, h2, h3, h4, by cases d <;> simp [Op.WF] at hwf ⊢ <;> exact hwf⟩
    | truncPurged idx hn =>
      cases hnx.symm.trans hn
      rcases RefLog.truncate_arg hc with ⟨_, h2⟩ | ⟨h1, _⟩
      · subst h2
        rw [hpu]
        exact trunc _ (Or.inl rfl) rfl (stepOK_truncateAfter h (Or.inl rfl) (hpu ▸ h.pf.purged))
          (fun hst _ => hpu ▸ hst.2.2.2.1) (fun _ e => nomatch e) (fun _ e => nomatch e)
      · exact absurd rfl h1
    | truncAt idx nxt x hxl hn hne h0 hd =>
      cases hnx.symm.trans hn
      rcases RefLog.truncate_arg hc with ⟨h1, _⟩ | ⟨_, _, e', he', h3⟩
      · exact absurd h1 hne
      · obtain ⟨d, hd', hde, hds⟩ := h.logGet_of_entryAt he'
        cases hd.symm.trans hd'
        subst h3
        rw [hde]
        have harg : r.TruncArg (some e'.1) := Or.inr ⟨e', (RefLog.entryAt_some he').1, rfl⟩
        exact trunc _ harg rfl (stepOK_truncateAfter h harg (by rw [← hde]; exact hds))
          (fun _ hlog => hde ▸ hlog x hxl) (fun _ e => nomatch e) (fun _ e => nomatch e)
    | purge upto nxt hU hn hlt =>
      cases hnx.symm.trans hn
      obtain ⟨rfl, ok⟩ := pur upto rfl hlt
      obtain ⟨s1, effs, heq, _⟩ := abs_step fsHas h hfs ok
      rw [e.symm.trans (Store.call_purge_accepted hU hn hlt heq)]
      exact purge upto rfl hlt rfl ok _ s1 effs heq
  · cases hr with
    | purge upto nxt hU hn hlt =>
      cases hnx.symm.trans hn
      obtain ⟨rfl, ok⟩ := pur upto rfl hlt
      exact purge upto rfl hlt rfl ok seg s1 effs ha

theorem Abs.purged_above {s : Store} {r : RefLog} {upto : LogId} (h : Abs s (r.purged' upto)) :
    ∀ e ∈ s.log, optLt (some upto) (some e.2.id) = true := by
  intro e he
  refine optLt_of_le_of_lt ?_ (h.log_above e he)
  rw [h.st]
  simp only [RefLog.state, RefLog.purged']
  by_cases h3 : optLt r.purged (some upto) = true
  · simp [h3, LogId.le_refl]
  · simp only [h3, Bool.false_eq_true, if_false]
    rw [optLe_iff_not_lt]; simpa using h3

/-- How a ghost value follows an accepted call: `op g r o g'` says where the op `o` takes it, `rec` where
one journalled record does. -/
structure CallGhost {G : Type} (op : G → RefLog → Op → G → Prop)
    (rec : G → Store → RefLog → RefLog → Record → G → Prop) : Prop where
  single : ∀ {g g' : G} {s : Store} {r r' : RefLog} {o : Op} {rc : Record}, Abs s r → op g r o g' →
    r.legal o = true → r.call o = .ok r' → (∀ es, o ≠ .append es) →
    (∀ u, o = .purge u → ¬ u.index < nextIndex r.purged) →
    RecOf s r r' rc → rec g s r r' rc g'
  nil : ∀ {g g' : G} {r : RefLog}, op g r (.append []) g' → g' = g
  cons : ∀ {g g' : G} {s : Store} {r r1 : RefLog} {id : LogId} {p : Bytes} {rest : List (LogId × Bytes)},
    Abs s r → op g r (.append ((id, p) :: rest)) g' → r.append1 id p = .ok r1 →
    ∃ g1, rec g s r r1 (.append id p) g1 ∧ op g1 r1 (.append rest) g'
  noop : ∀ {g g' : G} {r : RefLog} {u : LogId}, op g r (.purge u) g' → u.index < nextIndex r.purged →
    g' = g

theorem CallGhost.unit : CallGhost (G := Unit) (fun _ _ _ _ => True) (fun _ _ _ _ _ _ => True) :=
  ⟨fun _ _ _ _ _ _ _ => trivial, fun _ => rfl, fun _ _ _ => ⟨(), trivial, trivial⟩, fun _ _ => rfl⟩

theorem CallGhost.prod {G1 G2 : Type} {o1 : G1 → RefLog → Op → G1 → Prop}
    {c1 : G1 → Store → RefLog → RefLog → Record → G1 → Prop} {o2 : G2 → RefLog → Op → G2 → Prop}
    {c2 : G2 → Store → RefLog → RefLog → Record → G2 → Prop} (h1 : CallGhost o1 c1)
    (h2 : CallGhost o2 c2) :
    CallGhost (fun (g : G1 × G2) r o g' => o1 g.1 r o g'.1 ∧ o2 g.2 r o g'.2)
      (fun g s r r' rc g' => c1 g.1 s r r' rc g'.1 ∧ c2 g.2 s r r' rc g'.2) where
  single := fun ha hg hl hc hna hnp hk =>
    ⟨h1.single ha hg.1 hl hc hna hnp hk, h2.single ha hg.2 hl hc hna hnp hk⟩
  nil := fun hg => Prod.ext (h1.nil hg.1) (h2.nil hg.2)
  cons := fun ha hg hc1 =>
    let ⟨a, ca, oa⟩ := h1.cons ha hg.1 hc1
    let ⟨b, cb, ob⟩ := h2.cons ha hg.2 hc1
    ⟨(a, b), ⟨ca, cb⟩, oa, ob⟩
  noop := fun hg hnn => Prod.ext (h1.noop hg.1 hnn) (h2.noop hg.2 hnn)

/-- `I` is concluded for the store BEFORE the closed chunks an accepted purge drops after journalling its
record are dropped (second disjunct): what dropping keeps is the caller's to say. -/
theorem call_ghost {G : Type} {gop : G → RefLog → Op → G → Prop}
    {grec : G → Store → RefLog → RefLog → Record → G → Prop} (hG : CallGhost gop grec)
    {I : G → RefLog → Store → Fs → Worker → Prop} {op : Op} (fsHas : Nat → Bool)
    (abs : ∀ {g r s fs w}, I g r s fs w → Abs s r)
    (applied : ∀ {g g' r r' s fs w rec}, I g r s fs w → StepOK s r r' rec →
      (op.WF → s.st.WF → (∀ e ∈ s.log, e.2.id.WF) → rec.WF) → grec g s r r' rec g' →
      I g' r' (s.applied rec r'.state) fs w)
    (rotated : ∀ {g r s fs w}, I g r s fs w → s.isOpenFull = true →
      I g r s.rotated (effFs (rotateEffs s) fs) (w.push (effQ (rotateEffs s))))
    {g g' : G} {s : Store} {fs : Fs} {w : Worker} {r r' : RefLog} (h : I g r s fs w)
    (hfs : ∀ i, s.openEnd ≤ i → fsHas i = false)
    (hl : r.legal op = true) (hc : r.call op = .ok r') (hsm : op.small) (hg : gop g r op g') :
    ∃ seg s1 effs, I g' r' s1 (effFs effs fs) (w.push (effQ effs)) ∧ Growth0 s s1 effs ∧
      (s.call fsHas op = (.ok seg, s1, effs) ∨
        ∃ upto, op = .purge upto ∧ ¬ upto.index < nextIndex r.purged ∧ r' = r.purged' upto ∧
          s.call fsHas op = (.ok seg, s1.popped upto, effs)) := by
  -- one record: applied, then the full chunk is closed
  have step : ∀ {g g' : G} {r r' : RefLog} {s : Store} {fs : Fs} {w : Worker} {rec : Record}
      {fsHas : Nat → Bool}, I g r s fs w → (∀ i, s.openEnd ≤ i → fsHas i = false) → StepOK s r r' rec →
      (op.WF → s.st.WF → (∀ e ∈ s.log, e.2.id.WF) → rec.WF) → grec g s r r' rec g' →
      ∃ seg s' effs, s.appendAndApply fsHas rec = (.ok seg, s', effs) ∧
        I g' r' s' (effFs effs fs) (w.push (effQ effs)) ∧ Growth0 s s' effs := by
    intro g g' r r' s fs w rec fsHas h hfs ok hw hgr
    have gr := (appendAndApply_growth s rec hfs).1
    rw [ok.result (abs h).pf hfs] at gr
    exact ⟨_, _, _, ok.result (abs h).pf hfs,
      Store.closeFull_inv (I := I g' r') rotated (applied h ok hw hgr), gr⟩
  have ha := abs h
  apply call_elim fsHas (P := fun res => ∃ seg s1 effs, I g' r' s1 (effFs effs fs) (w.push (effQ effs)) ∧
    Growth0 s s1 effs ∧ (res = (.ok seg, s1, effs) ∨ ∃ upto, op = .purge upto ∧
      ¬ upto.index < nextIndex r.purged ∧ r' = r.purged' upto ∧ res = (.ok seg, s1.popped upto, effs)))
    ha hfs hl hc hsm
  case plain =>
    intro rec ok hk hw hna hnp hent hlast hpu
    obtain ⟨seg, s', effs, heq, hi, hgr⟩ := step h hfs ok (fun hop hst _ => hw hop hst)
      (hG.single ha hg hl hc hna (fun u e => absurd e (hnp u)) (.inl ⟨hk, hent, hlast, hpu⟩))
    exact ⟨seg, s', effs, hi, hgr, .inl heq⟩
  case batch =>
    rintro es seg0 rfl
    obtain ⟨seg', s', effs', heq, ⟨g1, hg1, hi, _⟩, hgr⟩ := appendBatch_induct
      (Q := fun es' s r effs => ∃ g1, gop g1 r (.append es') g' ∧
        I g1 r s (effFs effs fs) (w.push (effQ effs)) ∧
        ∀ e ∈ es', (Op.append es).WF → e.1.WF ∧ bytesWF e.2)
      (fun id p rest s r r1 effs fsHas ⟨g1, hg1, hq, hwf⟩ hfs hc1 hsm1 => by
        obtain ⟨g2, hr2, hg2⟩ := hG.cons (abs hq) hg1 hc1
        obtain ⟨_, s1, e1, heq1, hi1, hgr1⟩ := step hq hfs (stepOK_append1 (abs hq) hc1 hsm1)
          (fun hop _ _ => hwf (id, p) List.mem_cons_self hop) hr2
        rw [← effFs_append, Worker.push_push, ← effQ_append] at hi1
        exact ⟨_, s1, e1, heq1, hgr1, g2, hg2, hi1, fun e he => hwf e (List.mem_cons_of_mem _ he)⟩)
      es s r r' fsHas seg0 [] ⟨g, hg, by simpa [effFs, effQ] using h, fun e he hop => hop e he⟩ hfs hc hsm
    obtain rfl := hG.nil hg1
    exact ⟨seg', s', effs', by simpa using hi, hgr, .inl (by simpa using heq)⟩
  case trunc =>
    intro o harg hr' ok hw hna hnp
    obtain ⟨seg, s', effs, heq, hi, hgr⟩ := step h hfs ok (fun _ hst hlog => hw hst hlog)
      (hG.single ha hg hl hc hna (fun u e => absurd e (hnp u)) (.inr (.inl ⟨o, rfl, harg, hr'⟩)))
    exact ⟨seg, s', effs, hi, hgr, .inl heq⟩
  case noop =>
    rintro seg0 rfl ⟨upto, rfl, hnn⟩
    obtain rfl := hG.noop hg hnn
    exact ⟨seg0, s, [], by simpa [effFs, effQ] using h, .refl s, .inl rfl⟩
  case purge =>
    rintro upto rfl hnn hr' ok seg s1 effs heq
    obtain ⟨_, _, _, heq', hi, hgr⟩ := step h hfs ok (fun hop _ _ => hop)
      (hG.single ha hg hl hc (fun _ e => nomatch e) (fun u e => Op.purge.inj e ▸ hnn)
        (.inr (.inr ⟨upto, rfl, hl, hnn, hr'⟩)))
    rw [heq] at heq'
    cases heq'
    exact ⟨seg, s1, effs, hi, hgr, .inr ⟨upto, rfl, hnn, hr', rfl⟩⟩

/-- The case without a ghost, of an invariant that is also kept when the closed chunks an accepted
purge has made obsolete are dropped. -/
theorem call_accepted {I : RefLog → Store → Fs → Worker → Prop} {op : Op} (fsHas : Nat → Bool)
    (abs : ∀ {r s fs w}, I r s fs w → Abs s r)
    (applied : ∀ {r r' s fs w rec}, I r s fs w → StepOK s r r' rec →
      (op.WF → s.st.WF → (∀ e ∈ s.log, e.2.id.WF) → rec.WF) → I r' (s.applied rec r'.state) fs w)
    (rotated : ∀ {r s fs w}, I r s fs w → s.isOpenFull = true →
      I r s.rotated (effFs (rotateEffs s) fs) (w.push (effQ (rotateEffs s))))
    (popped : ∀ {r s fs w} (upto : LogId), I r s fs w →
      (∀ e ∈ s.log, optLt (some upto) (some e.2.id) = true) → I r (s.popped upto) fs w)
    {s : Store} {fs : Fs} {w : Worker} {r r' : RefLog} (h : I r s fs w)
    (hfs : ∀ i, s.openEnd ≤ i → fsHas i = false)
    (hl : r.legal op = true) (hc : r.call op = .ok r') (hsm : op.small) :
    ∃ seg s' effs, s.call fsHas op = (.ok seg, s', effs) ∧
      I r' s' (effFs effs fs) (w.push (effQ effs)) ∧ Growth0 s s' effs := by
  obtain ⟨seg, s1, effs, hi, hgr, heq | ⟨upto, rfl, _, rfl, heq⟩⟩ :=
    call_ghost CallGhost.unit (I := fun _ => I) (g := ()) (g' := ()) fsHas abs
      (fun h ok hw _ => applied h ok hw) rotated h hfs hl hc hsm trivial
  · exact ⟨seg, s1, effs, heq, hi, hgr⟩
  · exact ⟨seg, _, effs, heq, popped upto hi (abs hi).purged_above, ⟨hgr.openEnd, hgr.creates⟩⟩

end RaftLog
