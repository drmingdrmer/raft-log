/-
For Props/AnyHistory.lean: `AppendsFresh` passes from a history to its normal form (`normalizeC6N`). Beside that
the normal form of `a ++ b` (`normalize_split_ANY`), and the hypotheses of `a ++ b` pass to `a` (`prefix_hyps_ANY`).
The file imports Props/C07Trunc.lean for the definition `appendedIdsC7b` (and `c07t_appendsFresh_iff`).
-/
import RaftLogModel.Proofs.C06Normal
import RaftLogModel.Props.C07Trunc
namespace RaftLog

theorem normalize_split_ANY (a b : List Step) :
    (normalizeC6N {} (a ++ b)).1 =
      (normalizeC6N {} a).1 ++ (normalizeC6N (normalizeC6N {} a).2 b).1 := by
  rw [normalize_append_C6N]

theorem prefix_hyps_ANY (cfg : Cfg) (a b : List Step)
    (hsteps : ∀ st ∈ a ++ b, st.journal = true) (hwf : ∀ op ∈ stepOps (a ++ b), op.WF)
    (hpurge : purgesLegalC6N {} (a ++ b) = true)
    (halive : ((Sys.fresh cfg).run (a ++ b)).worker.pc ≠ .dead) :
    (∀ st ∈ a, st.journal = true) ∧ (∀ op ∈ stepOps a, op.WF) ∧
    purgesLegalC6N {} a = true ∧ ((Sys.fresh cfg).run a).worker.pc ≠ .dead :=
  (normalize_prefix_C6N (fresh_CSys cfg) (Sys.fresh_settled cfg) a b hsteps hwf hpurge halive).1

theorem appendedIds_append_ANY (a b : List Op) :
    appendedIdsC7b (a ++ b) = appendedIdsC7b a ++ appendedIdsC7b b := by
  induction a with
  | nil => rfl
  | cons op rest ih =>
    cases op <;> simp only [List.cons_append, appendedIdsC7b, ih, List.append_assoc]

theorem appendedIds_cons_ANY (st : Step) (l : List Step) :
    appendedIdsC7b (stepOps (st :: l)) = appendedIdsC7b (stepOps [st]) ++ appendedIdsC7b (stepOps l) := by
  rw [stepOps_cons, appendedIds_append_ANY]

/-- Normalisation only removes appended ids. -/
theorem NormRelC6N.appendedIds {a b : List Step} (h : NormRelC6N a b) :
    (appendedIdsC7b (stepOps b)).Sublist (appendedIdsC7b (stepOps a)) := by
  induction h with
  | nil => exact .refl _
  | @keep st a b _ ih =>
    rw [appendedIds_cons_ANY st a, appendedIds_cons_ANY st b]
    exact (List.Sublist.refl _).append ih
  | @remove op a b _ ih =>
    rw [appendedIds_cons_ANY _ a]
    exact ih.trans (List.sublist_append_right _ _)
  | @cut pre post a b _ ih =>
    rw [appendedIds_cons_ANY _ a, appendedIds_cons_ANY _ b]
    refine List.Sublist.append ?_ ih
    simp only [stepOps, appendedIdsC7b, List.append_nil, List.map_append]
    exact List.sublist_append_left _ _

theorem acceptedPrefix_prefix_ANY (es : List (LogId × Bytes)) (r : RefLog) :
    (acceptedPrefixC6N r es).1 <+: es :=
  acceptedPrefix_prefix_C6N es r

theorem consOpt_eq_append_ANY (o : Option Step) (l : List Step) :
    consOptC6N o l = consOptC6N o [] ++ l := by
  cases o <;> rfl

theorem normStep_appendedIds_ANY (r : RefLog) (st : Step) :
    (appendedIdsC7b (stepOps (consOptC6N (normStepC6N r st).1 []))).Sublist
      (appendedIdsC7b (stepOps [st])) :=
  (normalize_rel_C6N [st] r).appendedIds

theorem normalize_appendedIds_ANY (steps : List Step) (r : RefLog) :
    (appendedIdsC7b (stepOps (normalizeC6N r steps).1)).Sublist (appendedIdsC7b (stepOps steps)) :=
  (normalize_rel_C6N steps r).appendedIds

theorem appendsFresh_normalize_ANY (steps : List Step) (r : RefLog)
    (h : AppendsFresh steps = true) : AppendsFresh (normalizeC6N r steps).1 = true := by
  rw [c07t_appendsFresh_iff] at h ⊢
  exact h.sublist (normalize_appendedIds_ANY steps r)

end RaftLog
