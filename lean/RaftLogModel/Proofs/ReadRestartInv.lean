/-
C07 across restarts: the closed-chunk invariant `ClosedOKC7c B s` is what makes `open` safe for readers.
`open` sets the eviction boundary to the closing `last` of the chunk before the one it replays; for the last
chunk (reused as the open chunk) this is the closing `last` of the last closed chunk, and every entry of the
open chunk must stay resident. It rides along with `RdInvC7b` through every call (`ClosedOKC7c.rider`);
`ReadInvC7c` is the system-level invariant with it, re-established by drop + open from a clean state with ANY
configuration (`RdInvC7b.of_open`, `restart_readInv_C7c`).
-/
import RaftLogModel.Proofs.ReadTrunc
import RaftLogModel.Proofs.ReplayRestart
import RaftLogModel.Proofs.ReadRestartCache
import RaftLogModel.Proofs.ReadNoPanic
namespace RaftLog

/-- For every closed chunk `c`: `c.state.last ≤ B`, and every index entry with
id at or below `c.state.last` was journalled into `c` or an older chunk
(`chunk < c.id + 1`, so that it is an `EntOKC7b` like the worker's file entries). -/
def ClosedOKC7c (B : Option LogId) (s : Store) : Prop :=
  ∀ c ∈ s.closed, EntOKC7b B s (c.id + 1) c.state.last

theorem ClosedOKC7c.step {B B' : Option LogId} {s s' : Store} (h : ClosedOKC7c B s)
    (hB : optLe B B' = true) (hc : s'.closed = s.closed)
    (hlog : ∀ x ∈ s'.log, x ∈ s.log ∨ optLe (some x.2.id) B = false) : ClosedOKC7c B' s' := by
  intro c hcm
  rw [hc] at hcm
  exact (h c hcm).step hB hlog

theorem ClosedOKC7c.congr {B : Option LogId} {s s' : Store} (h : ClosedOKC7c B s)
    (hc : s'.closed = s.closed) (hl : s'.log = s.log) : ClosedOKC7c B s' := by
  intro c hcm
  rw [hc] at hcm
  exact (h c hcm).congr hl

theorem ClosedOKC7c.weaken {B B' : Option LogId} {s : Store} (h : ClosedOKC7c B s)
    (hB : optLe B B' = true) : ClosedOKC7c B' s :=
  fun c hc => ⟨optLe_trans (h c hc).1 hB, (h c hc).2⟩

theorem ClosedOKC7c.applied {B B' : Option LogId} {s : Store} {rec : Record} {st' : RState}
    (h : ClosedOKC7c B s) (hB : optLe B B' = true)
    (hfr : ∀ id p, rec = .append id p → optLe (some id) B = false) :
    ClosedOKC7c B' (s.applied rec st') := by
  apply h.step (s' := s.applied rec st') hB rfl
  intro x hx
  rcases idxLog_mem hx with h1 | ⟨id, p, hrec, rfl⟩
  · exact .inl h1
  · exact .inr (hfr id p hrec)

theorem ClosedOKC7c.rotate {B : Option LogId} {s : Store} {fs : Fs} {w : Worker} {r : RefLog}
    (h : ClosedOKC7c B s) (hj : JInv s fs w) (hr : RdInvC7b B s fs w r) : ClosedOKC7c B s.rotated := by
  intro c hc
  have hc' : c ∈ s.closed ∨ c = ⟨s.openOffsets, s.st⟩ := by
    simpa using hc
  rcases hc' with h1 | h1
  · exact (h c h1).congr rfl
  · subst h1
    refine ⟨hr.lastB, fun x hx _ => ?_⟩
    have := hr.chunk_le hj (x := x) hx
    show x.2.chunk < s.openId + 1
    omega

theorem ClosedOKC7c.dropObsolete {B : Option LogId} {s : Store} (upto : LogId) (h : ClosedOKC7c B s) :
    ClosedOKC7c B (s.popped upto) := by
  obtain ⟨k, _, h2, _, _⟩ := popObsolete_spec upto s.closed
  intro c hc
  have hc' : c ∈ (popObsolete upto s.closed).2 := hc
  rw [h2] at hc'
  exact (h c (List.mem_of_mem_drop hc')).congr rfl

theorem ClosedOKC7c.entOK {B : Option LogId} {s : Store} {fs : Fs} {w : Worker}
    (h : ClosedOKC7c B s) (hj : JInv s fs w) {p : Option LogId}
    (hp : p = none ∨ ∃ c ∈ s.closed, p = c.state.last) : EntOKC7b B s s.openId p := by
  rcases hp with h0 | ⟨c, hc, h0⟩
  · rw [h0]; exact ⟨by simp, fun x _ hle => by simp at hle⟩
  · rw [h0]
    have := hj.closed_lt hc
    exact (h c hc).mono (by omega)

theorem ClosedOKC7c.rider : Rider ClosedOKC7c :=
  ⟨fun h hB hfr => h.applied hB hfr, fun h hj hr => h.rotate hj hr, fun upto h => h.dropObsolete upto,
    fun h hc hl => h.congr hc hl⟩

def ReadInvC7c (y : Sys) (r : RefLog) (m : Option LogId) : Prop :=
  ∃ s, y.store = some s ∧ y.worker.pc ≠ .dead ∧ JInv s y.fs y.worker ∧
    RdInvC7b (optMaxC7b m r.purged) s y.fs y.worker r ∧ r.EntriesWF ∧
    ClosedOKC7c (optMaxC7b m r.purged) s

theorem readInvC7c_iff {y : Sys} {r : RefLog} {m : Option LogId} :
    ReadInvC7c y r m ↔ ReadInvK ClosedOKC7c y r m :=
  ⟨fun ⟨s, hs, hd, hj, hr, hew, hk⟩ => ⟨⟨s, hs, hd, hj, hr, hk⟩, hew⟩,
    fun ⟨⟨s, hs, hd, hj, hr, hk⟩, hew⟩ => ⟨s, hs, hd, hj, hr, hew, hk⟩⟩

theorem ReadInvC7c.toC7b {y : Sys} {r : RefLog} {m : Option LogId} (h : ReadInvC7c y r m) :
    ReadInvC7b y r m :=
  (readInvC7c_iff.1 h).toC7b

theorem ReadInvC7c.call {y : Sys} {r r' : RefLog} {m m' : Option LogId} {op : Op} (h : ReadInvC7c y r m)
    (hl : r.legal op = true) (hc : r.call op = .ok r') (hsm : op.small) (hwf : op.WF)
    (hfr : freshOpC7b m op = some m') :
    ReadInvC7c (y.step (.call op)) r' m' ∧ ∃ seg, (y.call op).1 = .ok seg :=
  (ReadInvK.call ClosedOKC7c.rider (readInvC7c_iff.1 h) hl hc hsm hwf hfr).imp_left readInvC7c_iff.2

theorem ReadInvC7c.flush {y : Sys} {r : RefLog} {m : Option LogId} (h : ReadInvC7c y r m)
    (cb : Option Nat) : ReadInvC7c (y.step (.flush cb)) r m :=
  readInvC7c_iff.2 (ReadInvK.flush ClosedOKC7c.rider (readInvC7c_iff.1 h) cb)

theorem ReadInvC7c.worker {y : Sys} {r : RefLog} {m : Option LogId} (h : ReadInvC7c y r m)
    (out : Outcome) (hnd : (y.step (.worker out)).worker.pc ≠ .dead) :
    ReadInvC7c (y.step (.worker out)) r m :=
  readInvC7c_iff.2 (ReadInvK.worker ClosedOKC7c.rider (readInvC7c_iff.1 h) out hnd)

theorem ReadInvC7c.workerIdle {y : Sys} {r : RefLog} {m : Option LogId} (h : ReadInvC7c y r m)
    (hnd : (y.step .workerIdle).worker.pc ≠ .dead) : ReadInvC7c (y.step .workerIdle) r m :=
  readInvC7c_iff.2 (ReadInvK.workerIdle ClosedOKC7c.rider (readInvC7c_iff.1 h) hnd)

theorem ReadInvC7c.drain {y : Sys} {r : RefLog} {m : Option LogId} (h : ReadInvC7c y r m) :
    ReadInvC7c (y.step .drain) r m :=
  readInvC7c_iff.2 (ReadInvK.drain ClosedOKC7c.rider (readInvC7c_iff.1 h))

theorem fresh_readInv_C7c (cfg : Cfg) : ReadInvC7c (Sys.fresh cfg) {} none :=
  readInvC7c_iff.2 (fresh_readInvK cfg nofun)

theorem run_readInv_C7c (steps : List Step) (y : Sys) (r r' : RefLog) (m m' : Option LogId)
    (h : ReadInvC7c y r m) (hsteps : ∀ st ∈ steps, st.journal = true)
    (hr : r.run (stepOps steps) = some r') (hops : ∀ op ∈ stepOps steps, op.small ∧ op.WF)
    (hfr : freshOpsC7b m (stepOps steps) = some m') (hnd : (y.run steps).worker.pc ≠ .dead) :
    ReadInvC7c (y.run steps) r' m' ∧
    ∀ pre op post, steps = pre ++ Step.call op :: post → ∃ seg, ((y.run pre).call op).1 = .ok seg :=
  (ReadInvK.run ClosedOKC7c.rider steps y r r' m m' (readInvC7c_iff.1 h) hsteps hr hops hfr hnd).imp_left
    readInvC7c_iff.2

theorem located_of_op_C7c {s : Store} {fs : Fs} {w : Worker} {jc : List (Closed × List Record)}
    {jo : List Record} (g : RepG s fs w jc jo) {x : Nat × LogData} {p : Bytes}
    (h : opAt x p ∈ allOps s jc jo) : Located s fs w x.2 (encRecord (.append x.2.id p)) := by
  obtain ⟨hl, _, pre, post, hb, hoff, hsz⟩ := g.op_located h
  simp only [opAt] at hl hb hoff hsz
  exact ⟨hl, by omega, hsz, pre, post, hb, by omega⟩

theorem pairwise_split_lt_C7c {α : Type} (f : α → Nat) {a : List α} {b : α} {c : List α} {t : List Nat}
    (h : ((a ++ b :: c).map f ++ t).Pairwise (· < ·)) :
    (∀ x ∈ a, f x < f b) ∧ (∀ x ∈ c, f b < f x) ∧ (∀ y ∈ t, f b < y) := by
  simp only [List.map_append, List.map_cons, List.append_assoc, List.cons_append] at h
  rw [List.pairwise_append] at h
  obtain ⟨_, h2, h3⟩ := h
  rw [List.pairwise_cons] at h2
  refine ⟨fun x hx => ?_, fun x hx => ?_, fun y hy => ?_⟩
  · exact h3 (f x) (List.mem_map.mpr ⟨x, hx, rfl⟩) (f b) List.mem_cons_self
  · exact h2.1 (f x) (List.mem_append_left _ (List.mem_map.mpr ⟨x, hx, rfl⟩))
  · exact h2.1 y (List.mem_append_right _ hy)

/-- The journal split at closed chunk `c`: `Q` the ops up to and including `c`, `R` the rest. -/
structure JournalSplitC7c (s : Store) (jc : List (Closed × List Record)) (jo : List Record) (c : Closed)
    (Q R : List JOp) (l1 : Log) : Prop where
  ops_eq : allOps s jc jo = Q ++ R
  ne : Q ≠ []
  stLo : stRunO Q {} = some c.state
  stHi : stRunO R c.state = some s.st
  idx : idxRun R l1 = some s.log
  below : ∀ e ∈ l1, optLe (some e.2.id) c.state.last = true
  chunkLo : ∀ op ∈ Q, op.chunk ≤ c.id
  chunkHi : ∀ op ∈ R, c.id < op.chunk

/-- Split `RepC` at `c` (`RepC.split`, `.unsnoc`); the chunk bounds come from the sortedness of the chunk ids
(`pairwise_split_lt_C7c`). -/
theorem journal_split_C7c {s : Store} {fs : Fs} {w : Worker} {jc : List (Closed × List Record)}
    {jo : List Record} (g : RepG s fs w jc jo) (hj : JInv s fs w) {c : Closed} (hc : c ∈ s.closed) :
    ∃ Q R l1, JournalSplitC7c s jc jo c Q R l1 := by
  rw [← g.closedEq] at hc
  obtain ⟨q, hq, hqc⟩ := List.mem_map.mp hc
  obtain ⟨pre, post, hsplit⟩ := List.append_of_mem hq
  obtain ⟨c0, rs⟩ := q
  simp only at hqc
  subst hqc
  obtain ⟨stC, lC, g1, g2, g3, _⟩ := g.run
  have g1' := g1
  rw [hsplit, List.append_cons] at g1'
  obtain ⟨st1, l1, ka, _, k4⟩ := RepC.split g1'
  obtain ⟨_, _, _, _, _, rfl, k3, _⟩ := ka.unsnoc
  have k1 := ka.st
  have k2 := ka.idx
  have hs := hj.chunkIds_sorted
  rw [Store.chunkIds_eq, ← g.closedEq, hsplit, List.map_map] at hs
  obtain ⟨s1, s2, s3⟩ := pairwise_split_lt_C7c (fun q : Closed × List Record => q.1.id) hs
  have hrs : rs ≠ [] := by
    obtain ⟨x, tl, e⟩ := (g.closedRecs (c0, rs) hq).head
    simp only at e
    rw [e]; simp
  refine ⟨flatOps (pre ++ [(c0, rs)]), flatOps post ++ chunkOps s.openId jo, l1, ?_, ?_, ?_, ?_, ?_, k3, ?_, ?_⟩
  · simp only [allOps, hsplit, flatOps_append, flatOps, List.append_nil, List.append_assoc]
  · simp only [flatOps_append, flatOps, List.append_nil]
    intro h
    have := (List.append_eq_nil_iff.mp h).2
    cases rs with
    | nil => exact hrs rfl
    | cons r rs' => simp [chunkOps, opsFrom] at this
  · rw [stRunO, flatOps_map_r]; exact k1
  · rw [stRunO, List.map_append, flatOps_map_r]
    simp only [chunkOps, opsFrom_map_r]
    rw [stRun_append, k4.st]; exact g2
  · rw [idxRun_append, k4.idx]; exact g3
  · intro op hop
    obtain ⟨q, hq', hop'⟩ := mem_flatOps.mp hop
    rw [opsFrom_chunk_C7c hop']
    rcases List.mem_append.mp hq' with h1 | h1
    · exact Nat.le_of_lt (s1 q h1)
    · simp only [List.mem_singleton] at h1; subst h1; exact Nat.le_refl _
  · intro op hop
    rcases List.mem_append.mp hop with h1 | h1
    · obtain ⟨q, hq', hop'⟩ := mem_flatOps.mp h1
      rw [opsFrom_chunk_C7c hop']
      exact s2 q hq'
    · rw [opsFrom_chunk_C7c h1]
      exact s3 s.openId (by simp)

theorem clast_of_journal_C7c {s : Store} {fs : Fs} {w : Worker} {jc : List (Closed × List Record)}
    {jo : List Record} (g : RepG s fs w jc jo) (hj : JInv s fs w) :
    ∀ x ∈ s.log, ∀ c ∈ s.closed, c.id = x.2.chunk → optLe (some x.2.id) c.state.last = true := by
  intro x hx c hc hid
  obtain ⟨Q, R, l1, J⟩ := journal_split_C7c g hj hc
  rcases idxRun_srcRN J.idx x hx with k | ⟨p, hp⟩
  · exact J.below x k
  · have := J.chunkHi _ hp
    simp only [opAt] at this
    omega

/-- Under the replay invariant the location of every live entry and the closing `last`s are read off the
journal; what `open` adds is the cache (`OpenedC7c`) and a worker that tracks only the open chunk's file, with
the closing `last` of the last closed chunk. -/
theorem RdInvC7b.of_open {B : Option LogId} {s : Store} {fs : Fs} {w : Worker} {r : RefLog}
    (hinv : RInv s fs w r) (hc : OpenedC7c s r) (hk : ClosedOKC7c B s)
    (hlast : optLe s.st.last B = true)
    (hw : w = { files := [⟨s.openId, prevLastOf s.closed⟩] }) : RdInvC7b B s fs w r := by
  obtain ⟨jc, jo, g, gp, _⟩ := hinv.rep
  have hj := hinv.j
  have hcur : w.cur = s.openId := by subst hw; simp [Worker.cur, newestId]
  have hfents : w.fents = [⟨s.openId, prevLastOf s.closed⟩] := by
    subst hw; simp [Worker.fents, WPc.held, reqEnts]
  have hbnd := hk.entOK hj hc.bnd
  have hloc : ∀ x ∈ s.log, ∃ p, (x.2.id, p) ∈ r.entries ∧
      Located s fs w x.2 (encRecord (.append x.2.id p)) := fun x hx =>
    let ⟨p, hp⟩ := g.pts x hx
    ⟨p, gp x hx p hp, located_of_op_C7c g hp⟩
  refine ⟨.of_abs hinv.abs hc.cinv,
    cval_of_log_C7c hinv.abs.log hinv.abs.wf hc.val, hloc, clast_of_journal_C7c g hj, ?_,
    by rw [hcur]; exact hbnd, ?_, hlast⟩
  · -- an entry of the open chunk is above the boundary, hence resident
    intro x hx
    rw [hcur]
    obtain ⟨p, _, hl, _⟩ := hloc x hx
    rcases hl with h1 | ⟨c, hcm, h1⟩
    · left
      apply hc.res x hx h1
      cases hb : optLe (some x.2.id) s.cache.lastEvictable with
      | false => rfl
      | true =>
        have := hbnd.2 x hx hb
        omega
    · right
      have := hj.closed_lt hcm
      omega
  · intro f hf
    rw [hfents] at hf
    simp only [List.mem_singleton] at hf
    subst hf
    exact hk.entOK hj (prevLastOf_cases s.closed)

theorem restart_readInv_C7c (y : Sys) (r : RefLog) (m : Option LogId) (cfg' : Cfg)
    (h : ReadInvC7c y r m) (hC : CSys y r) (hcl : y.Clean) :
    ReadInvC7c ((y.step .drop).step (.openWith cfg')) r m ∧
      CSys ((y.step .drop).step (.openWith cfg')) r := by
  obtain ⟨s, s1, c, k⟩ := restart_eq_LIFT hC hcl cfg'
  obtain ⟨s0, hs0, _, _, hr, hew, hk⟩ := h
  rw [c.store] at hs0; cases hs0
  have hC2 := restart_CSys hC hcl cfg'
  refine ⟨?_, hC2⟩
  have hc := openStore_ck_C7c cfg' c.rinv c.inflight c.pending c.linked k.openStore_eq
  obtain ⟨⟨s2, hs2, hd2, hinv2⟩, _⟩ := hC2
  rw [k.sys] at hs2 hd2 hinv2 ⊢
  obtain rfl := Option.some.inj hs2
  have e1 : s1.openId = s.openId := by simp [Store.openId, k.openOffsets]
  have hk' : ClosedOKC7c (optMaxC7b m r.purged) s1 := hk.congr k.closed k.log
  exact ⟨s1, rfl, hd2, hinv2.j,
    .of_open hinv2 hc hk' (by rw [k.st]; exact hr.lastB) (by rw [e1, k.closed]), hew, hk'⟩

end RaftLog
