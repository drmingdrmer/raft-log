/-
C02 groundwork: a cache-free refinement relation. `Abs s r` says the
state and the index map of the store are those of the reference log `r`;
nothing is said about the payload cache (so it survives `drain`, eviction and
any cache limits). `StepOK s r r' rec` bundles what journalling the record `rec`
needs in order to move from `r` to `r'`; it is established for every record a
legal, accepted, small op journals.
-/
import RaftLogModel.Proofs.ReplayLog
import RaftLogModel.Proofs.Refine
namespace RaftLog

structure Abs (s : Store) (r : RefLog) : Prop where
  st : s.st = r.state
  log : logKeys s.log = entKeys r.entries
  wf : r.WF
  pf : PanicFree s

theorem Refines.abs {s : Store} {r : RefLog} (h : Refines s r) : Abs s r :=
  ⟨h.st, h.log, h.wf, h.pf⟩

theorem Abs.of_fields {s s2 : Store} {r : RefLog} (h : Abs s r) (h1 : s2.st = s.st)
    (h2 : s2.log = s.log) (h4 : s2.openOffsets = s.openOffsets) : Abs s2 r :=
  ⟨by rw [h1]; exact h.st, by rw [h2]; exact h.log, h.wf,
    h.pf.of_fields h4 h1 h2⟩

theorem Abs.mem_log {s : Store} {r : RefLog} (h : Abs s r) {e : Nat × LogData} (he : e ∈ s.log) :
    ∃ a ∈ r.entries, a.1.index = e.1 ∧ a.1 = e.2.id := by
  have : (e.1, e.2.id) ∈ logKeys s.log := List.mem_map.mpr ⟨e, he, rfl⟩
  rw [h.log] at this
  obtain ⟨a, ha, hae⟩ := List.mem_map.mp this
  simp only [Prod.mk.injEq] at hae
  exact ⟨a, ha, hae.1, hae.2⟩

/-- A spec entry has its index entry (the converse of `Abs.mem_log`). -/
theorem mem_log_of_keys {l : List (Nat × LogData)} {es : Items} (h : logKeys l = entKeys es)
    {a : LogId × Bytes} (ha : a ∈ es) : ∃ x ∈ l, x.1 = a.1.index ∧ x.2.id = a.1 := by
  have : (a.1.index, a.1) ∈ logKeys l := h ▸ List.mem_map.mpr ⟨a, ha, rfl⟩
  obtain ⟨x, hx, e⟩ := List.mem_map.mp this
  exact ⟨x, hx, (Prod.mk.inj e).1, (Prod.mk.inj e).2⟩

theorem Abs.last {s : Store} {r : RefLog} (h : Abs s r) : s.st.last = r.last := by rw [h.st]; rfl

theorem Abs.purged {s : Store} {r : RefLog} (h : Abs s r) : s.st.purged = r.purged := by rw [h.st]; rfl

theorem Abs.log_below {s : Store} {r : RefLog} (h : Abs s r) :
    ∀ e ∈ s.log, optLe (some e.2.id) s.st.last = true := by
  intro e he
  obtain ⟨a, ha, _, hid⟩ := h.mem_log he
  have := (h.wf.below a ha).1
  rw [hid] at this
  rw [h.st]
  exact this

theorem Abs.log_above {s : Store} {r : RefLog} (h : Abs s r) :
    ∀ e ∈ s.log, optLt s.st.purged (some e.2.id) = true := by
  intro e he
  obtain ⟨a, ha, _, hid⟩ := h.mem_log he
  have := (h.wf.above a ha).1
  rw [hid] at this
  rw [h.st]
  exact this

theorem Abs.filter {s : Store} {r : RefLog} (h : Abs s r) (f : Nat → Bool) :
    logKeys (s.log.filter (fun e => f e.1)) = entKeys (r.entries.filter (fun e => f e.1.index)) ∧
    ∀ e ∈ s.log.filter (fun e => f e.1), e ∈ s.log ∧
      ∀ p, (e.2.id, p) ∈ r.entries → (e.2.id, p) ∈ r.entries.filter (fun e => f e.1.index) := by
  refine ⟨keys_filter h.log f, fun e he => ?_⟩
  rw [List.mem_filter] at he
  obtain ⟨a, _, hai, haid⟩ := h.mem_log he.1
  exact ⟨he.1, fun p hp => List.mem_filter.2 ⟨hp, by rw [← haid, hai]; exact he.2⟩⟩

/-- What journalling `rec` needs to move the reference log to `r'`. -/
structure StepOK (s : Store) (r r' : RefLog) (rec : Record) : Prop where
  hst : s.st.apply rec = .ok r'.state
  small : rec.small
  hstate : ∀ x, rec = .state x → optSmall x.purged ∧ optSmall x.last
  wf : r'.WF
  hlog : ∀ chunk seg, logKeys (idxLog rec chunk seg s.log) = entKeys r'.entries
  /-- payloads: an index entry either was there before, and then the reference entries with its
  id are kept, or it is the one this (append) record inserts, at this record's segment -/
  pay : ∀ chunk seg, ∀ e ∈ idxLog rec chunk seg s.log,
    (e ∈ s.log ∧ ∀ p, (e.2.id, p) ∈ r.entries → (e.2.id, p) ∈ r'.entries) ∨
    (e.2.off = seg.off ∧ e.2.chunk = chunk ∧ ∃ p, rec = .append e.2.id p)
  newEntry : ∀ id p, rec = .append id p → (id, p) ∈ r'.entries
  check : RecCheck rec s.st s.log

theorem Abs.applied {s : Store} {r r' : RefLog} {rec : Record} (h : Abs s r) (ok : StepOK s r r' rec) :
    Abs (s.applied rec r'.state) r' :=
  ⟨rfl, ok.hlog _ _, ok.wf, h.pf.applied ⟨ok.small, ok.hstate⟩ ok.hst⟩

theorem Abs.rotated {s : Store} {r : RefLog} (h : Abs s r) : Abs s.rotated r :=
  ⟨h.st, h.log, h.wf, h.pf.rotated⟩

theorem StepOK.result {s : Store} {r r' : RefLog} {rec : Record} {fsHas : Nat → Bool}
    (ok : StepOK s r r' rec) (hpf : PanicFree s) (hfs : ∀ i, s.openEnd ≤ i → fsHas i = false) :
    s.appendAndApply fsHas rec = (.ok ⟨s.openEnd, (encRecord rec).length⟩,
      (s.applied rec r'.state).closeFull.1, (s.applied rec r'.state).closeFull.2) :=
  appendAndApply_accepted ok.hst (applyIndex_ne_none ok.small _ _) hpf.ne_nil (hfs _ (Nat.le_add_right _ _))

theorem abs_step {s : Store} {r r' : RefLog} (fsHas : Nat → Bool) {rec : Record}
    (h : Abs s r) (hfs : ∀ i, s.openEnd ≤ i → fsHas i = false) (ok : StepOK s r r' rec) :
    ∃ s' effs, s.appendAndApply fsHas rec = (.ok ⟨s.openEnd, (encRecord rec).length⟩, s', effs) ∧
      Abs s' r' :=
  ⟨_, _, ok.result h.pf hfs, Store.closeFull_store (I := (Abs · r')) Abs.rotated (h.applied ok)⟩

/-- A record that leaves the entries, `last` and `purged` alone. -/
def Record.Plain (s : Store) (rec : Record) : Prop :=
  (∃ v, rec = .saveVote v) ∨ (∃ id, rec = .commit id) ∨
    (∃ x, rec = .state x ∧ x.last = s.st.last ∧ x.purged = s.st.purged)

theorem stepOK_plain {s : Store} {r r' : RefLog} {rec : Record} (h : Abs s r)
    (hst : s.st.apply rec = .ok r'.state) (hkind : rec.Plain s)
    (hent : r'.entries = r.entries) (hpu : r'.purged = r.purged) (hla : r'.last = r.last) :
    StepOK s r r' rec := by
  have hwf : r'.WF := by
    have := h.wf
    exact ⟨by rw [hent]; exact this.mono, by rw [hent, hpu]; exact this.above,
      by rw [hent, hla]; exact this.below, by rw [hpu, hla]; exact this.pl⟩
  obtain ⟨hidx, hsmall, hstate, hnapp, hck⟩ : (∀ chunk seg, idxLog rec chunk seg s.log = s.log) ∧
      rec.small ∧ (∀ x, rec = .state x → x.last = s.st.last ∧ x.purged = s.st.purged) ∧
      (∀ id p, rec ≠ .append id p) ∧ RecCheck rec s.st s.log := by
    rcases hkind with ⟨v, rfl⟩ | ⟨id, rfl⟩ | ⟨x, rfl, h1, h2⟩
    · exact ⟨fun _ _ => rfl, trivial, fun _ hx => (nomatch hx), fun _ _ hx => (nomatch hx), trivial⟩
    · exact ⟨fun _ _ => rfl, trivial, fun _ hx => (nomatch hx), fun _ _ hx => (nomatch hx), trivial⟩
    · exact ⟨fun _ _ => rfl, trivial, fun _ hx => (by cases hx; exact ⟨h1, h2⟩),
        fun _ _ hx => (nomatch hx), h1⟩
  refine ⟨hst, hsmall, fun x hx => ?_, hwf, fun chunk seg => by rw [hidx, hent]; exact h.log,
    fun chunk seg e he => ?_, fun id p hrec => absurd hrec (hnapp id p), hck⟩
  · obtain ⟨h1, h2⟩ := hstate x hx
    exact ⟨by rw [h2]; exact h.pf.purged, by rw [h1]; exact h.pf.last⟩
  · rw [hidx] at he
    exact Or.inl ⟨he, fun p hp => by rw [hent]; exact hp⟩

theorem stepOK_append1 {s : Store} {r r1 : RefLog} {id : LogId} {p : Bytes} (h : Abs s r)
    (hc : r.append1 id p = .ok r1) (hsm : smallId id) : StepOK s r r1 (.append id p) := by
  have hwf1 := RefLog.append1_wf h.wf hc
  obtain ⟨hr1, hnle, hcons, hold, _⟩ := RefLog.append1_facts h.wf hc
  subst hr1
  have hlast : s.st.last = r.last := h.last
  refine ⟨?_, hsm, (by intro x hx; cases hx), hwf1, ?_, ?_, ?_, trivial⟩
  · simp only [RState.apply, RState.append, hlast, hnle, Bool.false_eq_true, if_false]
    cases hl : r.last with
    | none => simp [RefLog.state, h.st, hl]
    | some l =>
      have hsl : optSmall (some l) := by have := h.pf.last; rw [hlast, hl] at this; exact this
      have hci := hcons l hl
      simp only [nextIndexChecked_eq hsl, nextIndex]
      simp [hci, RefLog.state, h.st, hl]
  · intro chunk seg
    have hlt : ∀ e ∈ s.log, e.1 < id.index := by
      intro e he
      obtain ⟨a, ha, hai, _⟩ := h.mem_log he
      have := (hold a ha).2
      omega
    simp only [idxLog]
    rw [logInsert_of_all_lt _ _ _ hlt]
    simp only [logKeys, entKeys, List.map_append, List.map_cons, List.map_nil]
    have := h.log
    simp only [logKeys, entKeys] at this
    rw [this]
  · intro chunk seg e he
    simp only [idxLog] at he
    rcases mem_logInsert he with h1 | h1
    · subst h1
      exact Or.inr ⟨rfl, rfl, p, rfl⟩
    · exact Or.inl ⟨h1, fun q hq => List.mem_append_left _ hq⟩
  · intro id' p' hrec
    injection hrec with h1 h2
    subst h1; subst h2
    exact List.mem_append_right _ (List.mem_singleton.mpr rfl)

theorem stepOK_truncateAfter {s : Store} {r : RefLog} {o : Option LogId} (h : Abs s r)
    (ho : r.TruncArg o) (hsm : optSmall o) : StepOK s r (r.truncateTo o) (.truncateAfter o) := by
  have hwf' := RefLog.truncateTo_wf h.wf ho
  have hkeys := RefLog.truncateTo_keys h.wf ho
  obtain ⟨hk, hp⟩ := h.filter (fun i => decide (i < nextIndex o))
  refine ⟨?_, hsm, (by intro x hx; cases hx), hwf', fun _ _ => hk, fun _ _ e he => .inl (hp e he),
    (by intro id p hrec; cases hrec), ?_⟩
  · simp only [RState.apply, h.st, RState.truncateAfter, RefLog.truncateTo, RefLog.state]
    by_cases hlt : optLt o r.last = true <;> simp [hlt]
  · cases o with
    | none => trivial
    | some key =>
      show ∀ e ∈ s.log, e.1 < key.index + 1 → key.lt e.2.id = false
      intro e he hlt
      obtain ⟨a, ha, hai, haid⟩ := h.mem_log he
      rw [← haid]
      apply hkeys a _ key rfl
      simp only [RefLog.truncateTo, List.mem_filter, nextIndex]
      exact ⟨ha, by rw [hai]; exact decide_eq_true hlt⟩

theorem stepOK_purgeUpto {s : Store} {r : RefLog} {upto : LogId} (h : Abs s r)
    (hl : r.legal (.purge upto) = true) (hnn : ¬ upto.index < nextIndex r.purged)
    (hsm : smallId upto) :
    StepOK s r (r.purged' upto) (.purgeUpto upto) := by
  have hwf' := RefLog.purge_wf h.wf hl hnn
  have hkeys := RefLog.purge_keys h.wf hl hnn
  obtain ⟨hk, hp⟩ := h.filter (fun i => decide (upto.index < i))
  refine ⟨?_, hsm, (by intro x hx; cases hx), hwf', fun _ _ => hk, fun _ _ e he => .inl (hp e he),
    (by intro id p hrec; cases hrec), ?_⟩
  · simp only [RState.apply, h.st, RState.purge, RefLog.state, RefLog.purged']
    by_cases h1 : optLt r.purged (some upto) = true <;>
      by_cases h2 : optLt r.last (some upto) = true <;> simp [h1, h2]
  · show ∀ e ∈ s.log, upto.index < e.1 → upto.lt e.2.id = true
    intro e he hlt
    obtain ⟨a, ha, hai, haid⟩ := h.mem_log he
    rw [← haid]
    exact hkeys a ha (by rw [hai]; exact hlt)

theorem Abs.logGet_of_entryAt {s : Store} {r : RefLog} (h : Abs s r) {i : Nat} {e : LogId × Bytes}
    (he : r.entryAt i = some e) : ∃ d, s.logGet i = some d ∧ d.id = e.1 ∧ smallId d.id := by
  have hk := find_keys_eq (l := s.log) (es := r.entries) h.log i
  unfold RefLog.entryAt at he
  rw [he] at hk
  unfold Store.logGet
  cases hf : s.log.find? (fun e => e.1 = i) with
  | none => rw [hf] at hk; simp at hk
  | some x =>
    rw [hf] at hk
    simp only [Option.map_some, Option.some.injEq] at hk
    exact ⟨x.2, rfl, hk, h.pf.log x (List.mem_of_find?_eq_some hf)⟩

end RaftLog
