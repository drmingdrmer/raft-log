/-
From store, files and worker to the system. `Sys.Live I y`: `y` has a store and a live worker and `I` holds of
store, files and worker. An invariant kept by what happens between calls (`SysFrame`: a flush, `settle`, a worker
step the worker survives, `drain`) and by a call is kept by every step and every history that ends with the
worker alive (`Sys.Live.step`, `Sys.Live.run`): `workerIdle` is worker steps, a dead worker stays dead.
-/
import RaftLogModel.Proofs.CallerMoves
import RaftLogModel.Proofs.WorkerSys
namespace RaftLog

theorem Sys.call_eq (y : Sys) (op : Op) {s : Store} (hs : y.store = some s) (hd : y.worker.pc ≠ .dead) :
    (y.call op).2.1 = { y with store := some (s.call y.fs.has op).2.1,
                               fs := effFs (s.call y.fs.has op).2.2 y.fs,
                               worker := (y.worker.push (effQ (s.call y.fs.has op).2.2)).settle } ∧
    (y.call op).1 = (s.call y.fs.has op).1 := by
  obtain ⟨l1, l2, l3⟩ := applyEffs_live (s.call y.fs.has op).2.2 y.fs y.worker [] hd
  rw [(y.call_some op hs).1, l2, l3]
  exact ⟨rfl, by rw [y.call_result op hs, l1, if_pos rfl]⟩

theorem Sys.flush_eq (y : Sys) (cb : Option Nat) {s : Store} (hs : y.store = some s) (hd : y.worker.pc ≠ .dead) :
    (y.flush cb).2.1 = { y with store := some (s.flush cb).1,
                                fs := effFs (s.flush cb).2 y.fs,
                                worker := (y.worker.push (effQ (s.flush cb).2)).settle } := by
  obtain ⟨l1, l2, l3⟩ := applyEffs_live (s.flush cb).2 y.fs y.worker [] hd
  rw [(y.flush_some cb hs).1, l1, l2, l3, if_pos rfl]

theorem WCtx.runQuiet_dead (n : Nat) (c : WCtx) (h : c.w.pc = .dead) : WCtx.runQuiet n c = c :=
  WCtx.runQuiet_of_quiet n c (by simp [Worker.quiet, h])

theorem Sys.step_dead (y : Sys) (st : Step) (hst : st.journal = true) (h : y.worker.pc = .dead) :
    (y.step st).worker.pc = .dead :=
  Sys.step_worker (I := fun w => w.pc = .dead) (C := fun _ => True) trivial
    (fun c out _ h => by rw [c.step_dead out h]; exact h)
    (fun _ _ _ _ h => Worker.settle_dead _ (by rw [applyEffs_pc]; exact h)) h
    (Step.keepsStore_of_journal hst) fun _ _ => trivial

theorem Sys.run_dead (steps : List Step) : ∀ (y : Sys), (∀ st ∈ steps, st.journal = true) →
    y.worker.pc = .dead → (y.run steps).worker.pc = .dead :=
  fun _ hst h => Sys.run_induct (P := fun y => y.worker.pc = .dead) (C := fun st => st.journal = true)
    Sys.step_dead h hst

/-- For invariants that only survive a step the worker survives: a dead worker stays dead
(`Sys.run_dead`), so it is alive after every step of a journal history that ends alive. -/
theorem Sys.run_induction_alive {P : Sys → Prop} (steps : List Step)
    (hj : ∀ st ∈ steps, st.journal = true)
    (hstep : ∀ y, ∀ st ∈ steps, P y → (y.step st).worker.pc ≠ .dead → P (y.step st)) :
    ∀ y, P y → (y.run steps).worker.pc ≠ .dead → P (y.run steps) := by
  induction steps with
  | nil => exact fun _ h _ => h
  | cons st rest ih =>
    intro y h hnd
    have hrest := fun st hm => hj st (List.mem_cons_of_mem _ hm)
    exact ih hrest (fun y st hm => hstep y st (List.mem_cons_of_mem _ hm)) _
      (hstep y st List.mem_cons_self h (fun hd => hnd (Sys.run_dead rest _ hrest hd))) hnd

def Sys.Live (I : Store → Fs → Worker → Prop) (y : Sys) : Prop :=
  ∃ s, y.store = some s ∧ y.worker.pc ≠ .dead ∧ I s y.fs y.worker

theorem Sys.Live.imp {I K : Store → Fs → Worker → Prop} {y : Sys} (h : y.Live I)
    (hk : ∀ {s fs w}, I s fs w → K s fs w) : y.Live K :=
  Exists.imp (fun _ h => ⟨h.1, h.2.1, hk h.2.2⟩) h

theorem Sys.Live.of_store {I : Store → Fs → Worker → Prop} {y : Sys} {s : Store} (h : y.Live I)
    (hs : y.store = some s) : y.worker.pc ≠ .dead ∧ I s y.fs y.worker := by
  obtain ⟨s0, hs0, hd, hi⟩ := h
  cases hs0.symm.trans hs
  exact ⟨hd, hi⟩

theorem Sys.Live.fresh {I : Store → Fs → Worker → Prop} {cfg : Cfg}
    (h : I (Store.fresh cfg) Fs.fresh Worker.fresh) : (Sys.fresh cfg).Live I := by
  rw [Sys.fresh_eq]
  exact ⟨_, rfl, by simp, h⟩

/-- What happens to store, files and worker between calls keeps `I`. -/
structure SysFrame (I : Store → Fs → Worker → Prop) : Prop where
  flush : ∀ {s fs w} (cb : Option Nat), I s fs w →
    I (s.flush cb).1 (effFs (s.flush cb).2 fs) (w.push (effQ (s.flush cb).2))
  settle : ∀ {s fs w}, I s fs w → I s fs w.settle
  /-- a worker step that leaves the worker alive; it may move the cache's eviction boundary -/
  wstep : ∀ {s : Store} {c : WCtx} (out : Outcome), I s c.fs c.w → s.cache = c.cache →
    (c.step out).w.pc ≠ .dead → I { s with cache := (c.step out).cache } (c.step out).fs (c.step out).w
  drain : ∀ {s fs w}, I s fs w → I { s with cache := s.cache.drainEvictable } fs w

/-- A further invariant `K` on top of `I`: only `K`'s own part is to be shown, with `I` at hand. -/
theorem SysFrame.and {I K : Store → Fs → Worker → Prop} (hI : SysFrame I)
    (flush : ∀ {s fs w} (cb : Option Nat), I s fs w → K s fs w →
      K (s.flush cb).1 (effFs (s.flush cb).2 fs) (w.push (effQ (s.flush cb).2)))
    (settle : ∀ {s fs w}, I s fs w → K s fs w → K s fs w.settle)
    (wstep : ∀ {s : Store} {c : WCtx} (out : Outcome), I s c.fs c.w → K s c.fs c.w → s.cache = c.cache →
      (c.step out).w.pc ≠ .dead → K { s with cache := (c.step out).cache } (c.step out).fs (c.step out).w)
    (drain : ∀ {s fs w}, I s fs w → K s fs w → K { s with cache := s.cache.drainEvictable } fs w) :
    SysFrame fun s fs w => I s fs w ∧ K s fs w where
  flush cb h := ⟨hI.flush cb h.1, flush cb h.1 h.2⟩
  settle h := ⟨hI.settle h.1, settle h.1 h.2⟩
  wstep out h hc hnd := ⟨hI.wstep out h.1 hc hnd, wstep out h.1 h.2 hc hnd⟩
  drain h := ⟨hI.drain h.1, drain h.1 h.2⟩

/-! The steps one by one. Primed: about THIS `y` and the store `s` it holds, to a `K` that may speak of them — for an
invariant with indices a step moves (`HInv`'s counters). An invariant with a `SysFrame` wants
`Sys.Live.step`/`Sys.Live.run`, not these. -/

theorem Sys.Live.call' {I K : Store → Fs → Worker → Prop} {y : Sys} {op : Op} (h : y.Live I)
    (hcall : ∀ {s}, y.store = some s → I s y.fs y.worker →
      K (s.call y.fs.has op).2.1 (effFs (s.call y.fs.has op).2.2 y.fs)
        (y.worker.push (effQ (s.call y.fs.has op).2.2)).settle) : (y.call op).2.1.Live K := by
  obtain ⟨s, hs, hd, hi⟩ := h
  rw [(Sys.call_eq y op hs hd).1]
  exact ⟨_, rfl, mt (Worker.settle_dead_iff _).1 hd, hcall hs hi⟩

theorem Sys.Live.flush' {I K : Store → Fs → Worker → Prop} {y : Sys} (h : y.Live I) (cb : Option Nat)
    (hflush : ∀ {s}, y.store = some s → I s y.fs y.worker →
      K (s.flush cb).1 (effFs (s.flush cb).2 y.fs) (y.worker.push (effQ (s.flush cb).2)).settle) :
    (y.flush cb).2.1.Live K := by
  obtain ⟨s, hs, hd, hi⟩ := h
  rw [Sys.flush_eq y cb hs hd]
  exact ⟨_, rfl, mt (Worker.settle_dead_iff _).1 hd, hflush hs hi⟩

theorem Sys.Live.worker' {I K : Store → Fs → Worker → Prop} {y : Sys} (h : y.Live I) (out : Outcome)
    (hstep : ∀ {s}, y.store = some s → I s y.fs y.worker → ((y.wctx s).step out).w.pc ≠ .dead →
      K { s with cache := ((y.wctx s).step out).cache } ((y.wctx s).step out).fs ((y.wctx s).step out).w)
    (hnd : (y.workerStep out).1.worker.pc ≠ .dead) : (y.workerStep out).1.Live K := by
  obtain ⟨s, hs, _, hi⟩ := h
  rw [y.workerStep_eq out hs] at hnd ⊢
  exact ⟨_, rfl, hnd, hstep hs hi hnd⟩

theorem Sys.Live.drain' {I K : Store → Fs → Worker → Prop} {y : Sys} (h : y.Live I)
    (hdrain : ∀ {s}, y.store = some s → I s y.fs y.worker →
      K { s with cache := s.cache.drainEvictable } y.fs y.worker) : y.drain.Live K := by
  obtain ⟨s, hs, hd, hi⟩ := h
  rw [y.drain_eq hs]
  exact ⟨_, rfl, hd, hdrain hs hi⟩

theorem Sys.Live.call {I K : Store → Fs → Worker → Prop} {y : Sys} {op : Op} (h : y.Live I)
    (hcall : ∀ {s fs w}, I s fs w →
      K (s.call fs.has op).2.1 (effFs (s.call fs.has op).2.2 fs) (w.push (effQ (s.call fs.has op).2.2)))
    (settle : ∀ {s fs w}, K s fs w → K s fs w.settle) : (y.call op).2.1.Live K :=
  h.call' fun _ hi => settle (hcall hi)

theorem Sys.Live.flush {I : Store → Fs → Worker → Prop} (hF : SysFrame I) {y : Sys} (h : y.Live I)
    (cb : Option Nat) : (y.flush cb).2.1.Live I :=
  h.flush' cb fun _ hi => hF.settle (hF.flush cb hi)

theorem Sys.Live.worker {I : Store → Fs → Worker → Prop} (hF : SysFrame I) {y : Sys} (h : y.Live I)
    (out : Outcome) (hnd : (y.workerStep out).1.worker.pc ≠ .dead) : (y.workerStep out).1.Live I :=
  h.worker' out (fun {s} _ hi hnd => hF.wstep (c := y.wctx s) out hi rfl hnd) hnd

theorem Sys.Live.workerIdle {I : Store → Fs → Worker → Prop} (hF : SysFrame I) {y : Sys} (h : y.Live I)
    (hnd : y.workerIdle.1.worker.pc ≠ .dead) : y.workerIdle.1.Live I :=
  Sys.workerIdle_induct (P := (·.Live I)) (fun _ h => h.worker hF .ok) h hnd

theorem Sys.Live.drain {I : Store → Fs → Worker → Prop} (hF : SysFrame I) {y : Sys} (h : y.Live I) :
    y.drain.Live I :=
  h.drain' fun _ hi => hF.drain hi

theorem Sys.Live.step_noncall {I : Store → Fs → Worker → Prop} (hF : SysFrame I) {y : Sys} (h : y.Live I)
    {st : Step} (hst : st.journal = true) (hnc : ∀ op, st ≠ .call op)
    (hnd : (y.step st).worker.pc ≠ .dead) : (y.step st).Live I := by
  cases st with
  | drop => cases hst
  | openWith c => cases hst
  | call op => exact absurd rfl (hnc op)
  | drain => exact h.drain hF
  | flush cb => exact h.flush hF cb
  | worker out => exact h.worker hF out hnd
  | workerIdle => exact h.workerIdle hF hnd

/-- **An invariant of store, files and worker kept by calls of a class `C` and by what happens between
calls is kept by every step** of a journal history that the worker survives. -/
theorem Sys.Live.step {I : Store → Fs → Worker → Prop} {C : Op → Prop} (hF : SysFrame I)
    (hcall : ∀ {s fs w} {op : Op}, C op → I s fs w →
      I (s.call fs.has op).2.1 (effFs (s.call fs.has op).2.2 fs) (w.push (effQ (s.call fs.has op).2.2)))
    {y : Sys} (h : y.Live I) (st : Step) (hst : st.journal = true) (hC : ∀ op, st = .call op → C op)
    (hnd : (y.step st).worker.pc ≠ .dead) : (y.step st).Live I := by
  by_cases hc : ∃ op, st = .call op
  · obtain ⟨op, rfl⟩ := hc
    exact h.call (hcall (hC op rfl)) hF.settle
  · exact h.step_noncall hF hst (fun op e => hc ⟨op, e⟩) hnd

theorem Sys.Live.run {I : Store → Fs → Worker → Prop} {C : Op → Prop} (hF : SysFrame I)
    (hcall : ∀ {s fs w} {op : Op}, C op → I s fs w →
      I (s.call fs.has op).2.1 (effFs (s.call fs.has op).2.2 fs) (w.push (effQ (s.call fs.has op).2.2)))
    (steps : List Step) {y : Sys} (h : y.Live I) (hst : ∀ st ∈ steps, st.journal = true)
    (hC : ∀ op ∈ stepOps steps, C op) (hnd : (y.run steps).worker.pc ≠ .dead) : (y.run steps).Live I :=
  Sys.run_induction_alive steps hst
    (fun _ st hm h hd => h.step hF hcall st (hst st hm) (fun op e => hC op (mem_stepOps.2 (e ▸ hm))) hd)
    y h hnd

end RaftLog
