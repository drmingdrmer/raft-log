/-
What a worker step does not look at. It appends to the event list and never reads it; it reads
`senderAlive` in one place only, `recv` on an empty queue, where the worker of an open channel
blocks (`pc = idle`) and the worker of a closed channel exits. So a step commutes with putting
events in front and with closing the channel, up to that exit (`WCtx.step_frame`). The proof goes
by `cases` on the program counter, not by `WCtx.step_elim`: `frame` has to be pushed through the
scrutinee `c.w.pc` on both sides of an equation between contexts.
-/
import RaftLogModel.Proofs.WorkerBlocks
namespace RaftLog

/-- `a = false` closes the channel, `a = true` leaves it as it is. -/
def WCtx.frame (a : Bool) (e : List Ev) (c : WCtx) : WCtx :=
  { c with w := { c.w with senderAlive := a && c.w.senderAlive }, evs := e ++ c.evs }

/-- The worker thread returns from its loop: what `WCtx.toRecv` does on an empty queue of a closed
channel. -/
def WCtx.exitC14b (c : WCtx) : WCtx :=
  ({ c with w := { c.w with pc := .dead } }).emit (.workerExit true)

/-- `frame`, where a worker blocked in `recv` on an empty queue has noticed that the channel is
closed. -/
def WCtx.reframe (a : Bool) (e : List Ev) (c : WCtx) : WCtx :=
  if a = false ∧ c.w.pc = .idle ∧ c.w.queue = [] then (c.frame a e).exitC14b else c.frame a e

theorem WCtx.reframe_of_ne (a : Bool) (e : List Ev) (c : WCtx) (h : c.w.pc ≠ .idle) :
    c.reframe a e = c.frame a e := by
  simp [WCtx.reframe, h]

theorem WCtx.reframe_true (e : List Ev) (c : WCtx) : c.reframe true e = c.frame true e := by
  simp [WCtx.reframe]

theorem WCtx.reframe_of_queue (a : Bool) (e : List Ev) (c : WCtx) (h : c.w.queue ≠ []) :
    c.reframe a e = c.frame a e := by
  simp [WCtx.reframe, h]

theorem WCtx.reframe_idle (e : List Ev) (c : WCtx) (h1 : c.w.pc = .idle) (h2 : c.w.queue = []) :
    c.reframe false e = (c.frame false e).exitC14b := by
  simp [WCtx.reframe, h1, h2]

theorem WCtx.toRecv_frame (a : Bool) (e : List Ev) (c : WCtx) :
    (c.frame a e).toRecv = c.toRecv.reframe a e := by
  obtain ⟨⟨files, pc, queue, lsf, post, alive⟩, fs, cache, evs⟩ := c
  cases queue with
  | cons r q => simp [WCtx.toRecv, WCtx.frame, WCtx.reframe]
  | nil => cases a <;> cases alive <;> simp [WCtx.toRecv, WCtx.frame, WCtx.reframe, WCtx.exitC14b, WCtx.emit]

theorem WCtx.emit_frame (a : Bool) (e : List Ev) (c : WCtx) (x : Ev) :
    (c.frame a e).emit x = (c.emit x).frame a e := by
  simp [WCtx.frame, WCtx.emit]

theorem foldl_emit_frame {α} (f : α → Ev) (l : List α) (a : Bool) (e : List Ev) (c : WCtx) :
    l.foldl (fun c i => c.emit (f i)) (c.frame a e) = (l.foldl (fun c i => c.emit (f i)) c).frame a e := by
  rw [foldl_emit, foldl_emit]
  simp [WCtx.frame, List.append_assoc]

theorem WCtx.die_frame (a : Bool) (e : List Ev) (c : WCtx) (h : List WReq) :
    (c.frame a e).die h = (c.die h).frame a e := by
  simp only [WCtx.die, show (c.frame a e).w.queue = c.w.queue from rfl, foldl_emit_frame]
  simp [WCtx.frame, WCtx.emit]

theorem WCtx.nonFlush_frame (a : Bool) (e : List Ev) (c : WCtx) (r : WReq) :
    (c.frame a e).nonFlush r = (c.nonFlush r).reframe a e := by
  obtain ⟨⟨files, pc, queue, lsf, post, alive⟩, fs, cache, evs⟩ := c
  cases r with
  | write u d cb => exact WCtx.toRecv_frame a e ⟨⟨files, pc, queue, lsf, post, alive⟩, fs, cache, evs⟩
  | appendFile id pl =>
    exact WCtx.toRecv_frame a e ⟨⟨files ++ [FileEnt.mk id pl], pc, queue, lsf, post, alive⟩, fs, cache, evs⟩
  | removeChunks ids =>
    cases lsf with
    | true => exact WCtx.toRecv_frame a e ⟨⟨files, pc, queue, true, post ++ ids, alive⟩, fs, cache, evs⟩
    | false =>
      cases hall : post ++ ids with
      | nil =>
        have := WCtx.toRecv_frame a e ⟨⟨files, pc, queue, false, post, alive⟩, fs, cache, evs⟩
        simpa [WCtx.nonFlush, WCtx.frame, hall] using this
      | cons i rest => simp [WCtx.nonFlush, WCtx.frame, WCtx.reframe, hall]

theorem WCtx.finishBatch_frame (a : Bool) (e : List Ev) (c : WCtx) (b : List WReq) (t : Option WReq)
    (ok : Bool) : (c.frame a e).finishBatch b t ok = (c.finishBatch b t ok).reframe a e := by
  have h : (c.frame a e).fb1 b t ok = (c.fb1 b t ok).frame a e :=
    congrArg (fun c0 : WCtx => { c0 with w := { c0.w with files := c0.w.files ++ tailEnts t } })
      (foldl_emit_frame _ _ a e { c with w := { c.w with lastSyncFailed := !ok } })
  rw [WCtx.finishBatch_eq, WCtx.finishBatch_eq, h, WCtx.nonFlush_frame]

theorem WCtx.startSync_framed (a : Bool) (e : List Ev) (c : WCtx) (b : List WReq) (t : Option WReq) :
    (c.frame a e).startSync b t = (c.startSync b t).reframe a e := by
  obtain ⟨⟨files, pc, queue, lsf, post, alive⟩, fs, cache, evs⟩ := c
  match files with
  | [] => exact WCtx.finishBatch_frame a e ⟨⟨[], pc, queue, lsf, post, alive⟩, fs, cache, evs⟩ b t true
  | [f] => simp [WCtx.startSync, WCtx.frame, WCtx.reframe, WCtx.emit]
  | f :: g :: rest => simp [WCtx.startSync, WCtx.frame, WCtx.reframe]

theorem WCtx.startWrites_framed (a : Bool) (e : List Ev) (c : WCtx) (b : List WReq) (t : Option WReq) :
    (c.frame a e).startWrites b t = (c.startWrites b t).reframe a e := by
  unfold WCtx.startWrites
  dsimp only
  split
  · exact c.startSync_framed a e b t
  · simp [WCtx.frame, WCtx.reframe]

/-- The system call of a step (context `c` after it, its event `x`), then a block `f`. -/
theorem WCtx.sys_frame (a : Bool) (e : List Ev) (c : WCtx) (x : Ev) (f : WCtx → WCtx) {g : WCtx → WCtx}
    (hf : ∀ c0 : WCtx, f (c0.frame a e) = g (f c0)) : f ((c.frame a e).emit x) = g (f (c.emit x)) :=
  (congrArg f (c.emit_frame a e x)).trans (hf _)

theorem WCtx.step_frame (a : Bool) (e : List Ev) (c : WCtx) (out : Outcome) :
    (c.frame a e).step out = (c.step out).reframe a e := by
  obtain ⟨⟨files, pc, queue, lsf, post, alive⟩, fs, cache, evs⟩ := c
  have sync := fun b t (c0 : WCtx) => c0.startSync_framed a e b t
  have fin := fun b t ok (c0 : WCtx) => c0.finishBatch_frame a e b t ok
  cases pc with
  | dead => exact (WCtx.reframe_of_ne a e _ (by simp)).symm
  | idle => exact WCtx.toRecv_frame a e ⟨⟨files, .idle, queue, lsf, post, alive⟩, fs, cache, evs⟩
  | got r =>
    cases hr : r.isWrite with
    | true =>
      simp only [WCtx.step, WCtx.frame, hr, if_true]
      exact WCtx.startWrites_framed a e ⟨⟨files, .got r, _, lsf, post, alive⟩, fs, cache, evs⟩ _ _
    | false =>
      simp only [WCtx.step, WCtx.frame, hr, Bool.false_eq_true, if_false]
      exact WCtx.nonFlush_frame a e ⟨⟨files, .got r, queue, lsf, post, alive⟩, fs, cache, evs⟩ r
  | writing todo b t =>
    -- a complete `write` of `d`
    have wr : ∀ d rest, (WCtx.frame a e ⟨⟨files, .writing (d :: rest) b t, queue, lsf, post, alive⟩, fs, cache, evs⟩).step .ok =
        ((⟨⟨files, .writing (d :: rest) b t, queue, lsf, post, alive⟩, fs, cache, evs⟩ : WCtx).step .ok).reframe a e := by
      intro d rest
      cases rest with
      | nil =>
        exact WCtx.sys_frame a e ⟨⟨files, _, queue, lsf, post, alive⟩, fs.write _ d, cache, evs⟩ _
          (·.startSync b t) (sync b t)
      | cons d' rest => simp [WCtx.step, WCtx.frame, WCtx.reframe, WCtx.emit]
    cases todo with
    | nil => exact sync b t ⟨⟨files, .writing [] b t, queue, lsf, post, alive⟩, fs, cache, evs⟩
    | cons d rest =>
      cases out with
      | ok => exact wr d rest
      | eio =>
        exact WCtx.sys_frame a e ⟨⟨files, _, queue, lsf, post, alive⟩, fs, cache, evs⟩ _ (·.die _) fun c0 =>
          (c0.die_frame a e _).trans (WCtx.reframe_of_ne a e _ (by simp)).symm
      | short k =>
        simp only [WCtx.step, WCtx.frame]
        generalize (if _ = 0 then 1 else _) = k'
        split
        · simp [WCtx.reframe, WCtx.frame, WCtx.emit]
        · exact wr d rest
  | syncOld b t =>
    match files, out with
    | [], _ => exact fin b t true ⟨⟨[], .syncOld b t, queue, lsf, post, alive⟩, fs, cache, evs⟩
    | f :: rest, .eio =>
      exact WCtx.sys_frame a e ⟨⟨f :: rest, _, queue, lsf, post, alive⟩, fs, cache, evs⟩ _
        (·.finishBatch b t false) (fin b t false)
    | f :: rest, .ok | f :: rest, .short _ =>
      exact WCtx.sys_frame a e ⟨⟨rest, _, queue, lsf, post, alive⟩, fs.sync f.id, cache, evs⟩ _
        (·.startSync b t) (sync b t)
  | syncNew b t =>
    match files, out with
    | [], _ => exact fin b t true ⟨⟨[], .syncNew b t, queue, lsf, post, alive⟩, fs, cache, evs⟩
    | f :: rest, .eio =>
      exact WCtx.sys_frame a e ⟨⟨f :: rest, _, queue, lsf, post, alive⟩, fs, cache, evs⟩ _
        (·.finishBatch b t false) (fin b t false)
    | f :: rest, .ok | f :: rest, .short _ =>
      exact WCtx.sys_frame a e ⟨⟨f :: rest, _, queue, lsf, post, alive⟩, fs.sync f.id, cache, evs⟩ _
        (·.finishBatch b t true) (fin b t true)
  | unlinking ids =>
    match ids, out with
    | [], _ => exact WCtx.toRecv_frame a e ⟨⟨files, .unlinking [], queue, lsf, post, alive⟩, fs, cache, evs⟩
    | i :: rest, .eio =>
      exact WCtx.sys_frame a e ⟨⟨files, _, queue, lsf, post, alive⟩, fs, cache, evs⟩ _ (·.die _) fun c0 =>
        (c0.die_frame a e _).trans (WCtx.reframe_of_ne a e _ (by simp)).symm
    | [i], .ok | [i], .short _ =>
      exact WCtx.sys_frame a e ⟨⟨files, _, queue, lsf, post, alive⟩, fs.unlink i, cache, evs⟩ _
        (·.toRecv) (WCtx.toRecv_frame a e)
    | i :: j :: rest, .ok | i :: j :: rest, .short _ =>
      simp [WCtx.step, WCtx.frame, WCtx.reframe, WCtx.emit]

end RaftLog
