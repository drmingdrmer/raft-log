/-
C02: which chunk files are linked. `LInv s fs w`: file ids are unique; every
live chunk has a linked file; every linked file is a live chunk, a chunk
scheduled for removal by the store (`s.removed`) or one the worker still has to
unlink (`Worker.toRemove`: postponed, being unlinked, or named by a queued
`removeChunks` request); and everything scheduled for removal lies below every
live chunk. Kept by every call, flush, worker step; with nothing scheduled the
linked ids are exactly the live chunk ids, in order (`LInv.linkedIds_eq`).
-/
import RaftLogModel.Proofs.JournalSys
import RaftLogModel.Proofs.ReplayLog
namespace RaftLog

theorem eq_of_nodup_ids {fs : Fs} (hn : (Fs.ids fs).Nodup) {a b : File} (ha : a ∈ fs) (hb : b ∈ fs)
    (h : a.id = b.id) : a = b := by
  induction fs with
  | nil => cases ha
  | cons x xs ih =>
    simp only [Fs.ids, List.map_cons, List.nodup_cons] at hn
    rcases List.mem_cons.mp ha with e1 | e1 <;> rcases List.mem_cons.mp hb with e2 | e2
    · rw [e1, e2]
    · subst e1
      exact absurd (List.mem_map.mpr ⟨b, e2, h.symm⟩) hn.1
    · subst e2
      exact absurd (List.mem_map.mpr ⟨a, e1, h⟩) hn.1
    · exact ih hn.2 e1 e2

theorem Fs.has_iff {fs : Fs} (hn : (Fs.ids fs).Nodup) (id : Nat) :
    fs.has id = true ↔ ∃ f ∈ fs, f.linked = true ∧ f.id = id := by
  unfold Fs.has
  constructor
  · intro h
    cases hf : fs.find id with
    | none => rw [hf] at h; cases h
    | some f =>
      rw [hf] at h
      exact ⟨f, List.mem_of_find?_eq_some hf, h, Fs.find_id hf⟩
  · rintro ⟨f, hf, hl, hid⟩
    cases hf' : fs.find id with
    | none =>
      exfalso
      have := (Fs.find_isSome_iff fs id).mpr (hid ▸ Fs.mem_ids hf)
      rw [hf'] at this; cases this
    | some f' =>
      have h1 : f' ∈ fs := List.mem_of_find?_eq_some hf'
      have h2 : f'.id = f.id := by rw [Fs.find_id hf', hid]
      have : f' = f := eq_of_nodup_ids hn h1 hf h2
      rw [this]; exact hl

theorem insertNat_sorted {n : Nat} {l : List Nat} (hs : l.Pairwise (· < ·)) (hn : n ∉ l) :
    (insertNat n l).Pairwise (· < ·) := by
  induction l with
  | nil => simp [insertNat]
  | cons m rest ih =>
    rw [List.pairwise_cons] at hs
    have hne : n ≠ m := fun e => hn (e ▸ List.mem_cons_self)
    have hnr : n ∉ rest := fun e => hn (List.mem_cons_of_mem _ e)
    unfold insertNat
    split
    · rename_i hle
      rw [List.pairwise_cons]
      refine ⟨?_, List.pairwise_cons.mpr hs⟩
      intro x hx
      rcases List.mem_cons.mp hx with e | e
      · subst e; omega
      · have := hs.1 x e; omega
    · rename_i hle
      rw [List.pairwise_cons]
      refine ⟨?_, ih hs.2 hnr⟩
      intro x hx
      rcases (mem_insertNat _ _ _).mp hx with e | e
      · subst e; omega
      · exact hs.1 x e

theorem foldl_insertNat (L : List File) : ∀ acc : List Nat, acc.Pairwise (· < ·) →
    (L.map (·.id)).Nodup → (∀ f ∈ L, f.id ∉ acc) →
    (L.foldl (fun acc f => insertNat f.id acc) acc).Pairwise (· < ·) ∧
    ∀ x, x ∈ L.foldl (fun acc f => insertNat f.id acc) acc ↔ x ∈ acc ∨ x ∈ L.map (·.id) := by
  refine fun acc hs hnd hdis => ⟨?_, fun x => by rw [(foldl_insertNat_perm File.id L acc).mem_iff, List.mem_append]⟩
  induction L generalizing acc with
  | nil => exact hs
  | cons f rest ih =>
    simp only [List.map_cons, List.nodup_cons] at hnd
    refine ih _ (insertNat_sorted hs (hdis f List.mem_cons_self)) hnd.2 fun g hg hmem => ?_
    rcases (mem_insertNat _ _ _).mp hmem with e | e
    · exact hnd.1 (e ▸ List.mem_map.mpr ⟨g, hg, rfl⟩)
    · exact hdis g (List.mem_cons_of_mem _ hg) e

theorem Fs.linkedIds_spec {fs : Fs} (hn : (Fs.ids fs).Nodup) :
    fs.linkedIds.Pairwise (· < ·) ∧ ∀ x, x ∈ fs.linkedIds ↔ fs.has x = true := by
  have hsub : ((fs.filter (fun f => f.linked)).map (·.id)).Nodup :=
    hn.sublist (List.Sublist.map _ List.filter_sublist)
  obtain ⟨k1, k2⟩ := foldl_insertNat (fs.filter (fun f => f.linked)) [] List.Pairwise.nil hsub
    (fun _ _ h => by cases h)
  refine ⟨k1, fun x => ?_⟩
  unfold Fs.linkedIds
  rw [k2, Fs.has_iff hn]
  simp only [List.not_mem_nil, false_or, List.mem_map, List.mem_filter]
  constructor
  · rintro ⟨f, ⟨h1, h2⟩, h3⟩; exact ⟨f, h1, h2, h3⟩
  · rintro ⟨f, h1, h2, h3⟩; exact ⟨f, ⟨h1, h2⟩, h3⟩

/-- The linked ids are THE sorted list of the ids that `has` sees. -/
theorem Fs.linkedIds_eq_of {fs : Fs} (hn : (Fs.ids fs).Nodup) {l : List Nat} (hs : l.Pairwise (· < ·))
    (h : ∀ x, fs.has x = true ↔ x ∈ l) : fs.linkedIds = l := by
  obtain ⟨k1, k2⟩ := Fs.linkedIds_spec hn
  exact sorted_ext (fun x : Nat => x) _ _ k1 hs fun x => (k2 x).trans (h x)

theorem chained_last_le (a : List Nat) (M : List (List Nat)) (hc : Chained (a :: M))
    (hlt : ∀ x ∈ M, x.headD 0 < lastOff x) : ∀ y ∈ M.map (fun o => o.headD 0), lastOff a ≤ y := by
  induction M generalizing a with
  | nil => intro y hy; cases hy
  | cons b M' ih =>
    intro y hy
    simp only [Chained] at hc
    simp only [List.map_cons, List.mem_cons] at hy
    rcases hy with e | e
    · subst e; omega
    · have h1 := ih b hc.2 (fun x hx => hlt x (List.mem_cons_of_mem _ hx)) y e
      have h2 := hlt b List.mem_cons_self
      omega

theorem chained_heads_sorted (L : List (List Nat)) (hc : Chained L)
    (hlt : ∀ x ∈ L, x.headD 0 < lastOff x) : (L.map (fun o => o.headD 0)).Pairwise (· < ·) := by
  induction L with
  | nil => exact List.Pairwise.nil
  | cons a M ih =>
    simp only [List.map_cons]
    rw [List.pairwise_cons]
    refine ⟨?_, ih hc.tail (fun x hx => hlt x (List.mem_cons_of_mem _ hx))⟩
    intro y hy
    have h1 := chained_last_le a M hc (fun x hx => hlt x (List.mem_cons_of_mem _ hx)) y hy
    have h2 := hlt a List.mem_cons_self
    omega

theorem JInv.chunk_head_lt {s : Store} {fs : Fs} {w : Worker} (h : JInv s fs w) :
    ∀ x ∈ s.chunks, x.headD 0 < lastOff x :=
  fun x hx => (h.chunk_ok x hx).1.head_lt

theorem JInv.chunkIds_sorted {s : Store} {fs : Fs} {w : Worker} (h : JInv s fs w) :
    s.chunkIds.Pairwise (· < ·) :=
  chained_heads_sorted s.chunks h.chained h.chunk_head_lt

theorem Store.chunkIds_eq (s : Store) : s.chunkIds = s.closed.map Closed.id ++ [s.openId] := by
  simp [Store.chunkIds, Store.chunks, List.map_map, Store.openId, Function.comp_def, Closed.id]

def rmIds : List WReq → List Nat
  | [] => []
  | .removeChunks ids :: q => ids ++ rmIds q
  | .write _ _ _ :: q => rmIds q
  | .appendFile _ _ :: q => rmIds q

def Worker.toRemove (w : Worker) : List Nat := w.postponed ++ w.pc.unl ++ rmIds (w.pc.inHand ++ w.queue)

theorem rmIds_append (a b : List WReq) : rmIds (a ++ b) = rmIds a ++ rmIds b := by
  induction a with
  | nil => rfl
  | cons r q ih => cases r <;> simp [rmIds, ih]

theorem rmIds_writes (b : List WReq) (hb : ∀ r ∈ b, r.isWrite = true) : rmIds b = [] := by
  induction b with
  | nil => rfl
  | cons r q ih =>
    cases r with
    | write u d cb => simp only [rmIds]; exact ih (fun x hx => hb x (List.mem_cons_of_mem _ hx))
    | appendFile n p => have := hb _ List.mem_cons_self; cases this
    | removeChunks ids => have := hb _ List.mem_cons_self; cases this

theorem rmIds_of_notWrite_cons (r : WReq) (q : List WReq) : rmIds (r :: q) = rmIds [r] ++ rmIds q := by
  rw [← rmIds_append]; rfl

theorem Worker.toRemove_push (w : Worker) (q : List WReq) (x : Nat) :
    x ∈ (w.push q).toRemove ↔ x ∈ w.toRemove ∨ x ∈ rmIds q := by
  simp only [Worker.toRemove, Worker.push, ← List.append_assoc, rmIds_append, List.mem_append]

theorem Worker.toRemove_unlinking {w : Worker} {ids : List Nat} (hpc : w.pc = .unlinking ids) :
    w.toRemove = w.postponed ++ ids ++ rmIds w.queue := by
  simp [Worker.toRemove, hpc, WPc.unl, WPc.inHand]

/-- `Worker.toRemove` of a view. -/
def WView.toRemove (v : WView) : List Nat := v.post ++ v.unl ++ rmIds v.rest

theorem Worker.toRemove_settle (w : Worker) : w.settle.toRemove = w.toRemove :=
  congrArg WView.toRemove w.settle_view

/-- The quiet moves shift ids between `rest`, `post` and `unl`; the list of what is left to unlink
stays. -/
theorem WView.Quiet.toRemove {a b : WView} (h : Quiet a b) : b.toRemove = a.toRemove := by
  refine h.lift (R := fun a b => b.toRemove = a.toRemove) (fun _ => rfl) (fun h1 h2 => h2.trans h1) fun p => ?_
  cases p with
  | batch b R _ _ hr hb => simp [WView.toRemove, hr, rmIds_append, rmIds_writes _ hb]
  | ack ok => rfl
  | append n p q _ _ hr => simp [WView.toRemove, hr, rmIds]
  | remove ids q hu hr => unfold WView.removing; split <;> simp [WView.toRemove, hr, hu, rmIds]
  | retry hu => unfold WView.removing; split <;> simp [WView.toRemove, hu]

theorem VAct.toRemove {v v1 : WView} {fs fs1 : Fs} (h : VAct v fs v1 fs1) :
    (v1.toRemove = v.toRemove ∧ ∀ id, fs1.has id = fs.has id) ∨
    ∃ i rest, v.unl = i :: rest ∧ v1.toRemove = v.post ++ rest ++ rmIds v.rest ∧
      ∀ id, fs1.has id = (fs.has id && id != i) := by
  cases h with
  | none => exact .inl ⟨rfl, fun _ => rfl⟩
  | write bs tb' _ => exact .inl ⟨rfl, fun id => by simp [Fs.has_write]⟩
  | syncOld f rest _ _ => exact .inl ⟨rfl, fun id => by simp [Fs.has_sync]⟩
  | syncNew f rest _ => exact .inl ⟨rfl, fun id => by simp [Fs.has_sync]⟩
  | unlink i rest hu => exact .inr ⟨i, rest, hu, rfl, fun id => by simp [Fs.has_unlink]⟩

/-- What a step does to the ids left to unlink and to the linked files: nothing, or it unlinks the
first of the ids being unlinked. -/
theorem WCtx.VStep.toRemove {c c' : WCtx} (h : c.VStep c') :
    (c'.w.toRemove = c.w.toRemove ∧ ∀ id, c'.fs.has id = c.fs.has id) ∨
    ∃ i rest, c.w.pc = .unlinking (i :: rest) ∧
      c'.w.toRemove = c.w.postponed ++ rest ++ rmIds c.w.queue ∧
      ∀ id, c'.fs.has id = (c.fs.has id && id != i) := by
  obtain ⟨v1, ha, hq⟩ := h
  rw [show c'.w.toRemove = v1.toRemove from hq.toRemove]
  rcases ha.toRemove with h | ⟨i, rest, hu, hT, hF⟩
  · exact .inl h
  · have hpc : c.w.pc = .unlinking (i :: rest) := by
      cases h : c.w.pc <;> simp [Worker.view, h, WPc.unl] at hu
      rw [hu]
    exact .inr ⟨i, rest, hpc, by rw [hT]; simp [Worker.view, Worker.rest, hpc, WPc.inHand], hF⟩

structure WLink (c c' : WCtx) : Prop where
  sub : ∀ x ∈ c'.w.toRemove, x ∈ c.w.toRemove
  /-- a file changes its link state only by being unlinked, and only if it was due -/
  has : ∀ id, c'.fs.has id = c.fs.has id ∨ (c'.fs.has id = false ∧ id ∈ c.w.toRemove)
  /-- what is no longer due has been unlinked -/
  sup : ∀ x ∈ c.w.toRemove, x ∈ c'.w.toRemove ∨ c'.fs.has x = false

theorem WLink.of_same {c c' : WCtx} (hT : ∀ x, x ∈ c'.w.toRemove ↔ x ∈ c.w.toRemove)
    (hF : ∀ id, c'.fs.has id = c.fs.has id) : WLink c c' :=
  ⟨fun x hx => (hT x).1 hx, fun id => Or.inl (hF id), fun x hx => Or.inl ((hT x).2 hx)⟩

theorem WLink.of_unlink {c c' : WCtx} {i : Nat} {rest : List Nat}
    (hpc : c.w.pc = .unlinking (i :: rest))
    (hT : ∀ x, x ∈ c'.w.toRemove ↔ (x ∈ c.w.postponed ∨ x ∈ rest ∨ x ∈ rmIds c.w.queue))
    (hF : ∀ id, c'.fs.has id = (c.fs.has id && id != i)) : WLink c c' := by
  have hc : ∀ x, x ∈ c.w.toRemove ↔
      (x ∈ c.w.postponed ∨ (x = i ∨ x ∈ rest) ∨ x ∈ rmIds c.w.queue) := by
    intro x
    simp [Worker.toRemove, hpc, WPc.unl, WPc.inHand, or_assoc]
  refine ⟨fun x hx => (hc x).2 (((hT x).1 hx).imp_right (.imp_left .inr)), fun id => ?_,
    fun x hx => ?_⟩
  · by_cases h : id = i
    · subst h
      exact .inr ⟨by rw [hF]; simp, (hc id).2 (.inr (.inl (.inl rfl)))⟩
    · exact .inl (by rw [hF]; simp [h])
  · rcases (hc x).1 hx with h | (rfl | h) | h
    · exact .inl ((hT x).2 (.inl h))
    · exact .inr (by rw [hF]; simp)
    · exact .inl ((hT x).2 (.inr (.inl h)))
    · exact .inl ((hT x).2 (.inr (.inr h)))

theorem WCtx.step_link (c : WCtx) (out : Outcome) (hok : c.w.pc.ok c.w.files)
    (hnd : (c.step out).w.pc ≠ .dead) : WLink c (c.step out) := by
  rcases (c.step_view_alive out hok hnd).toRemove with ⟨hT, hF⟩ | ⟨i, rest, hpc, hT, hF⟩
  · exact .of_same (fun x => by rw [hT]) hF
  · exact .of_unlink hpc (fun x => by rw [hT]; simp) hF

structure LInv (s : Store) (fs : Fs) (w : Worker) : Prop where
  nodup : (Fs.ids fs).Nodup
  live : ∀ id ∈ s.chunkIds, fs.has id = true
  /-- a linked file is a live chunk or is due for removal, at the store or at the worker -/
  dead : ∀ id, fs.has id = true → id ∈ s.chunkIds ∨ id ∈ s.removed ∨ id ∈ w.toRemove
  sep : ∀ x, (x ∈ s.removed ∨ x ∈ w.toRemove) → ∀ id ∈ s.chunkIds, x < id

theorem LInv.linkedIds_eq {s : Store} {fs : Fs} {w : Worker} (h : LInv s fs w) (hj : JInv s fs w)
    (hr : s.removed = []) (hw : w.toRemove = []) : fs.linkedIds = s.chunkIds := by
  refine Fs.linkedIds_eq_of h.nodup hj.chunkIds_sorted fun x => ⟨fun hx => ?_, h.live x⟩
  rcases h.dead x hx with e | e | e
  · exact e
  · rw [hr] at e; cases e
  · rw [hw] at e; cases e

theorem LInv.of_fields {s s2 : Store} {fs : Fs} {w : Worker} (h : LInv s fs w)
    (h1 : s2.chunkIds = s.chunkIds) (h2 : s2.removed = s.removed) : LInv s2 fs w :=
  ⟨h.nodup, by rw [h1]; exact h.live, by rw [h1, h2]; exact h.dead, by rw [h1, h2]; exact h.sep⟩

theorem LInv.worker {s : Store} {c c' : WCtx} (h : LInv s c.fs c.w) (g : WLink c c')
    (hids : Fs.ids c'.fs = Fs.ids c.fs) : LInv s c'.fs c'.w := by
  refine ⟨by rw [hids]; exact h.nodup, fun id hid => ?_, fun id hid => ?_, fun x hx => ?_⟩
  · rcases g.has id with e | ⟨_, m⟩
    · rw [e]; exact h.live id hid
    · exact absurd (h.sep id (Or.inr m) id hid) (Nat.lt_irrefl _)
  · rcases g.has id with e | ⟨e, _⟩
    · rw [e] at hid
      rcases h.dead id hid with k | k | k
      · exact Or.inl k
      · exact Or.inr (Or.inl k)
      · rcases g.sup id k with k2 | k2
        · exact Or.inr (Or.inr k2)
        · rw [e] at k2; rw [hid] at k2; cases k2
    · rw [e] at hid; cases hid
  · rcases hx with k | k
    · exact h.sep x (Or.inl k)
    · exact h.sep x (Or.inr (g.sub x k))

theorem LInv.settle {s : Store} {fs : Fs} {w : Worker} (h : LInv s fs w) : LInv s fs w.settle :=
  ⟨h.nodup, h.live, by rw [Worker.toRemove_settle]; exact h.dead,
    by rw [Worker.toRemove_settle]; exact h.sep⟩

theorem LInv.push_plain {s : Store} {fs : Fs} {w : Worker} (h : LInv s fs w) (q : List WReq)
    (hq : rmIds q = []) : LInv s fs (w.push q) := by
  have e : ∀ x, x ∈ (w.push q).toRemove ↔ x ∈ w.toRemove := by
    intro x; rw [Worker.toRemove_push, hq]; simp
  exact ⟨h.nodup, h.live, fun id hid => by rw [e]; exact h.dead id hid,
    fun x hx => h.sep x (by rw [e] at hx; exact hx)⟩

theorem rmIds_rotate (s : Store) : rmIds (effQ (rotateEffs s)) = [] := by
  rw [effQ_rotateEffs]; by_cases hp : s.pending.isEmpty = true <;> simp [hp, rmIds]

theorem LInv.rotate {s : Store} {fs : Fs} {w : Worker} (h : LInv s fs w) (hj : JInv s fs w) :
    LInv s.rotated (effFs (rotateEffs s) fs) (w.push (effQ (rotateEffs s))) := by
  have hids : s.rotated.chunkIds = s.chunkIds ++ [s.openEnd] := by
    rw [Store.chunkIds_eq, Store.chunkIds_eq]
    simp [Store.openId, Closed.id]
  have hlt := hj.openId_lt
  have hopen : s.openId ∈ s.chunkIds := by rw [Store.chunkIds_eq]; simp
  -- the requests pushed name no removal: it suffices to look at the new file and the new chunk id
  refine LInv.push_plain ⟨Fs.nodup_rotate s h.nodup, fun id hid => ?_, fun id hid => ?_,
    fun x hx id hid => ?_⟩ _ (rmIds_rotate s)
  · rw [Fs.has_rotate]
    rw [hids] at hid
    rcases List.mem_append.mp hid with k | k
    · by_cases hx : id = s.openEnd
      · simp [hx]
      · simp only [hx, if_false]; exact h.live id k
    · simp at k; simp [k]
  · rw [Fs.has_rotate] at hid
    rw [hids]
    by_cases hx : id = s.openEnd
    · exact Or.inl (List.mem_append_right _ (by simp [hx]))
    · simp only [hx, if_false] at hid
      exact (h.dead id hid).imp_left (List.mem_append_left _)
  · rw [hids] at hid
    rcases List.mem_append.mp hid with k | k
    · exact h.sep x hx id k
    · simp at k
      have := h.sep x hx s.openId hopen
      omega

theorem LInv.pop {s s2 : Store} {fs : Fs} {w : Worker} (h : LInv s fs w) (hj : JInv s fs w)
    (pre : List Closed) (h3 : s2.openOffsets = s.openOffsets) (h5 : s.closed = pre ++ s2.closed)
    (h6 : s2.removed = s.removed ++ pre.map Closed.id) : LInv s2 fs w := by
  have e1 : s.chunkIds = pre.map Closed.id ++ s2.chunkIds := by
    rw [Store.chunkIds_eq, Store.chunkIds_eq, h5]
    simp [Store.openId, h3]
  have hsorted := hj.chunkIds_sorted
  rw [e1, List.pairwise_append] at hsorted
  refine ⟨h.nodup, fun id hid => h.live id (by rw [e1]; exact List.mem_append_right _ hid),
    fun id hid => ?_, fun x hx id hid => ?_⟩
  · rcases h.dead id hid with k | k | k
    · rw [e1] at k
      rcases List.mem_append.mp k with k' | k'
      · exact Or.inr (Or.inl (by rw [h6]; exact List.mem_append_right _ k'))
      · exact Or.inl k'
    · exact Or.inr (Or.inl (by rw [h6]; exact List.mem_append_left _ k))
    · exact Or.inr (Or.inr k)
  · have hid' : id ∈ s.chunkIds := by rw [e1]; exact List.mem_append_right _ hid
    rcases hx with k | k
    · rw [h6] at k
      rcases List.mem_append.mp k with k' | k'
      · exact h.sep x (Or.inl k') id hid'
      · exact hsorted.2.2 x k' id hid
    · exact h.sep x (Or.inr k) id hid'

theorem flush_L {s : Store} {fs : Fs} {w : Worker} (h : LInv s fs w) (cb : Option Nat) :
    LInv (s.flush cb).1 (effFs (s.flush cb).2 fs) (w.push (effQ (s.flush cb).2)) := by
  have hq : ∀ x, x ∈ rmIds (effQ (s.flush cb).2) ↔ x ∈ s.removed := by
    intro x
    rw [effQ_flush]
    by_cases hr : s.removed = [] <;> simp [rmIds, hr]
  have hids : (s.flush cb).1.chunkIds = s.chunkIds := rfl
  have hrem : (s.flush cb).1.removed = [] := rfl
  rw [effFs_flush]
  refine ⟨h.nodup, by rw [hids]; exact h.live, fun id hid => ?_, fun x hx => ?_⟩
  · rw [hids, hrem, Worker.toRemove_push, hq]
    rcases h.dead id hid with k | k | k
    · exact Or.inl k
    · exact Or.inr (Or.inr (Or.inr k))
    · exact Or.inr (Or.inr (Or.inl k))
  · rw [hids]
    rw [hrem, Worker.toRemove_push, hq] at hx
    rcases hx with k | k | k
    · cases k
    · exact h.sep x (Or.inr k)
    · exact h.sep x (Or.inl k)

theorem chunkIds_journal {s s3 : Store} {x : Nat} (hne : s.openOffsets ≠ [])
    (hoff : s3.openOffsets = s.openOffsets ++ [x]) (hc : s3.closed = s.closed) :
    s3.chunkIds = s.chunkIds := by
  rw [Store.chunkIds_eq, Store.chunkIds_eq, hc]
  simp only [Store.openId, hoff]
  rw [headD_append_of_ne_nil hne]

theorem LInv.callerInv : CallerInv (fun s fs w => JInv s fs w ∧ LInv s fs w) fun _ r => r.WF :=
  JInv.callerInv.and
    (applied := fun h hl _ _ => hl.of_fields (chunkIds_journal h.openBytes.ne_nil rfl rfl) rfl)
    (rotated := fun h hl _ => hl.rotate h)
    (overflow := fun h hl _ _ => hl.of_fields (chunkIds_journal h.openBytes.ne_nil rfl rfl) rfl)
    (popped := fun upto h hl => (popObsolete_pre upto _).elim fun pre hp =>
      hl.pop h pre rfl hp.1 (by rw [← hp.2.1]; rfl))

/-- The linked-files invariant of a system with a live store. -/
def LSys (y : Sys) : Prop := ∃ s, y.store = some s ∧ LInv s y.fs y.worker

/-- `LInv` travels with the journal invariant. -/
abbrev JLInv (s : Store) (fs : Fs) (w : Worker) : Prop := JInv s fs w ∧ LInv s fs w

theorem LSys.live {y : Sys} (hl : LSys y) (h : J y) : y.Live JLInv := by
  obtain ⟨s, hs, hd, hj⟩ := h
  obtain ⟨s0, hs0, hli⟩ := hl
  cases hs.symm.trans hs0
  exact ⟨s, hs, hd, hj, hli⟩

theorem LSys.of_live {y : Sys} (h : y.Live JLInv) : LSys y :=
  Exists.imp (fun _ h => ⟨h.1, h.2.2.2⟩) h

theorem LInv.frame : SysFrame JLInv :=
  JInv.frame.and (flush := fun cb _ hl => flush_L hl cb) (settle := fun _ hl => hl.settle)
    (wstep := fun out h hl _ hnd =>
      (hl.worker (WCtx.step_link _ out h.wok hnd) (WCtx.step_ids _ out)).of_fields rfl rfl)
    (drain := fun _ hl => hl.of_fields rfl rfl)

theorem LSys.call {y : Sys} (hl : LSys y) (h : J y) (op : Op) (hop : op.WF) : LSys (y.call op).2.1 :=
  .of_live <| Sys.Live.call (hl.live h) (JInv.call_wf LInv.callerInv And.left id _ hop) LInv.frame.settle

theorem LSys.flush {y : Sys} (hl : LSys y) (h : J y) (cb : Option Nat) : LSys (y.flush cb).2.1 :=
  .of_live <| (hl.live h).flush LInv.frame cb

theorem LSys.worker {y : Sys} (hl : LSys y) (h : J y) (out : Outcome)
    (hnd : (y.workerStep out).1.worker.pc ≠ .dead) : LSys (y.workerStep out).1 :=
  .of_live <| (hl.live h).worker LInv.frame out hnd

theorem LSys.workerIdle {y : Sys} (hl : LSys y) (h : J y)
    (hnd : y.workerIdle.1.worker.pc ≠ .dead) : LSys y.workerIdle.1 :=
  .of_live <| (hl.live h).workerIdle LInv.frame hnd

theorem LSys.drain {y : Sys} (hl : LSys y) : LSys y.drain := by
  obtain ⟨s, hs, hli⟩ := hl
  rw [y.drain_eq hs]
  exact ⟨_, rfl, hli.of_fields rfl rfl⟩

theorem LInv.fresh (cfg : Cfg) : LInv (Store.fresh cfg) Fs.fresh Worker.fresh := by
  have hids : (Store.fresh cfg).chunkIds = [0] := by
    rw [Store.chunkIds_eq]; simp [Store.openId, emptyStore]
  have hhas : ∀ id, Fs.fresh.has id = true → id = 0 := by
    intro id hid
    by_cases e : id = 0
    · exact e
    · have : (0 == id) = false := beq_false_of_ne fun x => e x.symm
      simp [Fs.has, Fs.find, this] at hid
  refine ⟨by simp [Fs.ids], fun id hid => ?_, fun id hid => .inl (by rw [hids, hhas id hid]; simp), ?_⟩
  · obtain rfl : id = 0 := by simpa [hids] using hid
    simp [Fs.has, Fs.find]
  · intro x hx
    have htr : Worker.fresh.toRemove = [] := by simp [Worker.toRemove, WPc.unl, WPc.inHand, rmIds]
    rw [htr] at hx
    rcases hx with k | k <;> cases k

theorem fresh_LSys (cfg : Cfg) : LSys (Sys.fresh cfg) := by
  rw [Sys.fresh_eq]
  exact ⟨_, rfl, LInv.fresh cfg⟩

theorem run_LSys (steps : List Step) : ∀ (y : Sys), LSys y → J y → (∀ st ∈ steps, st.journal = true) →
    (∀ op ∈ stepOps steps, op.WF) → (y.run steps).worker.pc ≠ .dead → LSys (y.run steps) :=
  fun _ hl h hst hwf hnd => .of_live <| (hl.live h).run (C := Op.WF) LInv.frame
    (fun hop h => JInv.call_wf LInv.callerInv And.left id _ hop h) steps hst hwf hnd

end RaftLog
