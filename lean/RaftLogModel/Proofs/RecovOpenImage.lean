/-
C05: the end of `openStore` on a crash image whose predecessors are complete (`ImgHypC5b`; `ImgParseC5b` with its
newest file parsed). The newest chunk is reused, or a fresh chunk is created in the directory the loop left
(`ClosedDirC5b`); either way `ReturnedC5b`: a store described by `RecovC5b`, with the state and index map of the parse
and the limits of `cfg`. `OpenedC5b` adds what its journal is (`KeptC5b`) and where it starts.
-/
import RaftLogModel.Proofs.RecovLoop
namespace RaftLog

theorem stRun_induct {P : RState → Prop} {Q : Record → Prop}
    (hstep : ∀ {st st1 : RState} {r : Record}, Q r → P st → st.apply r = .ok st1 → P st1) :
    ∀ (rs : List Record) (st st' : RState), (∀ r ∈ rs, Q r) → P st →
    stRun rs st = some st' → P st' := by
  intro rs
  induction rs with
  | nil =>
    intro st st' _ hs h
    simp only [stRun, Option.some.injEq] at h
    subst h
    exact hs
  | cons r rs ih =>
    intro st st' hq hs h
    simp only [stRun] at h
    cases ha : st.apply r with
    | ok st1 =>
      rw [ha] at h
      exact ih st1 st' (fun x hx => hq x (List.mem_cons_of_mem _ hx))
        (hstep (hq r List.mem_cons_self) hs ha) h
    | err k => rw [ha] at h; cases h
    | panic m => rw [ha] at h; cases h

theorem stRun_wf_C5b : ∀ (rs : List Record) (st st' : RState), AllWF rs → st.WF →
    stRun rs st = some st' → st'.WF :=
  stRun_induct fun hr hs ha => apply_wf hs hr ha

theorem emptyState_wf_C5b : ({} : RState).WF := by simp [RState.WF, optWF]

theorem mem_flatRecs_C5b {jc : List (Closed × List Record)} {r : Record} :
    r ∈ flatRecs jc ↔ ∃ p ∈ jc, r ∈ p.2 := by
  induction jc with
  | nil => simp [flatRecs]
  | cons q rest ih =>
    obtain ⟨c, rs⟩ := q
    simp [flatRecs, ih]

theorem flatRecs_wf_C5b {jc : List (Closed × List Record)} (h : ∀ p ∈ jc, AllWF p.2) :
    AllWF (flatRecs jc) := fun r hr => by
  obtain ⟨p, hp, hr⟩ := mem_flatRecs_C5b.mp hr
  exact h p hp r hr

/-- A journal by chunks, no directory yet: the closed chunks `jc` replay to `stC`, `lC`; `jo` is the FULL record
list of the newest chunk `oid`. The part `ImgHypC5b` (a crash image) and `CompleteDirC5b` (a directory with
complete durable files) have in common. -/
structure ChunksC5b (jc : List (Closed × List Record)) (oid : Nat) (jo : List Record) (stC : RState)
    (lC : Log) : Prop where
  rep : RepC jc {} [] stC lC
  chained : Chained (jc.map (·.1.offsets) ++ [offsetsFrom oid (sizes jo)])
  wfo : AllWF jo
  head : ∃ st tl, jo = .state st :: tl
  johead : jc ≠ [] → ∃ tl, jo = .state stC :: tl

/-- A crash image whose predecessors are complete, as `open` sees it: every file linked and durable (`all`), the
files of the closed chunks whole (`files`), `g0` the file of the newest chunk, of which nothing is said here. -/
structure ImgHypC5b (img : Fs) (jc : List (Closed × List Record)) (oid : Nat) (jo : List Record)
    (stC : RState) (lC : Log) (g0 : File) : Prop extends ChunksC5b jc oid jo stC lC where
  nodup : (Fs.ids img).Nodup
  all : ∀ g ∈ img, g.linked = true ∧ g.durable = g.data.length
  ids : img.linkedIds = jc.map (·.1.id) ++ [oid]
  files : ∀ p ∈ jc, HoldsChunk img p
  g0 : img.find oid = some g0

variable {img : Fs} {jc : List (Closed × List Record)} {oid : Nat} {jo : List Record} {stC : RState}
  {lC : Log} {g0 : File}

theorem ImgHypC5b.allDurable (h : ImgHypC5b img jc oid jo stC lC g0) :
    AllDurable img := fun g hg => (h.all g hg).2

theorem ImgHypC5b.sorted (h : ImgHypC5b img jc oid jo stC lC g0) :
    (jc.map (·.1.id) ++ [oid]).Pairwise (· < ·) := by
  have := (Fs.linkedIds_spec h.nodup).1
  rwa [h.ids] at this

theorem ImgHypC5b.lt (h : ImgHypC5b img jc oid jo stC lC g0) :
    ∀ p ∈ jc, p.1.id < oid := fun p hp =>
  (List.pairwise_append.mp h.sorted).2.2 p.1.id (List.mem_map.mpr ⟨p, hp, rfl⟩) oid
    (List.mem_singleton.mpr rfl)

theorem ImgHypC5b.has (h : ImgHypC5b img jc oid jo stC lC g0) {id : Nat}
    (hid : img.has id = true) : id ∈ jc.map (·.1.id) ++ [oid] := by
  rw [← h.ids]
  exact ((Fs.linkedIds_spec h.nodup).2 id).mpr hid

theorem ImgHypC5b.idsLe (h : ImgHypC5b img jc oid jo stC lC g0) :
    ∀ i ∈ Fs.ids img, i ≤ oid := by
  intro i hi
  obtain ⟨g, hg, hgi⟩ := List.mem_map.mp hi
  have hhas : img.has i = true := (Fs.has_iff h.nodup i).mpr ⟨g, hg, (h.all g hg).1, hgi⟩
  rcases List.mem_append.mp (h.has hhas) with k | k
  · obtain ⟨p, hp, hpi⟩ := List.mem_map.mp k
    have := h.lt p hp
    omega
  · simp only [List.mem_singleton] at k; omega

theorem ImgHypC5b.stC_wf (h : ImgHypC5b img jc oid jo stC lC g0) : stC.WF :=
  stRun_wf_C5b _ _ _ (flatRecs_wf_C5b (fun p hp => by
    obtain ⟨_, _, F⟩ := h.files p hp; exact F.wf)) emptyState_wf_C5b h.rep.st

/-- The closed chunks of the image in the form `RecovC5b` wants, for a directory `fs'`
that agrees with `img` on the ids below `oid`. -/
theorem ImgHypC5b.closedFiles (h : ImgHypC5b img jc oid jo stC lC g0)
    {fs' : Fs} (hsame : ∀ id, id < oid → fs'.find id = img.find id) :
    ∀ p ∈ jc, HoldsDurable fs' p := by
  intro p hp
  obtain ⟨f, hf, F⟩ := h.files p hp
  have hmem : f ∈ img := List.mem_of_find?_eq_some hf
  exact ⟨f, (hsame _ (h.lt p hp)).trans hf, (h.all f hmem).1, F.data, (h.all f hmem).2, F.wf, F.head, F.offsets,
    rfl⟩

theorem linked_cut_C5b {img : Fs} (h : ∀ f ∈ img, f.linked = true) (oid : Nat) (tr : Option Nat) :
    ∀ f ∈ Fs.cut img oid tr, f.linked = true := by
  cases tr with
  | none => exact h
  | some len => exact linked_truncate_C5b h oid len

/-- The directory `fs1` in which `open` creates a fresh chunk `n`: it holds the complete, durable
files of the closed chunks `jc` (which replay to `stX`, `lX` and chain up to `n`) and no other
linked file (an unlinked file `n` may be left: `create` replaces it); no file has an id beyond `n`. -/
structure ClosedDirC5b (fs1 : Fs) (jc : List (Closed × List Record)) (n : Nat) (stX : RState)
    (lX : Log) : Prop where
  rep : RepC jc {} [] stX lX
  wf : stX.WF
  files : ∀ p ∈ jc, p.1.id < n ∧ HoldsDurable fs1 p
  chained : Chained (jc.map (·.1.offsets) ++ [[n, n + (encRecord (.state stX)).length]])
  sorted : (jc.map (·.1.id)).Pairwise (· < ·)
  nodup : (Fs.ids fs1).Nodup
  le : ∀ i ∈ Fs.ids fs1, i ≤ n
  linked : ∀ f ∈ fs1, f.id ≠ n → f.linked = true
  has : ∀ id, fs1.has id = true → id ∈ jc.map (·.1.id)

section
variable {fs1 : Fs} {jc : List (Closed × List Record)} {n : Nat} {stX : RState} {lX : Log}

theorem ClosedDirC5b.hasn (h : ClosedDirC5b fs1 jc n stX lX) : fs1.has n = false := by
  cases hx : fs1.has n with
  | false => rfl
  | true =>
    obtain ⟨p, hp, e⟩ := List.mem_map.mp (h.has n hx)
    exact absurd e (Nat.ne_of_lt (h.files p hp).1)

theorem ClosedDirC5b.recov (h : ClosedDirC5b fs1 jc n stX lX) {sm : Store} (pl : Option LogId)
    (hcl : sm.closed = jc.map (·.1)) (hst : sm.st = stX) (hlog : sm.log = lX) (hrem : sm.removed = []) :
    RecovC5b { sm with openOffsets := [n, n + (encRecord (.state sm.st)).length], pending := [] }
      { files := [⟨n, pl⟩] } ((fs1.create n).write n (encRecord (.state sm.st))) jc [.state stX] := by
  subst hst
  obtain ⟨hnew, hother⟩ := find_create_write fs1 n (encRecord (.state sm.st))
  refine
    { closedEq := hcl.symm
      files := ?files
      openFile := ⟨_, hnew, rfl, by simp, by simpa using ChunkRecs.fresh n h.wf, Or.inr ⟨rfl, rfl, ?openNil⟩⟩
      run := ⟨sm.st, lX, h.rep, by simp [stRun, RState.apply], ?runIdx, fun _ => ⟨[], rfl⟩⟩
      chained := ?chained
      pending := rfl, removed := hrem, worker := ⟨_, rfl⟩
      has := ?has, nodup := ?nodup, idsLe := ?idsLe
      allLinked := linked_create_write_C5b n _ h.linked }
  case files =>
    intro p hp
    obtain ⟨hlt, f, hf, F⟩ := h.files p hp
    exact ⟨f, (hother _ (Nat.ne_of_lt hlt)).trans hf, F⟩
  case openNil =>
    rintro rfl
    exact h.rep.1
  case runIdx =>
    -- the head record leaves the index map as it is
    simp only [hlog]
    simp [chunkOps, opsFrom, idxRun, idxLogO]
  case chained =>
    show Chained (sm.closed.map (·.offsets) ++ [[n, n + _]])
    rw [hcl, List.map_map]
    exact h.chained
  case has =>
    intro id hid
    rw [Fs.has_write, Fs.has_create] at hid
    rw [Store.chunkIds_eq]
    show id ∈ sm.closed.map Closed.id ++ [n]
    rw [hcl, List.map_map]
    by_cases hio : id = n
    · exact List.mem_append_right _ (List.mem_singleton.mpr hio)
    · rw [if_neg hio] at hid
      exact List.mem_append_left _ (h.has id hid)
  case nodup =>
    rw [Fs.ids_write]
    exact Fs.ids_create_nodup h.nodup n
  case idsLe =>
    intro i hi
    rw [Fs.ids_write, Fs.ids_create_eq] at hi
    rcases List.mem_append.mp hi with k | k
    · exact h.le i (List.mem_filter.mp k).1
    · exact Nat.le_of_eq (List.mem_singleton.mp k)

end

theorem take_state_head_C5b {jo tl : List Record} {st : RState} (e : jo = .state st :: tl) {j : Nat}
    (hj : 1 ≤ j) : jo.take j = .state st :: tl.take (j - 1) := by
  rw [e]
  cases j with
  | zero => omega
  | succ j' => simp

theorem ImgHypC5b.take_ne_nil (h : ImgHypC5b img jc oid jo stC lC g0)
    {j : Nat} (hj : 1 ≤ j) : jo.take j ≠ [] := by
  obtain ⟨st, tl, e⟩ := h.head
  rw [take_state_head_C5b e hj]
  exact List.cons_ne_nil _ _

theorem ImgHypC5b.johead_take (h : ImgHypC5b img jc oid jo stC lC g0)
    {j : Nat} (hj : 1 ≤ j) (hne : jc ≠ []) : ∃ tl, jo.take j = .state stC :: tl := by
  obtain ⟨tl, e⟩ := h.johead hne
  exact ⟨_, take_state_head_C5b e hj⟩

theorem chunkRecs_take_C5b {oid : Nat} {jo : List Record} (hwf : AllWF jo)
    (hhead : ∃ st tl, jo = .state st :: tl) {j : Nat} (hj : 1 ≤ j) :
    ChunkRecs (offsetsFrom oid (sizes (jo.take j))) (jo.take j) (encAll (jo.take j)) := by
  obtain ⟨st, tl, e⟩ := hhead
  exact ⟨hwf.take j, ⟨st, _, take_state_head_C5b e hj⟩, by rw [offsetsFrom_headD]; rfl, rfl⟩

theorem find_trunc_open_C5b {img : Fs} {oid : Nat} {g0 : File} {rsj : List Record} {rest : Bytes}
    (hg0 : img.find oid = some g0) (hdur : g0.durable = g0.data.length) (hdata : g0.data = encAll rsj ++ rest) :
    ∃ f, (img.truncate oid (encAll rsj).length).find oid = some f ∧ f.linked = g0.linked ∧
      f.data = encAll rsj ∧ f.durable = f.data.length := by
  refine ⟨_, Fs.find_truncate_self hg0 _, rfl, ?_, ?_⟩
  · show g0.data.take (encAll rsj).length = encAll rsj
    rw [hdata]; exact List.take_left' rfl
  · show min g0.durable (encAll rsj).length = (g0.data.take (encAll rsj).length).length
    rw [hdur, hdata, List.length_take, List.length_append]
    omega

theorem ImgHypC5b.closedDir_drop (h : ImgHypC5b img jc oid jo stC lC g0)
    (tr : Option Nat) : ClosedDirC5b ((Fs.cut img oid tr).unlink oid) jc oid stC lC := by
  have t1 := Fs.ids_cut img oid tr
  refine
    { rep := h.rep, wf := h.stC_wf
      files := fun p hp => ⟨h.lt p hp, h.closedFiles (fun id hid => ?_) p hp⟩
      chained := h.chained.replace_last (by rw [offsetsFrom_headD]; rfl)
      sorted := (List.pairwise_append.mp h.sorted).1
      nodup := by rw [Fs.ids_unlink, t1]; exact h.nodup
      le := by rw [Fs.ids_unlink, t1]; exact h.idsLe
      linked := linked_unlink_C5b (linked_cut_C5b (fun g hg => (h.all g hg).1) oid tr) oid
      has := fun id hid => ?_ }
  · rw [Fs.find_unlink_other _ (Nat.ne_of_lt hid), Fs.find_cut_other _ (Nat.ne_of_lt hid)]
  · rw [Fs.has_unlink, Fs.has_cut, Bool.and_eq_true, bne_iff_ne] at hid
    exact (List.mem_append.mp (h.has hid.1)).resolve_right fun k => hid.2 (List.mem_singleton.mp k)

theorem ImgHypC5b.closedDir_cut (h : ImgHypC5b img jc oid jo stC lC g0)
    {j : Nat} {rest : Bytes} {stJ : RState} {lJ : Log} (hj : 1 ≤ j)
    (hdata : g0.data = encAll (jo.take j) ++ rest)
    (hstJ : stRun (jo.take j) stC = some stJ) (hlJ : idxRun (chunkOps oid (jo.take j)) lC = some lJ)
    (hbelow : ∀ e ∈ lJ, optLe (some e.2.id) stJ.last = true) :
    ClosedDirC5b (img.truncate oid (encAll (jo.take j)).length)
      (jc ++ [((⟨offsetsFrom oid (sizes (jo.take j)), stJ⟩ : Closed), jo.take j)])
      (oid + (encAll (jo.take j)).length) stJ lJ := by
  have hLpos := encAll_length_pos (h.take_ne_nil hj)
  have hcid : (⟨offsetsFrom oid (sizes (jo.take j)), stJ⟩ : Closed).id = oid := by
    simp only [Closed.id, offsetsFrom_headD]
  have hmem0 : g0 ∈ img := List.mem_of_find?_eq_some h.g0
  have hids : (jc ++ [((⟨offsetsFrom oid (sizes (jo.take j)), stJ⟩ : Closed), jo.take j)]).map (·.1.id)
      = jc.map (·.1.id) ++ [oid] := by
    rw [List.map_append, List.map_cons, List.map_nil, hcid]
  refine
    { rep := h.rep.snoc hstJ (by rw [hcid]; exact hlJ) rfl hbelow (h.johead_take hj)
      wf := stRun_wf_C5b _ _ _ (h.wfo.take j) h.stC_wf hstJ
      files := ?files, chained := ?chained, sorted := hids ▸ h.sorted
      nodup := by rw [Fs.ids_truncate]; exact h.nodup
      le := fun i hi => Nat.le_trans (h.idsLe i (Fs.ids_truncate img oid _ ▸ hi)) (Nat.le_add_right _ _)
      linked := fun f hf _ => linked_truncate_C5b (fun g hg => (h.all g hg).1) oid _ f hf
      has := fun id hid => by rw [Fs.has_truncate] at hid; rw [hids]; exact h.has hid }
  case files =>
    intro p hp
    rcases List.mem_append.mp hp with k | k
    · exact ⟨Nat.lt_of_lt_of_le (h.lt p k) (Nat.le_add_right _ _),
        h.closedFiles (fun id hid => Fs.find_truncate_other img (Nat.ne_of_lt hid) _) p k⟩
    · obtain rfl := List.mem_singleton.mp k
      obtain ⟨f, k1, k2, k3, k4⟩ := find_trunc_open_C5b h.g0 (h.all g0 hmem0).2 hdata
      show _ ∧ ∃ f, _ = some f ∧ DurableFile f _
      rw [hcid]
      exact ⟨Nat.lt_add_of_pos_right hLpos,
        f, k1, by rw [k2]; exact (h.all g0 hmem0).1, k3, k4, chunkRecs_take_C5b h.wfo h.head hj⟩
  case chained =>
    rw [List.map_append, List.map_cons, List.map_nil]
    have h1 : Chained (jc.map (·.1.offsets) ++ [offsetsFrom oid (sizes (jo.take j))]) :=
      h.chained.replace_last (by rw [offsetsFrom_headD, offsetsFrom_headD])
    exact h1.snoc (b := [oid + (encAll (jo.take j)).length, _]) (by rw [lastOff_sized]; rfl)

/-- What both ends of `open` (newest chunk reused; fresh chunk created) return. -/
structure ReturnedC5b (cfg : Cfg) (stJ : RState) (lJ : Log) (s' : Store) (w' : Worker) (fs' : Fs)
    (jc' : List (Closed × List Record)) (jo' : List Record) : Prop extends LimitsOf cfg s' where
  recov : RecovC5b s' w' fs' jc' jo'
  st : s'.st = stJ
  log : s'.log = lJ

theorem openStore_fresh_C5b {cfg : Cfg} {img : Fs} {jc jcX : List (Closed × List Record)}
    {oid n : Nat} {rs : List Record} {tr : Option Nat} {stJ : RState} {lJ : Log} {a : OpenAcc}
    (hloop : openLoop cfg img.linkedIds { sm := emptyStore cfg, fs := img } = (.ok a, a))
    (hl : LoopEndC5b cfg img jc oid rs tr stJ lJ a) (hlt : a.lastTruncated = true)
    (hn : oid + (encAll rs).length = n) (hcl : a.sm.closed = jcX.map (·.1))
    (hd : ClosedDirC5b a.fs jcX n stJ lJ) :
    ∃ s' w', openStore cfg img = (.ok (s', w'), (a.fs.create n).write n (encRecord (.state stJ)),
        a.evs ++ [.create "o" n true, .write "o" n (encRecord (.state stJ)) true]) ∧
      ReturnedC5b cfg stJ lJ s' w' ((a.fs.create n).write n (encRecord (.state stJ))) jcX [.state stJ] ∧
      s'.openId = n := by
  have hst := hl.st
  subst hst
  exact ⟨_, _, openStore_fresh hloop (Or.inl hlt) (by rw [hl.prevEnd, hn]; rfl) hd.hasn,
    { toLimitsOf := hl.toLimitsOf.congr rfl rfl, recov := hd.recov _ hcl rfl hl.log hl.removed, st := rfl
      log := hl.log }, rfl⟩

theorem openStore_reuse_C5b {cfg : Cfg} {img : Fs} {jc : List (Closed × List Record)} {oid : Nat}
    {jo : List Record} {stC : RState} {lC : Log} {g0 : File}
    (h : ImgHypC5b img jc oid jo stC lC g0) {a : OpenAcc} {j : Nat} {stJ : RState} {lJ : Log}
    (hj : 1 ≤ j) (hdata : g0.data = encAll (jo.take j))
    (hstJ : stRun (jo.take j) stC = some stJ) (hlJ : idxRun (chunkOps oid (jo.take j)) lC = some lJ)
    (hloop : openLoop cfg img.linkedIds { sm := emptyStore cfg, fs := img } = (.ok a, a))
    (hl : LoopEndC5b cfg img jc oid (jo.take j) none stJ lJ a) :
    ∃ s' w', openStore cfg img = (.ok (s', w'), img, a.evs) ∧
      ReturnedC5b cfg stJ lJ s' w' img jc (jo.take j) ∧ s'.openId = oid := by
  have hne := h.take_ne_nil hj
  have hcl := hl.closed
  have hfs := hl.fs
  have hlt := hl.lastTruncated
  rw [if_neg hne] at hcl hfs
  rw [List.isEmpty_eq_false_iff.mpr hne] at hlt
  have hopen := openStore_of_loads cfg hloop hcl hlt hfs rfl
  have hid : (⟨offsetsFrom oid (sizes (jo.take j)), stJ⟩ : Closed).id = oid := by
    simp only [Closed.id, offsetsFrom_headD]
  rw [hid] at hopen
  -- name the store and its fields: `rw` below need not match the record literal
  obtain ⟨s', w', hopen', ⟨f1, f2, f3, f4, f5, f6, f7, f8⟩, hw'⟩ :
      ∃ s' w', openStore cfg img = (.ok (s', w'), img, a.evs) ∧
        (s'.st = a.sm.st ∧ s'.log = a.sm.log ∧ s'.closed = jc.map (·.1) ∧
          s'.openOffsets = offsetsFrom oid (sizes (jo.take j)) ∧ s'.pending = [] ∧
          s'.removed = a.sm.removed ∧ s'.cfg = a.sm.cfg ∧ s'.cache = a.sm.cache) ∧
        w' = { files := [⟨oid, prevLastOf (jc.map (·.1))⟩] } :=
    ⟨_, _, hopen, ⟨rfl, rfl, rfl, rfl, rfl, rfl, rfl, rfl⟩, rfl⟩
  have hoid : s'.openId = oid := by simp only [Store.openId, f4, offsetsFrom_headD]
  refine ⟨s', w', hopen',
    { toLimitsOf := hl.toLimitsOf.congr f7 f8, recov := ?_, st := f1.trans hl.st, log := f2.trans hl.log }, hoid⟩
  have hmem0 : g0 ∈ img := List.mem_of_find?_eq_some h.g0
  refine
    { closedEq := f3.symm
      files := h.closedFiles (fun _ _ => rfl)
      openFile := ?openFile, run := ?run, chained := ?chained
      pending := f5, removed := f6.trans hl.removed
      worker := ⟨_, by rw [hoid]; exact hw'⟩
      has := ?has, nodup := h.nodup, idsLe := ?idsLe
      allLinked := fun g hg => (h.all g hg).1 }
  case openFile =>
    rw [hoid, f4]
    exact ⟨g0, h.g0, (h.all g0 hmem0).1, hdata, chunkRecs_take_C5b h.wfo h.head hj,
      Or.inl (h.all g0 hmem0).2⟩
  case run =>
    rw [hoid, f1, f2, hl.st, hl.log]
    exact ⟨stC, lC, h.rep, hstJ, hlJ, h.johead_take hj⟩
  case chained =>
    show Chained (s'.closed.map (·.offsets) ++ [s'.openOffsets])
    rw [f3, f4, List.map_map]
    exact h.chained.replace_last (by rw [offsetsFrom_headD, offsetsFrom_headD])
  case has =>
    intro id hid'
    rw [Store.chunkIds_eq, hoid, f3, List.map_map]
    exact h.has hid'
  case idsLe =>
    intro i hi
    rw [hoid]
    exact h.idsLe i hi

theorem jstart_eq_headD_C5b (s : Store) :
    s.jstart = (s.closed.map Closed.id ++ [s.openId]).headD 0 := by
  unfold Store.jstart
  cases s.closed <;> rfl

theorem RecovC5b.jstart_eq {s' : Store} {w' : Worker} {fs' : Fs} {jc' : List (Closed × List Record)}
    {jo' : List Record} (h : RecovC5b s' w' fs' jc' jo') :
    s'.jstart = (jc'.map (·.1.id) ++ [s'.openId]).headD 0 := by
  rw [jstart_eq_headD_C5b, ← h.closedEq, List.map_map]
  rfl

/-- The head `State` record that `open` writes into a fresh chunk. -/
def headOpC5b (st : RState) (n : Nat) : JOp := ⟨.state st, n, ⟨n, (encRecord (.state st)).length⟩⟩

/-- The journal `L'` that `open` leaves when it has replayed `P`: `P` itself (newest chunk reused), or `P` followed
by the head record of the fresh chunk `oid`, which repeats the state `st` that `P` reaches. -/
@[reducible] def KeptC5b (P L' : List JOp) (st : RState) (oid : Nat) : Prop :=
  L' = P ∨ L' = P ++ [headOpC5b st oid]

/-- The first `j` records of the newest chunk `oid` take `stC`, `lC` (where the closed chunks end) on to `stJ`,
`lJ`. (`below` is needed only where the newest chunk is closed: `RepC.snoc`.) -/
structure TakeRunC5b (oid : Nat) (jo : List Record) (j : Nat) (stC : RState) (lC : Log) (stJ : RState)
    (lJ : Log) : Prop where
  st : stRun (jo.take j) stC = some stJ
  log : idxRun (chunkOps oid (jo.take j)) lC = some lJ
  below : ∀ e ∈ lJ, optLe (some e.2.id) stJ.last = true

/-- A crash image without torn predecessor, with its newest file parsed: the file of `oid` is the first `j`
records of `jo`, then nothing or a torn tail `rest`; these records take `stC`, `lC` on to `stJ`, `lJ`. -/
structure ImgParseC5b (img : Fs) (jc : List (Closed × List Record)) (oid : Nat) (jo : List Record)
    (stC : RState) (lC : Log) (g0 : File) (j : Nat) (rest : Bytes) (stJ : RState) (lJ : Log) : Prop
    extends TakeRunC5b oid jo j stC lC stJ lJ where
  hyp : ImgHypC5b img jc oid jo stC lC g0
  data : g0.data = encAll (jo.take j) ++ rest
  tail : rest = [] ∨ TornTail rest

theorem ImgParseC5b.stRunO {img : Fs} {jc : List (Closed × List Record)} {oid : Nat} {jo : List Record}
    {stC : RState} {lC : Log} {g0 : File} {j : Nat} {rest : Bytes} {stJ : RState} {lJ : Log}
    (h : ImgParseC5b img jc oid jo stC lC g0 j rest stJ lJ) :
    RaftLog.stRunO (flatOps jc ++ chunkOps oid (jo.take j)) {} = some stJ :=
  (stRunO_flat_chunk_C5b h.hyp.rep oid _).trans h.st

theorem ImgParseC5b.idxRun {img : Fs} {jc : List (Closed × List Record)} {oid : Nat} {jo : List Record}
    {stC : RState} {lC : Log} {g0 : File} {j : Nat} {rest : Bytes} {stJ : RState} {lJ : Log}
    (h : ImgParseC5b img jc oid jo stC lC g0 j rest stJ lJ) :
    RaftLog.idxRun (flatOps jc ++ chunkOps oid (jo.take j)) [] = some lJ :=
  (idxRun_flat_chunk_C5b h.hyp.rep oid _).trans h.log

/-- What `open` returned on an image of which it replayed the journal prefix `P`: its journal is `P` (newest chunk
reused: its file is durable) or `P` and the head of a fresh chunk. -/
structure OpenedC5b (cfg : Cfg) (first : Nat) (P : List JOp) (stJ : RState) (lJ : Log) (s' : Store) (w' : Worker)
    (fs' : Fs) (jc' : List (Closed × List Record)) (jo' : List Record) : Prop
    extends ReturnedC5b cfg stJ lJ s' w' fs' jc' jo' where
  kept : (allOps s' jc' jo' = P ∧ ∀ f, fs'.find s'.openId = some f → f.durable = f.data.length) ∨
    (allOps s' jc' jo' = P ++ [headOpC5b s'.st s'.openId] ∧ jo' = [.state s'.st])
  jstart : s'.jstart = first

theorem OpenedC5b.keptC5b {cfg : Cfg} {first : Nat} {P : List JOp} {stJ : RState} {lJ : Log} {s' : Store}
    {w' : Worker} {fs' : Fs} {jc' : List (Closed × List Record)} {jo' : List Record}
    (h : OpenedC5b cfg first P stJ lJ s' w' fs' jc' jo') : KeptC5b P (allOps s' jc' jo') s'.st s'.openId :=
  h.kept.imp And.left And.left

/-- What `open` did after the loop, which ended in the accumulator `a` with the complete records `rs` of the newest
chunk read and `rest` left over in its file. -/
inductive OpenTailC5b (img : Fs) (a : OpenAcc) (rs : List Record) (rest : Bytes) (stJ : RState) (lJ : Log)
    (s' : Store) (jc' : List (Closed × List Record)) (fs' : Fs) (evs : List Ev) : Prop
  | reuse (ne : rs ≠ []) (clean : rest = []) (fs_eq : fs' = img) (evs_eq : evs = a.evs)
  | fresh (why : rs = [] ∨ rest ≠ []) (dir : ClosedDirC5b a.fs jc' s'.openId stJ lJ)
      (fs_eq : fs' = (a.fs.create s'.openId).write s'.openId (encRecord (.state stJ)))
      (evs_eq : evs = a.evs ++ [.create "o" s'.openId true, .write "o" s'.openId (encRecord (.state stJ)) true])

theorem openStore_image_full_C5b (cfg : Cfg) (ht : cfg.truncate = true) {img : Fs}
    {jc : List (Closed × List Record)} {oid : Nat} {jo : List Record} {stC : RState} {lC : Log}
    {g0 : File} {j : Nat} {rest : Bytes} {stJ : RState} {lJ : Log}
    (hp : ImgParseC5b img jc oid jo stC lC g0 j rest stJ lJ) :
    ∃ s' w' fs' evs jc' jo' a, openStore cfg img = (.ok (s', w'), fs', evs) ∧
      OpenedC5b cfg ((jc.map (·.1.id) ++ [oid]).headD 0) (flatOps jc ++ chunkOps oid (jo.take j)) stJ lJ
        s' w' fs' jc' jo' ∧
      LoopEndC5b cfg img jc oid (jo.take j) (tailTrunc (jo.take j) rest) stJ lJ a ∧
      OpenTailC5b img a (jo.take j) rest stJ lJ s' jc' fs' evs := by
  have h := hp.hyp
  have hdata := hp.data
  have hstJ := hp.st
  have hlJ := hp.log
  obtain ⟨a, hloop, hl⟩ :=
    openLoop_image_ok_C5b cfg ht h.ids h.files h.rep h.chained (offsetsFrom_headD _ _) h.g0
      (h.wfo.take j) hdata hp.tail hstJ hlJ
      h.allDurable
  by_cases hnil : jo.take j = []
  · -- the newest chunk holds no complete record
    have hstJ' := hstJ
    have hlJ' := hlJ
    rw [hnil] at hstJ' hlJ'
    simp only [stRun, Option.some.injEq] at hstJ'
    simp only [chunkOps, opsFrom, idxRun, Option.some.injEq] at hlJ'
    subst hstJ'; subst hlJ'
    have hcl := hl.closed
    have hfs := hl.fs
    rw [if_pos hnil] at hfs
    rw [if_pos hnil, List.append_nil] at hcl
    have hd := hfs ▸ h.closedDir_drop (tailTrunc (jo.take j) rest)
    obtain ⟨s', w', hopen, R, hoid⟩ :=
      openStore_fresh_C5b hloop hl (by rw [hl.lastTruncated, hnil]; rfl) (by rw [hnil]; rfl) hcl hd
    have hst := R.st
    refine ⟨s', w', _, _, jc, [.state stC], a, hopen,
      { toReturnedC5b := R, kept := Or.inr ⟨?_, by rw [hst]⟩, jstart := by rw [R.recov.jstart_eq, hoid] }, hl,
      .fresh (Or.inl hnil) (hoid ▸ hd) (by rw [hoid]) (by rw [hoid])⟩
    rw [hnil]
    simp only [allOps, hoid, hst, chunkOps, opsFrom, headOpC5b, List.append_nil]
  · have hj1 : 1 ≤ j := by
      cases j with
      | zero => exact absurd rfl hnil
      | succ j' => exact Nat.succ_le_succ (Nat.zero_le _)
    by_cases hrest : rest = []
    · -- clean end
      have htr : tailTrunc (jo.take j) rest = none := by simp [tailTrunc, hrest]
      rw [hrest, List.append_nil] at hdata
      obtain ⟨s', w', hopen, R, hoid⟩ :=
        openStore_reuse_C5b h hj1 hdata hstJ hlJ hloop (htr ▸ hl)
      refine ⟨s', w', img, _, jc, jo.take j, a, hopen,
        { toReturnedC5b := R, kept := Or.inl ⟨?_, ?_⟩, jstart := by rw [R.recov.jstart_eq, hoid] }, hl,
        .reuse hnil hrest rfl rfl⟩
      · simp only [allOps, hoid]
      · intro f hf
        exact (h.all f (List.mem_of_find?_eq_some hf)).2
    · -- torn tail
      have htr : tailTrunc (jo.take j) rest = some (encAll (jo.take j)).length := by
        simp [tailTrunc, hrest]
      have hcl := hl.closed
      have hfs := hl.fs
      rw [if_neg hnil, htr] at hfs
      rw [if_neg hnil] at hcl
      have hd := h.closedDir_cut hj1 hdata hstJ hlJ hp.below
      rw [show img.truncate oid (encAll (jo.take j)).length = a.fs from hfs.symm] at hd
      obtain ⟨s', w', hopen, R, hoid⟩ :=
        openStore_fresh_C5b hloop hl (by rw [hl.lastTruncated, htr]; simp) rfl
          (by rw [hcl, List.map_append]; rfl) hd
      have hst := R.st
      have hrec := R.recov
      refine ⟨s', w', _, _, _, _, a, hopen, { toReturnedC5b := R, kept := Or.inr ⟨?_, by rw [hst]⟩, jstart := ?_ }, hl,
        .fresh (Or.inr hrest) (hoid ▸ hd) (by rw [hoid]) (by rw [hoid])⟩
      · simp only [allOps, hoid, hst, flatOps_append, flatOps, chunkOps, opsFrom, headOpC5b, List.append_nil,
          Closed.id, offsetsFrom_headD, List.append_assoc]
      · rw [hrec.jstart_eq]
        simp only [List.map_append, List.map_cons, List.map_nil, Closed.id, offsetsFrom_headD,
          List.append_assoc]
        clear hrec hopen hloop hd hcl hl h
        cases jc <;> rfl

theorem openStore_image_C5b (cfg : Cfg) (ht : cfg.truncate = true) {img : Fs}
    {jc : List (Closed × List Record)} {oid : Nat} {jo : List Record} {stC : RState} {lC : Log}
    {g0 : File} {j : Nat} {rest : Bytes} {stJ : RState} {lJ : Log}
    (hp : ImgParseC5b img jc oid jo stC lC g0 j rest stJ lJ) :
    ∃ s' w' fs' evs jc' jo', openStore cfg img = (.ok (s', w'), fs', evs) ∧
      OpenedC5b cfg ((jc.map (·.1.id) ++ [oid]).headD 0) (flatOps jc ++ chunkOps oid (jo.take j)) stJ lJ
        s' w' fs' jc' jo' :=
  let ⟨s', w', fs', evs, jc', jo', _, hopen, ho, _⟩ := openStore_image_full_C5b cfg ht hp
  ⟨s', w', fs', evs, jc', jo', hopen, ho⟩

end RaftLog
