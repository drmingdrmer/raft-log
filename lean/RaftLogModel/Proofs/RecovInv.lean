/-
C05 (crash recoverability): a store described by `RecovC5b` satisfies the journal invariant, the
replay invariant (given the reference log it refines), the linked-files, durability and coverage
invariants; its linked files are exactly its chunks.
-/
import RaftLogModel.Proofs.RecovOpenImage
import RaftLogModel.Proofs.CrashHistSys
namespace RaftLog

variable {s' : Store} {w' : Worker} {fs' : Fs} {jc' : List (Closed × List Record)} {jo' : List Record}

theorem RecovC5b.inflight (h : RecovC5b s' w' fs' jc' jo') (i : Nat) : w'.inflight i = [] := by
  obtain ⟨pl, rfl⟩ := h.worker; exact reopen_inflight _ pl i

theorem RecovC5b.announced (h : RecovC5b s' w' fs' jc' jo') : w'.announced = [s'.openId] := by
  obtain ⟨pl, rfl⟩ := h.worker; exact reopen_announced _ pl

theorem RecovC5b.toRemove (h : RecovC5b s' w' fs' jc' jo') : w'.toRemove = [] := by
  obtain ⟨pl, rfl⟩ := h.worker; exact reopen_toRemove _ pl

theorem RecovC5b.idle (h : RecovC5b s' w' fs' jc' jo') : w'.pc = .idle := by
  obtain ⟨pl, rfl⟩ := h.worker; rfl

theorem RecovC5b.chunkBytes_eq (h : RecovC5b s' w' fs' jc' jo') (id : Nat) :
    chunkBytes s' fs' w' id = fdata fs' id := by
  have f1 := h.inflight
  simp [chunkBytes, f1, h.pending]

theorem RecovC5b.repG (h : RecovC5b s' w' fs' jc' jo') : RepG s' fs' w' jc' jo' := by
  refine ⟨h.closedEq, ?_, ?_, ?_⟩
  · intro p hp
    obtain ⟨f, hf, F⟩ := h.closedFile p hp
    rw [h.chunkBytes_eq, fdata_of_find_C3 hf, F.data]
    exact F.recs
  · obtain ⟨f, hf, F⟩ := h.openChunkFile
    rw [h.chunkBytes_eq, fdata_of_find_C3 hf, F.data]
    exact F.recs
  · exact h.run

theorem RecovC5b.openChunkOK (h : RecovC5b s' w' fs' jc' jo') : ChunkOK s'.openOffsets (encAll jo') := by
  obtain ⟨f, _, F⟩ := h.openChunkFile
  exact F.recs.chunkOK

theorem RecovC5b.mem_closed (h : RecovC5b s' w' fs' jc' jo') {c : Closed} (hc : c ∈ s'.closed) :
    ∃ p ∈ jc', p.1 = c := by
  rw [← h.closedEq] at hc
  obtain ⟨p, hp, e⟩ := List.mem_map.mp hc
  exact ⟨p, hp, e⟩

theorem RecovC5b.chunk_file (h : RecovC5b s' w' fs' jc' jo') {offs : List Nat} (ho : offs ∈ s'.chunks) :
    ∃ f rs, fs'.find (offs.headD 0) = some f ∧ f.data = encAll rs ∧ ChunkRecs offs rs (encAll rs) ∧
      (f.durable = f.data.length ∨ offs = s'.openOffsets) := by
  simp only [Store.chunks, List.mem_append, List.mem_map, List.mem_singleton] at ho
  rcases ho with ⟨c, hc, rfl⟩ | rfl
  · obtain ⟨p, hp, e⟩ := h.mem_closed hc
    obtain ⟨f, hf, F⟩ := h.closedFile p hp
    rw [← e]
    exact ⟨f, p.2, hf, F.data, F.recs, Or.inl F.durable⟩
  · obtain ⟨f, hf, F⟩ := h.openChunkFile
    exact ⟨f, jo', hf, F.data, F.recs, Or.inr rfl⟩

theorem RecovC5b.head_lt (h : RecovC5b s' w' fs' jc' jo') : ∀ x ∈ s'.chunks, x.headD 0 < lastOff x := by
  intro x hx
  obtain ⟨_, _, _, _, k5, _⟩ := h.chunk_file hx
  exact k5.chunkOK.head_lt

theorem RecovC5b.jinv (h : RecovC5b s' w' fs' jc' jo') (hst : s'.st.WF)
    (hlog : ∀ e ∈ s'.log, e.2.id.WF) : JInv s' fs' w' := by
  have f1 := h.inflight
  have f2 := h.announced
  have f4 := h.idle
  have hopen := h.openChunkOK
  have hhl := hopen.head_lt
  have hhead := h.head_lt
  refine
    { wok := by rw [f4]; trivial
      stWF := hst, logWF := hlog, fsLt := ?fsLt
      annLast := by rw [f2]; rfl
      annAsc := by rw [f2]; simp [Incr]
      annFs := ?annFs, chained := h.chained, closedLe := ?closedLe, closedFs := ?closedFs
      openBytes := ?openBytes, closedBytes := ?closedBytes }
  case fsLt =>
    intro i hi
    have := h.idsLe i hi
    simp only [Store.openEnd, Store.openId] at hhl this ⊢
    omega
  case annFs =>
    intro a ha
    rw [f2] at ha
    simp only [List.mem_singleton] at ha
    subst ha
    obtain ⟨f, hf, _⟩ := h.openChunkFile
    exact (Fs.find_isSome_iff fs' _).mp (by rw [hf]; rfl)
  case closedLe =>
    intro c hc
    have hch := h.chained
    simp only [Store.chunks] at hch
    obtain ⟨pre, post, hsplit⟩ := List.append_of_mem hc
    rw [hsplit, List.map_append, List.map_cons, List.append_assoc] at hch
    exact chained_last_le c.offsets (post.map (·.offsets) ++ [s'.openOffsets]) (Chained.drop_prefix hch)
      (fun x hx => hhead x (by
        rw [Store.chunks, hsplit, List.map_append, List.map_cons, List.append_assoc]
        exact List.mem_append_right _ (List.mem_cons_of_mem _ hx)))
      s'.openId (by simp [Store.openId])
  case closedFs =>
    intro c hc
    obtain ⟨p, hp, e⟩ := h.mem_closed hc
    obtain ⟨f, hf, _⟩ := h.closedFile p hp
    rw [← e]
    exact (Fs.find_isSome_iff fs' _).mp (by rw [hf]; rfl)
  case openBytes =>
    obtain ⟨f, hf, F⟩ := h.openChunkFile
    rw [f1, h.pending, fdata_of_find_C3 hf, F.data]
    simpa using F.recs.chunkOK
  case closedBytes =>
    intro c hc
    obtain ⟨p, hp, e⟩ := h.mem_closed hc
    obtain ⟨f, hf, F⟩ := h.closedFile p hp
    rw [f1, ← e, fdata_of_find_C3 hf, F.data]
    simpa using F.recs.chunkOK

theorem RecovC5b.linv (h : RecovC5b s' w' fs' jc' jo') : LInv s' fs' w' := by
  have f3 := h.toRemove
  refine ⟨h.nodup, ?_, fun id hid => Or.inl (h.has id hid), ?_⟩
  · intro id hid
    obtain ⟨offs, ho, rfl⟩ := List.mem_map.mp hid
    obtain ⟨f, _, k1, _⟩ := h.chunk_file ho
    exact Fs.has_eq_true_iff.mpr ⟨f, k1, h.allLinked f (List.mem_of_find?_eq_some k1)⟩
  · intro x hx
    rw [h.removed, f3] at hx
    rcases hx with k | k <;> cases k

theorem RecovC5b.rinv (h : RecovC5b s' w' fs' jc' jo') {r' : RefLog} (hst : s'.st.WF)
    (hlog : ∀ e ∈ s'.log, e.2.id.WF) (h1 : s'.st = r'.state) (h2 : logKeys s'.log = entKeys r'.entries)
    (hwf : r'.WF) (hsm : StSmall s'.st) (hlsm : ∀ e ∈ s'.log, smallId e.2.id)
    (hpay : PayG s' r' jc' jo') (hrun : RunG s' jc' jo') : RInv s' fs' w' r' :=
  ⟨h.jinv hst hlog, ⟨h1, h2, hwf, ⟨h.openChunkOK.length, hsm.1, hsm.2, hlsm⟩⟩,
    ⟨jc', jo', h.repG, hpay, hrun⟩⟩

theorem RecovC5b.dinv (h : RecovC5b s' w' fs' jc' jo') {A : Nat} (hA : A ≤ s'.openEnd)
    (hd : (∀ f, fs'.find s'.openId = some f → f.durable = f.data.length) ∨ A ≤ s'.openId) :
    DInv s' fs' w' A := by
  have f4 := h.idle
  obtain ⟨pl, hw'⟩ := h.worker
  have hrest : w'.rest = [] := by rw [hw']; rfl
  have hcur : w'.cur = s'.openId := by rw [hw']; rfl
  refine ⟨⟨(by rw [hrest]; trivial), (by rw [f4]; intro r hr; cases hr), ?_⟩,
    (by rw [hrest]; intro i hi; cases hi), hA, ?_, ?_⟩
  · intro i hi hlt
    exact absurd (hcur ▸ hlt) (Nat.not_lt.mpr (h.idsLe i hi))
  · intro offs ho
    obtain ⟨f, rs, k1, k3, k5, _⟩ := h.chunk_file ho
    rw [fdata_of_find_C3 k1, k3, k5.lastOff_eq, Nat.add_sub_cancel_left]
    exact Nat.min_le_left _ _
  · intro offs ho f hf
    obtain ⟨f', rs, k1, k3, k5, hd'⟩ := h.chunk_file ho
    rw [k1] at hf
    cases hf
    rw [k5.lastOff_eq, Nat.add_sub_cancel_left, ← k3]
    rcases hd' with hd' | rfl
    · rw [hd']; exact Nat.min_le_left _ _
    · rcases hd with hd | hd
      · rw [hd f k1]; exact Nat.min_le_left _ _
      · rw [show A - s'.openOffsets.headD 0 = 0 from Nat.sub_eq_zero_of_le hd, Nat.min_zero]
        exact Nat.zero_le _

theorem RecovC5b.covered (h : RecovC5b s' w' fs' jc' jo') : CoveredFW fs' w' := by
  intro f hf hdur _
  obtain ⟨pl, hw⟩ := h.worker
  left
  rw [hw]
  simp only [List.map_cons, List.map_nil, List.mem_singleton]
  -- `f` is a chunk file; closed chunk files are durable
  have hhas : fs'.has f.id = true := (Fs.has_iff h.nodup f.id).mpr ⟨f, hf, h.allLinked f hf, rfl⟩
  have hmem := h.has f.id hhas
  rw [Store.chunkIds_eq] at hmem
  rcases List.mem_append.mp hmem with k | k
  · exfalso
    obtain ⟨c, hc, e⟩ := List.mem_map.mp k
    obtain ⟨p, hp, e2⟩ := h.mem_closed hc
    obtain ⟨f', k1, F⟩ := h.closedFile p hp
    have k4 := F.durable
    have hf' : f' ∈ fs' := List.mem_of_find?_eq_some k1
    have : f' = f := eq_of_nodup_ids h.nodup hf' hf (by rw [Fs.find_id k1, e2]; exact e)
    subst this
    omega
  · simpa using k

theorem RecovC5b.chunkIds_sorted (h : RecovC5b s' w' fs' jc' jo') :
    s'.chunkIds.Pairwise (· < ·) :=
  chained_heads_sorted s'.chunks h.chained h.head_lt

theorem RecovC5b.linkedIds_eq (h : RecovC5b s' w' fs' jc' jo') : fs'.linkedIds = s'.chunkIds :=
  Fs.linkedIds_eq_of h.nodup h.chunkIds_sorted fun x => ⟨h.has x, h.linv.live x⟩

end RaftLog
