/-
C07: the truncate-free invariant `ReadInv` is equivalent to `ReadInvC7b` (Proofs/ReadTrunc.lean) at ghost value
`m = last` (`ReadInv.toC7b` / `ReadInvC7b.toReadInv`):
without `truncate`, `last` never goes back and every accepted append is above it, so `last` bounds the
largest id appended so far.
-/
import RaftLogModel.Proofs.ReadTrunc
namespace RaftLog

def ReadInv (y : Sys) (r : RefLog) : Prop :=
  ∃ s, y.store = some s ∧ y.worker.pc ≠ .dead ∧ JInv s y.fs y.worker ∧ RdInv s y.fs y.worker r ∧
    r.EntriesWF

theorem ReadInv.toJ {y : Sys} {r : RefLog} (h : ReadInv y r) : J y := by
  obtain ⟨s, hs, hd, hj, _⟩ := h
  exact ⟨s, hs, hd, hj⟩

theorem ReadInv.toC7b {y : Sys} {r : RefLog} (h : ReadInv y r) : ReadInvC7b y r r.last := by
  obtain ⟨s, hs, hd, hj, hr, hew⟩ := h
  have e : s.st.last = r.last := hr.ref.abs.last
  exact ⟨s, hs, hd, hj, (rdInv_iff.1 hr).weaken (e ▸ optMax_left_C7b _ _), hew⟩

theorem ReadInvC7b.toReadInv {y : Sys} {r : RefLog} {m : Option LogId} (h : ReadInvC7b y r m)
    (hm : optLe m r.last = true) : ReadInv y r := by
  obtain ⟨s, hs, hd, hj, hr, hew⟩ := h
  have e : s.st.last = r.last := hr.ref.abs.last
  exact ⟨s, hs, hd, hj, rdInv_iff.2 (hr.weaken (e ▸ optMax_le_C7b hm hr.ref.wf.pl.1)), hew⟩

theorem appendAll_fresh_C7b (es : List (LogId × Bytes)) : ∀ (r r' : RefLog) (m : Option LogId),
    optLe m r.last = true → r.appendAll es = .ok r' →
    ∃ m', freshIdsC7b m es = some m' ∧ optLe m' r'.last = true := by
  induction es with
  | nil =>
    intro r r' m hm hc
    simp only [RefLog.appendAll] at hc
    injection hc with hc; subst hc
    exact ⟨m, rfl, hm⟩
  | cons e rest ih =>
    obtain ⟨id, p⟩ := e
    intro r r' m hm hc
    simp only [RefLog.appendAll] at hc
    split at hc
    · rename_i r1 hc1
      obtain ⟨h1, h2, _⟩ := RefLog.append1_shape hc1
      have hlt : optLt m (some id) = true := by
        rw [optLt_iff_not_le]
        exact optLe_false_of_le hm h1
      obtain ⟨m', hm', hle'⟩ := ih r1 r' (some id) (by rw [h2]; exact optLe_refl _) hc
      exact ⟨m', by simp only [freshIdsC7b, hlt, if_true]; exact hm', hle'⟩
    · cases hc

theorem call_fresh_of_noTruncate {r r' : RefLog} {op : Op} {m : Option LogId}
    (hm : optLe m r.last = true) (hc : r.call op = .ok r') (hnt : ∀ idx, op ≠ .truncate idx) :
    ∃ m', freshOpC7b m op = some m' ∧ optLe m' r'.last = true := by
  refine RefLog.call_cases
    (P := fun op r' => (∀ idx, op ≠ .truncate idx) → ∃ m', freshOpC7b m op = some m' ∧ optLe m' r'.last = true)
    hc ?_ (fun es hc _ => appendAll_fresh_C7b es r r' m hm hc) (fun idx _ _ h => absurd rfl (h idx))
    (fun _ _ _ => ⟨m, rfl, hm⟩) ?_ hnt
  · intro r' _ hla _ h1 h2 h3 _
    exact ⟨m, freshOp_of_not_append h1, hla ▸ hm⟩
  · intro upto _ _
    refine ⟨m, rfl, ?_⟩
    show optLe m (if optLt r.last (some upto) then some upto else r.last) = true
    by_cases hlt : optLt r.last (some upto) = true
    · simp only [hlt, if_true]
      exact optLe_trans hm (optLe_of_lt hlt)
    · simp only [hlt]
      exact hm

theorem run_fresh_of_noTruncate_C7b (ops : List Op) : ∀ (r r' : RefLog) (m : Option LogId),
    optLe m r.last = true → r.run ops = some r' → (∀ op ∈ ops, ∀ idx, op ≠ .truncate idx) →
    ∃ m', freshOpsC7b m ops = some m' ∧ optLe m' r'.last = true := by
  induction ops with
  | nil =>
    intro r r' m hm hr _
    simp only [RefLog.run, Option.some.injEq] at hr
    subst hr
    exact ⟨m, rfl, hm⟩
  | cons op rest ih =>
    intro r r' m hm hr hnt
    obtain ⟨r1, _, hc, hr⟩ := RefLog.run_cons.1 hr
    obtain ⟨m1, hf1, hm1⟩ := call_fresh_of_noTruncate hm hc (hnt _ List.mem_cons_self)
    simp only [freshOpsC7b, hf1]
    exact ih r1 r' m1 hm1 hr (fun o ho => hnt o (List.mem_cons_of_mem _ ho))

theorem ReadInv.call {y : Sys} {r r' : RefLog} {op : Op} (h : ReadInv y r)
    (hl : r.legal op = true) (hc : r.call op = .ok r') (hsm : op.small) (hwf : op.WF)
    (hnt : ∀ idx, op ≠ .truncate idx) :
    ReadInv (y.step (.call op)) r' ∧ ∃ seg, (y.call op).1 = .ok seg := by
  obtain ⟨m', hfr, hm'⟩ := call_fresh_of_noTruncate (optLe_refl r.last) hc hnt
  obtain ⟨h', hok⟩ := h.toC7b.call hl hc hsm hwf hfr
  exact ⟨h'.toReadInv hm', hok⟩

theorem ReadInv.flush {y : Sys} {r : RefLog} (h : ReadInv y r) (cb : Option Nat) :
    ReadInv (y.step (.flush cb)) r :=
  (h.toC7b.flush cb).toReadInv (optLe_refl _)

theorem ReadInv.worker {y : Sys} {r : RefLog} (h : ReadInv y r) (out : Outcome)
    (hnd : (y.step (.worker out)).worker.pc ≠ .dead) : ReadInv (y.step (.worker out)) r :=
  (h.toC7b.worker out hnd).toReadInv (optLe_refl _)

theorem ReadInv.workerIdle {y : Sys} {r : RefLog} (h : ReadInv y r)
    (hnd : (y.step .workerIdle).worker.pc ≠ .dead) : ReadInv (y.step .workerIdle) r :=
  (h.toC7b.workerIdle hnd).toReadInv (optLe_refl _)

theorem ReadInv.drain {y : Sys} {r : RefLog} (h : ReadInv y r) : ReadInv (y.step .drain) r :=
  h.toC7b.drain.toReadInv (optLe_refl _)

theorem fresh_readInv (cfg : Cfg) : ReadInv (Sys.fresh cfg) {} :=
  (fresh_readInv_C7b cfg).toReadInv rfl

/-- What C07 asks of the ops of a history: no index equal to u64::MAX, values
the Rust types can hold, and no `truncate`. -/
def Op.c07 (op : Op) : Prop := op.small ∧ op.WF ∧ ∀ idx, op ≠ .truncate idx

theorem run_readInv (steps : List Step) (y : Sys) (r r' : RefLog) (h : ReadInv y r)
    (hsteps : ∀ st ∈ steps, st.journal = true) (hr : r.run (stepOps steps) = some r')
    (hops : ∀ op ∈ stepOps steps, op.c07) (hnd : (y.run steps).worker.pc ≠ .dead) :
    ReadInv (y.run steps) r' ∧
    ∀ pre op post, steps = pre ++ Step.call op :: post → ∃ seg, ((y.run pre).call op).1 = .ok seg := by
  obtain ⟨m', hfr, hm'⟩ := run_fresh_of_noTruncate_C7b (stepOps steps) r r' r.last (optLe_refl _) hr
    (fun op hop => (hops op hop).2.2)
  obtain ⟨h', hok⟩ := run_readInv_C7b steps y r r' r.last m' h.toC7b hsteps hr
    (fun op hop => ⟨(hops op hop).1, (hops op hop).2.1⟩) hfr hnd
  exact ⟨h'.toReadInv hm', hok⟩

theorem ReadInv.read {y : Sys} {r : RefLog} (h : ReadInv y r) :
    ∃ s, y.store = some s ∧ s.st = r.state ∧
      (∀ a b, (s.read y.fs a b).1 = (r.read a b).map (fun e => ReadItem.ok e.1 e.2)) ∧
      s.iter y.fs = r.entries.map (fun e => ReadItem.ok e.1 e.2) :=
  h.toC7b.read

theorem ReadInv.resident_or_on_disk {y : Sys} {r : RefLog} (h : ReadInv y r) :
    ∃ s, y.store = some s ∧ ∀ x ∈ s.log, ∃ p, (x.2.id, p) ∈ r.entries ∧
      (s.cache.get x.2.id = some p ∨
        ((∃ c ∈ s.closed, c.id = x.2.chunk) ∧ y.worker.inflight x.2.chunk = [] ∧
          ∃ f, y.fs.find x.2.chunk = some f ∧ x.2.off - x.2.chunk + x.2.size ≤ f.data.length ∧
            (f.data.drop (x.2.off - x.2.chunk)).take x.2.size = encRecord (.append x.2.id p))) :=
  h.toC7b.resident_or_on_disk

theorem ReadInv.boundary_written {y : Sys} {r : RefLog} (h : ReadInv y r) :
    ∃ s, y.store = some s ∧ ∀ x ∈ s.log, optLe (some x.2.id) s.cache.lastEvictable = true →
      ∃ c ∈ s.closed, c.id = x.2.chunk ∧ y.worker.inflight c.id = [] ∧
        (fdata y.fs c.id).length = lastOff c.offsets - c.id := by
  obtain ⟨s, hs, _, hj, hr, hew⟩ := h.toC7b
  refine ⟨s, hs, ?_⟩
  intro x hx hle
  have hlt := hr.bnd.2 x hx hle
  obtain ⟨p, hp, _⟩ := hr.loc x hx
  obtain ⟨⟨c, hc, hcid⟩, _, hinf, _⟩ := hr.on_disk hj hew hx hp hlt
  refine ⟨c, hc, hcid, by rw [hcid]; exact hinf, ?_⟩
  have := (hj.closedBytes c hc).lastOff_eq
  rw [hcid, hinf, List.append_nil, ← hcid] at this
  simp only [Closed.id]
  simp only [Closed.id] at this
  omega

end RaftLog
