/-
C03: a positive callback of a flush means the acknowledged position has reached
the journal end at the time of that flush — the worker level.

Requests are never changed between `send` and the batch that handles them: the
requests a worker holds after a step are among those it held before
(`WCtx.step_reqs_sub`, read off the worker's view). A predicate on the requests that carry callback `i`
(`Tagged i Q`) therefore survives worker steps, public calls (their requests
carry no callback) and flushes with other callbacks.
-/
import RaftLogModel.Proofs.CrashDurInv
import RaftLogModel.Proofs.WorkerRuns
namespace RaftLog

/-- Every request the worker holds: the batch in hand, the request in hand, the queue. -/
def Worker.reqs (w : Worker) : List WReq := w.pc.batchW ++ w.rest

def Tagged (i : Nat) (Q : WReq → Prop) (w : Worker) : Prop :=
  ∀ r ∈ w.reqs, r.cbId = some i → Q r

theorem Worker.reqs_view (w : Worker) : w.reqs = w.view.bw ++ w.view.rest := rfl

theorem VAct.reqs {v v' : WView} {fs fs' : Fs} (h : VAct v fs v' fs') : v'.bw ++ v'.rest = v.bw ++ v.rest := by
  cases h <;> rfl

/-- Through the view (`WCtx.step_view`): the system call of a step leaves batch and rest alone, every
quiet move only moves requests from the rest into the batch or drops them. -/
theorem WCtx.step_reqs_sub (c : WCtx) (out : Outcome) (hok : c.w.pc.ok c.w.files) :
    ∀ r ∈ (c.step out).w.reqs, r ∈ c.w.reqs := by
  rcases c.step_view out hok with hd | ⟨v1, ha, hq⟩
  · intro r hr
    rw [(c.step_dies out hd).1] at hr
    simp [Worker.reqs, Worker.rest, WPc.batchW, WPc.inHand] at hr
  · rw [Worker.reqs_view, Worker.reqs_view, ← ha.reqs]
    refine WView.Quiet.lift (R := fun a b => ∀ r ∈ b.bw ++ b.rest, r ∈ a.bw ++ a.rest)
      (fun _ _ h => h) (fun h1 h2 r hr => h1 r (h2 r hr)) (fun hp => ?_) hq
    cases hp with
    | batch b R _ hb hr _ => simp [hb, hr]
    | ack ok => exact fun r hr => List.mem_append_right _ hr
    | append n p q _ _ hr => rw [hr]; exact fun r hr => by simp at hr ⊢; exact hr.imp_right .inr
    | remove ids q _ hr => rw [hr]; exact fun r hr => by simp at hr ⊢; exact hr.imp_right .inr
    | retry _ => simp

theorem Tagged.step {i : Nat} {Q : WReq → Prop} {c : WCtx} (h : Tagged i Q c.w) (out : Outcome)
    (hok : c.w.pc.ok c.w.files) : Tagged i Q (c.step out).w :=
  fun r hr hi => h r (c.step_reqs_sub out hok r hr) hi

theorem Tagged.runQuiet {i : Nat} {Q : WReq → Prop} (n : Nat) (c : WCtx) (h : Tagged i Q c.w)
    (hok : c.w.pc.ok c.w.files) : Tagged i Q (WCtx.runQuiet n c).w :=
  (WCtx.runQuiet_induct (P := fun c => c.w.pc.ok c.w.files ∧ Tagged i Q c.w)
    (fun c hc => ⟨c.step_ok .ok hc.1, hc.2.step .ok hc.1⟩) n c ⟨hok, h⟩).2

theorem ack_step_C3 (c : WCtx) (out : Outcome) (i : Nat) (hw : c.w.WF)
    (hnew : Ev.cb i true ∉ c.evs) (h : Ev.cb i true ∈ (c.step out).evs) :
    ∃ b t r, c.w.pc = .syncNew b t ∧ out ≠ .eio ∧ r ∈ b ∧ r.cbId = some i := by
  obtain ⟨b, t, hpc, ho, hi⟩ := c.step_ack out i hw hnew h
  obtain ⟨r, hr, hi⟩ := List.mem_filterMap.mp hi
  exact ⟨b, t, r, hpc, ho, hr, hi⟩

theorem ack_reaches_C3 (c : WCtx) (out : Outcome) (i E A : Nat) (hw : c.w.WF)
    (htag : Tagged i (fun r => E ≤ r.upto) c.w)
    (hnew : Ev.cb i true ∉ c.evs) (h : Ev.cb i true ∈ (c.step out).evs) :
    E ≤ c.ackStep out A := by
  obtain ⟨b, t, r, hpc, ho, hr, hi⟩ := ack_step_C3 c out i hw hnew h
  have h1 := htag r (by simp [Worker.reqs, hpc, WPc.batchW, hr]) hi
  exact Nat.le_trans h1 (WCtx.le_ackStep_of_mem hpc ho hr A)

theorem ack_reaches_quiet_C3 (i E : Nat) (n : Nat) : ∀ (c : WCtx) (A : Nat), c.w.WF →
    c.w.pc.ok c.w.files → Tagged i (fun r => E ≤ r.upto) c.w → Ev.cb i true ∉ c.evs →
    Ev.cb i true ∈ (WCtx.runQuiet n c).evs → E ≤ WCtx.ackQuiet n c A := by
  induction n with
  | zero => intro c A _ _ _ hnew h; exact absurd h hnew
  | succ n ih =>
    intro c A hw hok htag hnew h
    cases hq : c.w.quiet with
    | true => rw [WCtx.runQuiet_of_quiet _ _ hq] at h; exact absurd h hnew
    | false =>
      rw [WCtx.runQuiet_succ_of_not_quiet _ _ hq] at h
      rw [WCtx.ackQuiet_succ_of_not_quiet _ _ _ hq]
      by_cases hstep : Ev.cb i true ∈ (c.step .ok).evs
      · exact Nat.le_trans (ack_reaches_C3 c .ok i E A hw htag hnew hstep) (WCtx.le_ackQuiet _ _ _)
      · exact ih (c.step .ok) _ (c.step_wf .ok hw) (c.step_ok .ok hok) (htag.step .ok hok) hstep h

end RaftLog
