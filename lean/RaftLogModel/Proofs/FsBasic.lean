/-
The file-system model (`Model/Fs.lean`). Every operation except `create` is an `Fs.update` whose function keeps
the id (and, except `unlink`, the link flag), so what `find`, `has`, the id lists and `fdata` see afterwards is
stated once for such an `update` and instantiated. Imports nothing but the model.
-/
import RaftLogModel.Model.Fs
namespace RaftLog

theorem Fs.find_id {fs : Fs} {id : Nat} {f : File} (h : fs.find id = some f) : f.id = id := by
  simpa using List.find?_some h

theorem Fs.find_update (fs : Fs) (id id' : Nat) (g : File → File) (hg : ∀ f, (g f).id = f.id) :
    Fs.find (Fs.update fs id g) id' = (Fs.find fs id').map (fun f => if f.id == id then g f else f) := by
  induction fs with
  | nil => rfl
  | cons x xs ih =>
    simp only [Fs.find, Fs.update] at ih
    simp only [Fs.find, Fs.update, List.map_cons, List.find?_cons]
    have hx : (if x.id == id then g x else x).id = x.id := by split <;> simp [hg]
    rw [hx]
    cases x.id == id'
    · exact ih
    · rfl

theorem Fs.find_update_self {fs : Fs} {c : Nat} {f : File} (hf : fs.find c = some f)
    (g : File → File) (hg : ∀ f, (g f).id = f.id) : (fs.update c g).find c = some (g f) := by
  rw [Fs.find_update _ _ _ _ hg, hf, Option.map_some, Fs.find_id hf, beq_self_eq_true, if_pos rfl]

theorem Fs.find_update_other (fs : Fs) {c id : Nat} (h : id ≠ c) (g : File → File)
    (hg : ∀ f, (g f).id = f.id) : (fs.update c g).find id = fs.find id := by
  rw [Fs.find_update _ _ _ _ hg]
  cases hf : fs.find id with
  | none => rfl
  | some f => rw [Option.map_some, Fs.find_id hf, if_neg (by simpa using h)]

theorem Fs.has_eq_true_iff {fs : Fs} {id : Nat} :
    fs.has id = true ↔ ∃ f, fs.find id = some f ∧ f.linked = true := by
  unfold Fs.has
  cases fs.find id with
  | none => simp
  | some f => simp

theorem Fs.has_update (fs : Fs) (c n : Nat) (g : File → File) (hg : ∀ f, (g f).id = f.id)
    (hl : ∀ f, (g f).linked = f.linked) : (fs.update c g).has n = fs.has n := by
  unfold Fs.has
  rw [Fs.find_update _ _ _ _ hg]
  cases fs.find n with
  | none => rfl
  | some f => simp only [Option.map_some]; split <;> simp [hl]

theorem Fs.find_truncate (fs : Fs) (id id' len : Nat) :
    Fs.find (Fs.truncate fs id len) id' = (Fs.find fs id').map (fun f =>
      if f.id == id then { f with data := f.data.take len, durable := min f.durable len } else f) :=
  Fs.find_update fs id id' _ (fun _ => rfl)

theorem Fs.find_unlink (fs : Fs) (id id' : Nat) :
    Fs.find (Fs.unlink fs id) id' = (Fs.find fs id').map (fun f =>
      if f.id == id then { f with linked := false } else f) :=
  Fs.find_update fs id id' _ (fun _ => rfl)

theorem Fs.find_truncate_other (fs : Fs) {id id' : Nat} (h : id' ≠ id) (len : Nat) :
    (fs.truncate id len).find id' = fs.find id' :=
  Fs.find_update_other fs h _ (fun _ => rfl)

theorem Fs.find_truncate_self {fs : Fs} {id : Nat} {f : File} (hf : fs.find id = some f) (len : Nat) :
    (fs.truncate id len).find id
      = some { f with data := f.data.take len, durable := min f.durable len } :=
  Fs.find_update_self hf _ (fun _ => rfl)

theorem Fs.find_unlink_other (fs : Fs) {id id' : Nat} (h : id' ≠ id) :
    (fs.unlink id).find id' = fs.find id' :=
  Fs.find_update_other fs h _ (fun _ => rfl)

theorem Fs.find_sync (fs : Fs) (id id' : Nat) :
    Fs.find (Fs.sync fs id) id' = (Fs.find fs id').map (fun f =>
      if f.id == id then { f with durable := f.data.length } else f) :=
  Fs.find_update fs id id' _ (fun _ => rfl)

theorem Fs.find_sync_some {fs : Fs} {id' : Nat} {f : File} (id : Nat)
    (h : Fs.find fs id' = some f) :
    ∃ f', Fs.find (Fs.sync fs id) id' = some f' ∧ f'.data = f.data ∧ f'.id = f.id ∧
      f'.linked = f.linked := by
  rw [Fs.find_sync, h, Option.map_some]
  split <;> exact ⟨_, rfl, rfl, rfl, rfl⟩

theorem Fs.has_sync (fs : Fs) (id n : Nat) : (Fs.sync fs id).has n = fs.has n :=
  Fs.has_update fs id n _ (fun _ => rfl) (fun _ => rfl)

theorem Fs.has_truncate (fs : Fs) (id len n : Nat) :
    (Fs.truncate fs id len).has n = fs.has n :=
  Fs.has_update fs id n _ (fun _ => rfl) (fun _ => rfl)

theorem Fs.linkedIds_update (fs : Fs) (id : Nat) (g : File → File) (hg : ∀ f, (g f).id = f.id)
    (hl : ∀ f, (g f).linked = f.linked) : (Fs.update fs id g).linkedIds = fs.linkedIds := by
  unfold Fs.linkedIds Fs.update
  have hf : List.filter (fun f => f.linked) (List.map (fun f => if f.id == id then g f else f) fs)
      = List.map (fun f => if f.id == id then g f else f) (List.filter (fun f => f.linked) fs) := by
    rw [List.filter_map]
    congr 1
    apply List.filter_congr
    intro f _
    simp only [Function.comp]
    split
    · exact hl f
    · rfl
  rw [hf, List.foldl_map]
  congr 1
  funext acc f
  split
  · rw [hg]
  · rfl

theorem Fs.linkedIds_sync (fs : Fs) (id : Nat) : (Fs.sync fs id).linkedIds = fs.linkedIds :=
  Fs.linkedIds_update fs id _ (fun _ => rfl) (fun _ => rfl)

theorem Fs.linkedIds_write (fs : Fs) (id : Nat) (bs : Bytes) :
    (fs.write id bs).linkedIds = fs.linkedIds :=
  Fs.linkedIds_update fs id _ (fun _ => rfl) (fun _ => rfl)

theorem Fs.linkedIds_truncate (fs : Fs) (id len : Nat) :
    (fs.truncate id len).linkedIds = fs.linkedIds :=
  Fs.linkedIds_update fs id _ (fun _ => rfl) (fun _ => rfl)

theorem Fs.find_create_self (fs : Fs) (id : Nat) :
    Fs.find (Fs.create fs id) id = some { id := id } := by
  unfold Fs.find Fs.create
  rw [List.find?_append]
  have : List.find? (fun f => f.id == id) (List.filter (fun f => f.id != id) fs) = none := by
    rw [List.find?_eq_none]
    intro x hx
    have := (List.mem_filter.mp hx).2
    simpa using this
  rw [this]
  simp

theorem Fs.find_create_ne (fs : Fs) {id id' : Nat} (h : id' ≠ id) :
    Fs.find (Fs.create fs id) id' = Fs.find fs id' := by
  have h1 : List.find? (fun f => f.id == id') [({ id := id } : File)] = none := by
    simp [Ne.symm h]
  rw [Fs.find, Fs.create, List.find?_append, h1, Option.or_none, List.find?_filter]
  congr 1
  funext f
  by_cases e : f.id = id' <;> simp [e, h]

theorem Fs.find_write (fs : Fs) (id id' : Nat) (bs : Bytes) :
    Fs.find (Fs.write fs id bs) id' = (Fs.find fs id').map (fun f =>
      if f.id == id then { f with data := f.data ++ bs } else f) :=
  Fs.find_update fs id id' _ (fun _ => rfl)

theorem find_create_write (fs : Fs) (id : Nat) (head : Bytes) :
    Fs.find ((Fs.create fs id).write id head) id
        = some { id := id, data := head, durable := 0, linked := true } ∧
    ∀ id', id' ≠ id → Fs.find ((Fs.create fs id).write id head) id' = Fs.find fs id' :=
  ⟨by rw [Fs.find_write, Fs.find_create_self]; simp,
    fun id' h => (show ((fs.create id).write id head).find id' = (fs.create id).find id' from
      Fs.find_update_other _ h _ (fun _ => rfl)).trans (Fs.find_create_ne fs h)⟩

theorem Fs.mem_update {fs : Fs} {id : Nat} {h : File → File} {g' : File} (hm : g' ∈ fs.update id h) :
    ∃ g ∈ fs, g' = if g.id == id then h g else g := by
  simp only [Fs.update, List.mem_map] at hm
  obtain ⟨g, hg, rfl⟩ := hm
  exact ⟨g, hg, rfl⟩

theorem Fs.mem_write {fs : Fs} {id : Nat} {bs : Bytes} {g' : File} (hm : g' ∈ fs.write id bs) :
    g'.id = id ∨ g' ∈ fs := by
  obtain ⟨g, hg, rfl⟩ := Fs.mem_update hm
  by_cases h : g.id = id
  · left; simp [h]
  · right; simpa [h] using hg

theorem Fs.mem_sync {fs : Fs} {id : Nat} {g' : File} (hm : g' ∈ fs.sync id) :
    (g'.id = id ∧ g'.durable = g'.data.length) ∨ (g'.id ≠ id ∧ g' ∈ fs) := by
  obtain ⟨g, hg, rfl⟩ := Fs.mem_update hm
  by_cases h : g.id = id
  · left; simp [h]
  · right; simpa [h] using hg

theorem Fs.mem_unlink {fs : Fs} {id : Nat} {g' : File} (hm : g' ∈ fs.unlink id) :
    g'.linked = false ∨ g' ∈ fs := by
  obtain ⟨g, hg, rfl⟩ := Fs.mem_update hm
  by_cases h : g.id = id
  · left; simp [h]
  · right; simpa [h] using hg

theorem Fs.mem_create {fs : Fs} {id : Nat} {g : File} (h : g ∈ fs.create id) : g.id = id ∨ g ∈ fs := by
  simp only [Fs.create, List.mem_append, List.mem_filter, List.mem_singleton] at h
  rcases h with h | h
  · exact .inr h.1
  · left; rw [h]

/-- The ids of all entries, linked or not, in directory order (`Fs.linkedIds` is sorted and linked only). -/
def Fs.ids (fs : Fs) : List Nat := fs.map (·.id)

theorem Fs.ids_update (fs : Fs) (id : Nat) (g : File → File) (hg : ∀ f, (g f).id = f.id) :
    Fs.ids (fs.update id g) = Fs.ids fs := by
  unfold Fs.ids Fs.update
  rw [List.map_map]
  apply List.map_congr_left
  intro f _
  simp only [Function.comp]
  split
  · exact hg f
  · rfl

@[simp] theorem Fs.ids_write (fs : Fs) (id : Nat) (bs : Bytes) : Fs.ids (fs.write id bs) = Fs.ids fs :=
  Fs.ids_update fs id _ (fun _ => rfl)
@[simp] theorem Fs.ids_sync (fs : Fs) (id : Nat) : Fs.ids (fs.sync id) = Fs.ids fs :=
  Fs.ids_update fs id _ (fun _ => rfl)
@[simp] theorem Fs.ids_unlink (fs : Fs) (id : Nat) : Fs.ids (fs.unlink id) = Fs.ids fs :=
  Fs.ids_update fs id _ (fun _ => rfl)

theorem Fs.ids_truncate (fs : Fs) (id len : Nat) : Fs.ids (fs.truncate id len) = Fs.ids fs :=
  Fs.ids_update fs id _ (fun _ => rfl)

theorem Fs.mem_ids {fs : Fs} {f : File} (h : f ∈ fs) : f.id ∈ Fs.ids fs :=
  List.mem_map.mpr ⟨f, h, rfl⟩

theorem Fs.has_false_of_lt {fs : Fs} {k : Nat} (h : ∀ i ∈ Fs.ids fs, i < k) :
    ∀ i, k ≤ i → fs.has i = false := by
  intro i hi
  have : fs.find i = none := by
    unfold Fs.find
    rw [List.find?_eq_none]
    intro f hf
    have := h f.id (Fs.mem_ids hf)
    simp
    omega
  simp [Fs.has, this]

theorem Fs.ids_create_eq (fs : Fs) (n : Nat) :
    Fs.ids (fs.create n) = (Fs.ids fs).filter (fun i => i != n) ++ [n] := by
  unfold Fs.ids Fs.create
  simp [List.filter_map, Function.comp_def]

theorem Fs.mem_ids_create (fs : Fs) (id i : Nat) : i ∈ Fs.ids (fs.create id) ↔ i ∈ Fs.ids fs ∨ i = id := by
  rw [Fs.ids_create_eq]
  by_cases e : i = id <;> simp [e]

theorem Fs.ids_create_self (fs : Fs) (id : Nat) : id ∈ Fs.ids (fs.create id) :=
  (Fs.mem_ids_create fs id id).2 (.inr rfl)

/-- `[]` when there is no such file: a convention `chunkBytes` and every chain lean on. -/
def fdata (fs : Fs) (id : Nat) : Bytes :=
  match fs.find id with
  | some f => f.data
  | none => []

theorem Fs.find_isSome_iff (fs : Fs) (i : Nat) : (fs.find i).isSome = true ↔ i ∈ Fs.ids fs := by
  unfold Fs.find Fs.ids
  rw [List.find?_isSome]
  simp only [List.mem_map, beq_iff_eq]

theorem fdata_write (fs : Fs) (id i : Nat) (bs : Bytes) (h : id ∈ Fs.ids fs) :
    fdata (fs.write id bs) i = fdata fs i ++ (if id = i then bs else []) := by
  unfold fdata Fs.write
  rw [Fs.find_update fs id i (fun f => { f with data := f.data ++ bs }) (fun _ => rfl)]
  cases hf : fs.find i with
  | none =>
    have : ¬ id = i := by
      intro e; subst e
      have := (Fs.find_isSome_iff fs id).mpr h
      rw [hf] at this; cases this
    simp [this]
  | some f =>
    have hid := Fs.find_id hf
    simp only [Option.map_some, hid]
    by_cases e : i = id
    · subst e; simp
    · have e' : ¬ id = i := fun x => e x.symm
      simp [e, e']

theorem fdata_update (fs : Fs) (id i : Nat) (g : File → File) (hg : ∀ f, (g f).id = f.id)
    (hd : ∀ f, (g f).data = f.data) : fdata (fs.update id g) i = fdata fs i := by
  unfold fdata
  rw [Fs.find_update fs id i g hg]
  cases fs.find i with
  | none => rfl
  | some f => simp only [Option.map_some]; split <;> simp [hd]

theorem fdata_sync (fs : Fs) (id i : Nat) : fdata (fs.sync id) i = fdata fs i :=
  fdata_update fs id i _ (fun _ => rfl) (fun _ => rfl)

theorem fdata_unlink (fs : Fs) (id i : Nat) : fdata (fs.unlink id) i = fdata fs i :=
  fdata_update fs id i _ (fun _ => rfl) (fun _ => rfl)

theorem fdata_create_ne (fs : Fs) {id i : Nat} (h : i ≠ id) : fdata (fs.create id) i = fdata fs i := by
  unfold fdata; rw [Fs.find_create_ne fs h]

theorem fdata_create_self (fs : Fs) (id : Nat) : fdata (fs.create id) id = [] := by
  unfold fdata; rw [Fs.find_create_self]

theorem Fs.has_write (fs : Fs) (i : Nat) (bs : Bytes) (id : Nat) : (fs.write i bs).has id = fs.has id :=
  Fs.has_update fs i id _ (fun _ => rfl) (fun _ => rfl)

theorem Fs.has_unlink (fs : Fs) (i id : Nat) : (fs.unlink i).has id = (fs.has id && id != i) := by
  unfold Fs.has Fs.unlink
  rw [Fs.find_update fs i id (fun f => { f with linked := false }) (fun _ => rfl)]
  cases hf : fs.find id with
  | none => rfl
  | some f =>
    have hid := Fs.find_id hf
    simp only [Option.map_some, hid]
    by_cases h : id = i
    · subst h; simp
    · simp [h]

theorem Fs.has_unlink_self (fs : Fs) (id : Nat) : (fs.unlink id).has id = false := by
  rw [Fs.has_unlink]; simp

theorem Fs.has_create (fs : Fs) (n id : Nat) :
    (fs.create n).has id = (if id = n then true else fs.has id) := by
  by_cases h : id = n
  · subst h
    unfold Fs.has
    rw [Fs.find_create_self]
    simp
  · unfold Fs.has
    rw [Fs.find_create_ne fs h]
    simp [h]

theorem Fs.ids_create_nodup {fs : Fs} (h : (Fs.ids fs).Nodup) (n : Nat) :
    (Fs.ids (fs.create n)).Nodup := by
  rw [Fs.ids_create_eq]
  rw [List.nodup_append]
  refine ⟨h.filter _, by simp, ?_⟩
  intro a ha b hb
  simp only [List.mem_singleton] at hb
  subst hb
  have := (List.mem_filter.mp ha).2
  simpa using this

/-- `insertNat` is the insertion step of the sorts in `Fs.linkedIds` and `WCtx.die`. -/
theorem insertNat_perm (n : Nat) (l : List Nat) : (insertNat n l).Perm (n :: l) := by
  induction l with
  | nil => exact .refl _
  | cons m rest ih =>
    unfold insertNat
    split
    · exact .refl _
    · exact (List.Perm.cons m ih).trans (List.Perm.swap n m rest)

theorem foldl_insertNat_perm {α} (f : α → Nat) (l : List α) (acc : List Nat) :
    (l.foldl (fun acc x => insertNat (f x) acc) acc).Perm (acc ++ l.map f) := by
  induction l generalizing acc with
  | nil => simp
  | cons a l ih =>
    refine (ih _).trans (((insertNat_perm (f a) acc).append_right _).trans ?_)
    simpa using (List.perm_middle (l₁ := acc) (l₂ := l.map f) (a := f a)).symm

end RaftLog
