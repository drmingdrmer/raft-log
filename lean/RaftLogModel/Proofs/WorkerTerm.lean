/-
Termination of the all-ok worker run: a measure (`Worker.drainCost`) that every non-quiet step
decreases; the model's `Worker.fuel` covers it when no datum still to write is empty
(`Worker.TodoOK`, an invariant); with the channel closed the run ends with the worker gone.
-/
import RaftLogModel.Proofs.WorkerInv
namespace RaftLog

/-- What a queued request adds to `pcC` once the worker has taken it: a write its datum (1) and the
2 of `writing`, and 1 more so that the `got` step itself decreases; the others `nfC r + 1`. -/
def reqC : WReq → Nat
  | .write .. => 4
  | .appendFile .. => 2
  | .removeChunks ids => ids.length + 2

/-- Steps (plus new work) left after a non-flush request was executed. -/
def nfC : WReq → Nat
  | .write .. => 0
  | .appendFile .. => 1
  | .removeChunks ids => ids.length + 1

def tailC : Option WReq → Nat
  | none => 0
  | some r => nfC r

def queueC (q : List WReq) : Nat := (q.map reqC).sum

/-- All-ok steps from this park point until the worker is back in `recv`, plus what handling the
trailing request puts back (`tailC`); the syncs of older files are paid by `files.length`, the
postponed removals by `postC`. `writing`: one step per datum, then the step that reaches the sync of
the newest file, then that sync. -/
def pcC (w : Worker) : Nat :=
  match w.pc with
  | .dead => 0
  | .idle => if w.queue.isEmpty then 0 else 1
  | .got r => reqC r
  | .writing todo _ t => todo.length + tailC t + 2
  | .syncOld _ t => tailC t + 1
  | .syncNew _ t => tailC t + 1
  | .unlinking ids => ids.length + 1

/-- Steps for the postponed removals: one `unlink` each, plus the step that finds the list empty
(a good batch starts their removal even when no removal request follows it). -/
def postC (p : List Nat) : Nat := if p = [] then 0 else p.length + 1

@[simp] theorem postC_nil : postC [] = 0 := rfl
theorem postC_le (p : List Nat) : postC p ≤ p.length + 1 := by unfold postC; split <;> omega
theorem length_le_postC (p : List Nat) : p.length ≤ postC p := by
  unfold postC; split
  · rename_i h; simp [h]
  · omega
theorem postC_of_ne {p : List Nat} (h : p ≠ []) : postC p = p.length + 1 := by simp [postC, h]
theorem postC_append_le (p q : List Nat) : postC (p ++ q) ≤ postC p + q.length + 1 := by
  have := length_le_postC p
  have := postC_le (p ++ q)
  simp only [List.length_append] at this
  by_cases hp : p = []
  · subst hp; simpa using postC_le q
  · rw [postC_of_ne hp]; omega

/-- The work the worker still has: an upper bound on the number of all-ok steps
until it is quiet. -/
def Worker.drainCost (w : Worker) : Nat :=
  pcC w + queueC w.queue + w.files.length + postC w.postponed

def WCtx.base (c : WCtx) : Nat := queueC c.w.queue + c.w.files.length + postC c.w.postponed

theorem nfC_le_reqC (r : WReq) : nfC r ≤ reqC r := by cases r <;> simp [nfC, reqC]
theorem nfC_lt_reqC {r : WReq} (h : r.isWrite = false) : nfC r < reqC r := by
  cases r with
  | write u d cb => simp [WReq.isWrite] at h
  | appendFile i p => simp [nfC, reqC]
  | removeChunks ids => simp [nfC, reqC]

@[simp] theorem queueC_nil : queueC [] = 0 := rfl
@[simp] theorem queueC_cons (r : WReq) (q : List WReq) : queueC (r :: q) = reqC r + queueC q := by
  simp [queueC]
@[simp] theorem queueC_append (p q : List WReq) : queueC (p ++ q) = queueC p + queueC q := by
  simp [queueC]

theorem length_le_queueC (q : List WReq) : q.length ≤ queueC q := by
  induction q with
  | nil => simp
  | cons r q ih =>
    have : 1 ≤ reqC r := by cases r <;> simp [reqC]
    simp only [List.length_cons, queueC_cons]; omega

theorem tailC_le_queueC (t : Option WReq) : tailC t ≤ queueC t.toList := by
  cases t with
  | none => simp [tailC]
  | some r => exact nfC_le_reqC r

theorem WCtx.toRecv_cost (c : WCtx) : c.toRecv.w.drainCost ≤ c.base := by
  rcases c.toRecv_cases with ⟨r, q, hq, h⟩ | ⟨hq, _, h⟩ | ⟨hq, _, h⟩
  · rw [h]
    simp [Worker.drainCost, pcC, WCtx.base, hq]
  · rw [h]
    simp [Worker.drainCost, pcC, WCtx.base, hq]
  · rw [h]
    simp [Worker.drainCost, pcC, WCtx.base, hq]

theorem WCtx.nonFlush_cost (c : WCtx) (r : WReq) : (c.nonFlush r).w.drainCost ≤ nfC r + c.base := by
  rcases c.nonFlush_cases r with ⟨c0, k⟩ | ⟨ids, hr, _, _, h⟩
  · rw [k.eq]
    refine Nat.le_trans c0.toRecv_cost ?_
    simp only [WCtx.base, k.queue, k.files, List.length_append]
    rcases k.post with ⟨hp, _⟩ | ⟨ids, hr, _, hp⟩
    · rw [hp]
      cases r with
      | write u d cb =>
        simp [WReq.ents, nfC]
      | appendFile i p =>
        simp [WReq.ents, nfC]
        omega
      | removeChunks ids =>
        simp [WReq.ents, nfC]
    · have := postC_append_le c.w.postponed ids
      rw [hp, hr]
      simp [WReq.ents, nfC]
      omega
  · have := length_le_postC c.w.postponed
    rw [h, hr]; simp [Worker.drainCost, pcC, WCtx.base, nfC]; omega

/-- The retried removal behind a batch costs nothing extra: `postC` already pays for it. -/
theorem WCtx.nonFlush_nil_cost (c : WCtx) : (c.nonFlush (.removeChunks [])).w.drainCost ≤ c.base := by
  rcases c.nonFlush_cases (.removeChunks []) with ⟨c0, k⟩ | ⟨ids, hr, _, hne, h⟩
  · rw [k.eq]
    refine Nat.le_trans c0.toRecv_cost ?_
    simp only [WCtx.base, k.queue, k.files, List.length_append]
    rcases k.post with ⟨hp, _⟩ | ⟨ids, hr, _, hp⟩
    · rw [hp]; simp [WReq.ents]
    · cases hr; rw [hp]; simp [WReq.ents]
  · cases hr
    simp only [List.append_nil] at hne h
    rw [h]; simp [Worker.drainCost, pcC, WCtx.base, postC_of_ne hne]; omega

theorem WCtx.finishBatch_cost (c : WCtx) (b : List WReq) (t : Option WReq) (ok : Bool) :
    (c.finishBatch b t ok).w.drainCost ≤ tailC t + c.base := by
  rw [WCtx.finishBatch_eq]
  have h0 := (c.fb1 b t ok).nonFlush_nil_cost
  have h1 := (c.fb1 b t ok).nonFlush_cost (tailReq t)
  cases t with
  | none => simpa [WCtx.base, tailC] using h0
  | some r =>
    cases r with
    | write u d cb => simpa [WCtx.base, tailC, nfC, WReq.ents] using h1
    | appendFile i p => simp only [WCtx.base, tailC, nfC, WReq.ents, WCtx.fb1_w, tailEnts_some, List.length_append,
        List.length_singleton, tailReq_appendFile] at h0 ⊢; omega
    | removeChunks ids => simpa [WCtx.base, tailC, nfC, WReq.ents] using h1

theorem WCtx.startSync_cost (c : WCtx) (b : List WReq) (t : Option WReq) :
    (c.startSync b t).w.drainCost ≤ tailC t + 1 + c.base := by
  rcases c.startSync_cases b t with ⟨_, he⟩ | ⟨f, _, he⟩ | ⟨_, he⟩ <;> rw [he]
  · have := c.finishBatch_cost b t true; omega
  · simp [Worker.drainCost, pcC, WCtx.base]; omega
  · simp [Worker.drainCost, pcC, WCtx.base]; omega

theorem WCtx.startWrites_cost (c : WCtx) (b : List WReq) (t : Option WReq) :
    (c.startWrites b t).w.drainCost ≤ b.length + tailC t + 2 + c.base := by
  rcases c.startWrites_cases b t with ⟨_, he⟩ | ⟨_, he⟩ <;> rw [he]
  · have := c.startSync_cost b t; omega
  · have := todoOf_length_le b
    simp [Worker.drainCost, pcC, WCtx.base]; omega

theorem drainCost_of_pc {w : Worker} {pc : WPc} (h : w.pc = pc) :
    w.drainCost = pcC { w with pc := pc } + queueC w.queue + w.files.length + postC w.postponed := by
  subst h; rfl

theorem WCtx.step_ok_decreases (c : WCtx) (hq : c.w.quiet = false) :
    (c.step .ok).w.drainCost < c.w.drainCost := by
  apply c.step_w_elim (P := fun w' => w'.drainCost < c.w.drainCost) .ok
  case dead =>
    intro hpc; simp [Worker.quiet, hpc] at hq
  case recv =>
    intro c0 e hp
    have h1 := c0.toRecv_cost
    simp only [WCtx.base, e] at h1
    rcases hp with hp | hp | ⟨i, hp, _⟩
    · -- `idle` with a non-empty queue counts 1
      have : c.w.queue.isEmpty = false := by simpa [Worker.quiet, hp] using hq
      rw [drainCost_of_pc hp]
      simp only [pcC, this]
      simp
      omega
    · rw [drainCost_of_pc hp]
      simp only [pcC, List.length_nil]
      omega
    · rw [drainCost_of_pc hp]
      simp only [pcC, List.length_cons, List.length_nil]
      omega
  case gotW =>
    intro r hpc hr
    have h6 : reqC r = 4 := by
      cases r with
      | write u d cb => rfl
      | appendFile i p => simp [WReq.isWrite] at hr
      | removeChunks ids => simp [WReq.isWrite] at hr
    have h1 := WCtx.startWrites_cost (c.setQueue (collectBatch 1024 c.w.queue).2.2)
      (r :: (collectBatch 1024 c.w.queue).1) (collectBatch 1024 c.w.queue).2.1
    have h3 := congrArg queueC (collectBatch_split 1024 c.w.queue)
    have h4 := length_le_queueC (collectBatch 1024 c.w.queue).1
    have h5 := tailC_le_queueC (collectBatch 1024 c.w.queue).2.1
    rw [drainCost_of_pc hpc]
    simp only [pcC, WCtx.base, WCtx.setQueue_w, List.length_cons, queueC_append] at h1 h3 ⊢
    omega
  case gotN =>
    intro r hpc hr
    have h1 := c.nonFlush_cost r
    have h2 := nfC_lt_reqC hr
    rw [drainCost_of_pc hpc]
    simp only [pcC, WCtx.base] at *
    omega
  case sync =>
    intro c0 todo b t e hpc _
    have h1 := c0.startSync_cost b t
    rw [drainCost_of_pc hpc]
    simp only [pcC, WCtx.base, e] at *
    omega
  case write =>
    intro d rest todo' b t hpc _ h
    obtain ⟨rfl, _⟩ | ⟨k, ⟨k0, hk⟩, _⟩ := h
    · rw [drainCost_of_pc hpc]; simp [Worker.drainCost, pcC]
    · cases hk
  case die =>
    intro h; cases (WCtx.dies_cases h).1
  case finish =>
    intro c0 b t ok e hpc hno _
    cases ok with
    | false => cases hno rfl
    | true =>
      have h1 := c0.finishBatch_cost b t true
      simp only [WCtx.base, e] at h1
      rcases hpc with hpc | hpc
      · rw [drainCost_of_pc hpc]
        simp only [pcC]
        omega
      · rw [drainCost_of_pc hpc]
        simp only [pcC]
        omega
  case soOk =>
    intro c0 b t f rest hpc hf _ e
    have h1 := c0.startSync_cost b t
    rw [drainCost_of_pc hpc]
    simp only [pcC, WCtx.base, e, hf, List.length_cons] at *
    omega
  case ulMore =>
    intro i j rest hpc _
    rw [drainCost_of_pc hpc]; simp [Worker.drainCost, pcC]

theorem WCtx.runQuiet_quiet (n : Nat) (c : WCtx) (h : c.w.drainCost ≤ n) :
    (WCtx.runQuiet n c).w.quiet = true := by
  induction n generalizing c with
  | zero =>
    cases hq : c.w.quiet with
    | true => exact hq
    | false => have := c.step_ok_decreases hq; omega
  | succ n ih =>
    cases hq : c.w.quiet with
    | true => rw [WCtx.runQuiet_of_quiet _ _ hq]; exact hq
    | false =>
      rw [WCtx.runQuiet_succ_of_not_quiet _ _ hq]
      have := c.step_ok_decreases hq
      exact ih _ (by omega)

/-- The per-request cost inside `Worker.fuel`: the local `reqCost` there (a `let` in Model/Worker),
written out so that `Worker.fuel_eq` below is `rfl`. -/
def fuelReq : WReq → Nat
  | .write _ d _ => d.length + 4
  | .appendFile .. => 2
  | .removeChunks ids => ids.length + 2

theorem foldl_add_eq_sum (l : List Nat) : l.foldl (· + ·) 0 = l.sum := by
  rw [List.sum_eq_foldl]

theorem reqC_le_fuelReq (r : WReq) : reqC r ≤ fuelReq r := by
  cases r <;> simp [reqC, fuelReq]

theorem queueC_le (q : List WReq) : queueC q ≤ (q.map fuelReq).sum := by
  induction q with
  | nil => simp
  | cons r q ih =>
    have := reqC_le_fuelReq r
    simp only [queueC_cons, List.map_cons, List.sum_cons]
    omega

theorem length_le_sum_lengths (todo : List Bytes) (h : ∀ d ∈ todo, d ≠ []) :
    todo.length ≤ (todo.map List.length).sum := by
  induction todo with
  | nil => simp
  | cons d rest ih =>
    have h1 : 1 ≤ d.length := by
      have := h d (by simp)
      cases d with
      | nil => exact absurd rfl this
      | cons _ _ => simp
    have := ih (fun x hx => h x (by simp [hx]))
    simp only [List.length_cons, List.map_cons, List.sum_cons]; omega

/-- Every datum a parked `write` still has to write is non-empty (an invariant:
`startWrites` filters, short writes keep a non-empty rest). -/
def Worker.TodoOK (w : Worker) : Prop :=
  ∀ todo b t, w.pc = .writing todo b t → ∀ d ∈ todo, d ≠ []

theorem Worker.fuel_eq (w : Worker) :
    w.fuel = (match w.pc with
      | .writing todo batch tail => (todo.map List.length).foldl (· + ·) 0 + 4 * (batch.length + 2)
          + (tail.toList.map fuelReq).foldl (· + ·) 0
      | .syncOld batch tail => 4 * (batch.length + 2) + (tail.toList.map fuelReq).foldl (· + ·) 0
      | .syncNew batch tail => 4 * (batch.length + 2) + (tail.toList.map fuelReq).foldl (· + ·) 0
      | .unlinking ids => ids.length + 2
      | .got r => fuelReq r + 2
      | _ => 2) + (w.queue.map fuelReq).foldl (· + ·) 0 + 2 * w.files.length
        + w.postponed.length + 8 := by
  rfl

theorem tailC_le_fuel (t : Option WReq) : tailC t ≤ (t.toList.map fuelReq).sum := by
  cases t with
  | none => simp [tailC]
  | some r =>
    have := nfC_le_reqC r
    have := reqC_le_fuelReq r
    simp [tailC]; omega

/-- The model's fuel covers the real cost, with a slack of `files.length + 6`: the retried
removal after a good batch costs one more step (`postC`), taken from the slack. -/
theorem Worker.drainCost_le_fuel (w : Worker) (ht : w.TodoOK) :
    w.drainCost + w.files.length + 6 ≤ w.fuel := by
  rw [Worker.fuel_eq, Worker.drainCost]
  simp only [foldl_add_eq_sum]
  have hq := queueC_le w.queue
  have hpo := postC_le w.postponed
  cases hpc : w.pc with
  | dead => simp [pcC, hpc]; omega
  | idle => simp only [pcC, hpc]; split <;> omega
  | got r => have := reqC_le_fuelReq r; simp only [pcC, hpc]; omega
  | writing todo b t =>
    have h1 := length_le_sum_lengths todo (ht todo b t hpc)
    have h2 := tailC_le_fuel t
    simp only [pcC, hpc]; omega
  | syncOld b t => have h2 := tailC_le_fuel t; simp only [pcC, hpc]; omega
  | syncNew b t => have h2 := tailC_le_fuel t; simp only [pcC, hpc]; omega
  | unlinking ids => simp only [pcC, hpc]; omega

theorem WCtx.runQuiet_fuel_quiet (c : WCtx) (ht : c.w.TodoOK) :
    (WCtx.runQuiet c.w.fuel c).w.quiet = true := by
  apply WCtx.runQuiet_quiet
  have := c.w.drainCost_le_fuel ht
  omega

theorem Worker.TodoOK.of_not_writing {w : Worker} (h : ∀ todo b t, w.pc ≠ .writing todo b t) : w.TodoOK :=
  fun todo b t hpc => absurd hpc (h todo b t)

theorem Worker.TodoOK.of_isRest {w : Worker} (h : w.pc.isRest) : w.TodoOK :=
  .of_not_writing fun todo b t hpc => by rw [hpc] at h; cases h

theorem WCtx.startSync_todoOK (c : WCtx) (b : List WReq) (t : Option WReq) : (c.startSync b t).w.TodoOK := by
  rcases c.startSync_cases b t with ⟨_, he⟩ | ⟨f, _, he⟩ | ⟨_, he⟩ <;> rw [he]
  · exact .of_isRest (c.finishBatch_pc b t true).1
  · exact .of_not_writing (by simp)
  · exact .of_not_writing (by simp)

theorem WCtx.startWrites_todoOK (c : WCtx) (b : List WReq) (t : Option WReq) :
    (c.startWrites b t).w.TodoOK := by
  rcases c.startWrites_cases b t with ⟨_, he⟩ | ⟨_, he⟩ <;> rw [he]
  · exact c.startSync_todoOK b t
  · intro todo b' t' hpc
    simp only [WPc.writing.injEq] at hpc
    rw [← hpc.1]; exact todoOf_nonempty b

theorem WCtx.step_todoOK (c : WCtx) (out : Outcome) (h : c.w.TodoOK) : (c.step out).w.TodoOK := by
  apply c.step_w_elim (P := Worker.TodoOK) out
  case dead =>
    exact fun _ => h
  case recv =>
    intro c0 _ _; exact .of_isRest c0.toRecv_pc.isRest
  case gotW =>
    intro r _ _; exact WCtx.startWrites_todoOK _ _ _
  case gotN =>
    intro r _ _; exact .of_isRest (c.nonFlush_pc r).1
  case sync =>
    intro c0 todo b t _ _ _; exact c0.startSync_todoOK b t
  case write =>
    intro d rest todo' b t hpc _ hcase todo b' t' hpc' x hx
    simp only [WPc.writing.injEq] at hpc'
    rw [← hpc'.1] at hx
    have hold := h _ _ _ hpc
    obtain ⟨rfl, _⟩ | ⟨k, _, _, hk, rfl⟩ := hcase
    · exact hold x (List.mem_cons_of_mem _ hx)
    · rcases List.mem_cons.mp hx with rfl | hx
      · intro h0
        have := congrArg List.length h0
        simp at this; omega
      · exact hold x (List.mem_cons_of_mem _ hx)
  case die =>
    intro _; exact .of_not_writing (by simp)
  case finish =>
    intro c0 b t ok _ _ _ _; exact .of_isRest (c0.finishBatch_pc b t ok).1
  case soOk =>
    intro c0 b t f rest _ _ _ _; exact c0.startSync_todoOK b t
  case ulMore =>
    intro i j rest _ _; exact .of_not_writing (by simp)

/-- The channel is closed and the worker has seen it. -/
structure Worker.Closing (w : Worker) : Prop where
  closed : w.senderAlive = false
  not_idle : w.pc ≠ .idle
  dead_queue : w.pc = .dead → w.queue = []

theorem Worker.Closing.of_landed {w : Worker} (hl : w.Landed) (ha : w.senderAlive = false) : w.Closing := by
  refine ⟨ha, fun hpc => ?_, fun hpc => ?_⟩
  · simp only [Worker.Landed, hpc] at hl
    rw [ha] at hl
    cases hl.2
  · simp only [Worker.Landed, hpc] at hl
    exact hl.1

theorem WCtx.toRecv_closing (c : WCtx) (h : c.w.senderAlive = false) : c.toRecv.w.Closing :=
  .of_landed c.toRecv_landed (by rw [WCtx.toRecv_aliveW]; exact h)

theorem WCtx.step_closing (c : WCtx) (out : Outcome) (h : c.w.Closing) : (c.step out).w.Closing := by
  apply c.step_landed_elim (P := Worker.Closing) out
  case stay =>
    rintro pc' (⟨rfl, _⟩ | ⟨_, _, _, rfl⟩ | ⟨_, _, _, rfl⟩)
    · exact h
    · exact ⟨h.closed, by simp, by simp⟩
    · exact ⟨h.closed, by simp, by simp⟩
  case die => exact fun _ => ⟨h.closed, by simp, by simp⟩
  case land => exact fun w' hl ha => .of_landed hl (ha.trans h.closed)

theorem Worker.Closing.quiet_dead {w : Worker} (h : w.Closing) (hq : w.quiet = true) :
    w.pc = .dead ∧ w.queue = [] := by
  rcases Worker.quiet_cases hq with ⟨hpc, _⟩ | hpc
  · exact absurd hpc h.not_idle
  · exact ⟨hpc, h.dead_queue hpc⟩

theorem WCtx.runQuiet_closing (n : Nat) (c : WCtx) (h : c.w.Closing) (hn : c.w.drainCost ≤ n) :
    (WCtx.runQuiet n c).w.pc = .dead ∧ (WCtx.runQuiet n c).w.queue = [] := by
  have h1 : (WCtx.runQuiet n c).w.Closing :=
    WCtx.runQuiet_induct (P := fun c => c.w.Closing) (fun c hc => c.step_closing .ok hc) n c h
  exact h1.quiet_dead (WCtx.runQuiet_quiet n c hn)

end RaftLog
