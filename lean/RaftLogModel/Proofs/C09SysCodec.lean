/-
C09 at system level, codec part. Replacing a VALUE byte of a frame (`ValuePos`: not a tag, version byte,
`Option` tag or length prefix) yields `tag ‖ body` of another well-formed record of the same extent, so with
the stored checksum kept the decoder ends in the checksum comparison: `invalid` (`decRecord_value_byteC9S`).
The altered frame is never all zeros (`frame_not_zeroC9S`), so the rule that cuts off a zero-filled tail
cannot hide the damage; only a `SaveVote` frame could become all zeros: `crc_onebyteC9S` excludes it for a
position in `tag ‖ body`, `crc_zeros20_bytesC9S` for a position in the stored checksum.
-/
import RaftLogModel.Proofs.Parse
import RaftLogModel.Proofs.Crc
namespace RaftLog

/-- A codec component with a value/layout mask: replacing a byte at a value position gives
the encoding of another well-formed value. -/
structure FieldC9S {α : Type} (enc : α → Bytes) (mask : α → List Bool) (wf : α → Prop) : Prop where
  len : ∀ a, (mask a).length = (enc a).length
  set : ∀ a, wf a → ∀ (i : Nat) (y : UInt8), (mask a).getD i false = true →
    ∃ a', wf a' ∧ enc a' = (enc a).set i y

theorem getD_append_leftC9S (l l' : List Bool) (d : Bool) (n : Nat) (h : n < l.length) :
    (l ++ l').getD n d = l.getD n d := by
  simp [List.getD_eq_getElem?_getD, List.getElem?_append_left h]

theorem getD_append_rightC9S (l l' : List Bool) (d : Bool) (n : Nat) (h : l.length ≤ n) :
    (l ++ l').getD n d = l'.getD (n - l.length) d := by
  simp [List.getD_eq_getElem?_getD, List.getElem?_append_right h]

theorem getD_replicate_appendC9S (n : Nat) (b : Bool) (m : List Bool) (i : Nat) :
    (List.replicate n b ++ m).getD i false = true ↔
      (b = true ∧ i < n) ∨ (n ≤ i ∧ m.getD (i - n) false = true) := by
  by_cases hi : i < n
  · rw [getD_append_leftC9S _ _ _ _ (by simpa using hi)]
    simp [List.getD_eq_getElem?_getD, hi]
    omega
  · rw [getD_append_rightC9S _ _ _ _ (by simpa using Nat.le_of_not_lt hi)]
    simp [hi, Nat.le_of_not_lt hi]

theorem getD_replicateC9S (n i : Nat) : (List.replicate n true).getD i false = true ↔ i < n := by
  simpa using getD_replicate_appendC9S n true [] i

theorem getD_falses_appendC9S (n : Nat) (m : List Bool) (i : Nat)
    (h : (List.replicate n false ++ m).getD i false = true) :
    n ≤ i ∧ m.getD (i - n) false = true := by
  simpa using (getD_replicate_appendC9S n false m i).1 h

theorem getD_true_ltC9S (m : List Bool) (i : Nat) (h : m.getD i false = true) : i < m.length := by
  by_cases hi : i < m.length
  · exact hi
  · exfalso
    rw [List.getD_eq_getElem?_getD, List.getElem?_eq_none (by omega)] at h
    cases h

theorem FieldC9S.pfx {α : Type} {enc : α → Bytes} {mask wf} (g : FieldC9S enc mask wf) (c : Bytes) :
    FieldC9S (fun a => c ++ enc a) (fun a => List.replicate c.length false ++ mask a) wf where
  len := fun a => by simp [g.len a]
  set := by
    intro a ha i y h
    obtain ⟨hle, hm⟩ := getD_falses_appendC9S _ _ _ h
    obtain ⟨a', h1, h2⟩ := g.set a ha (i - c.length) y hm
    refine ⟨a', h1, ?_⟩
    simp only [h2]
    rw [List.set_append_right _ _ hle]

theorem FieldC9S.pair {α β : Type} {ea : α → Bytes} {ma wa} {eb : β → Bytes} {mb wb}
    (ga : FieldC9S ea ma wa) (gb : FieldC9S eb mb wb) :
    FieldC9S (fun x : α × β => ea x.1 ++ eb x.2) (fun x => ma x.1 ++ mb x.2)
      (fun x => wa x.1 ∧ wb x.2) where
  len := fun a => by simp [ga.len, gb.len]
  set := by
    intro x hx i y h
    obtain ⟨a, b⟩ := x
    simp only at hx h ⊢
    by_cases hi : i < (ma a).length
    · rw [getD_append_leftC9S _ _ _ _ hi] at h
      obtain ⟨a', h1, h2⟩ := ga.set a hx.1 i y h
      refine ⟨(a', b), ⟨h1, hx.2⟩, ?_⟩
      simp only [h2]
      rw [List.set_append_left _ _ (by rw [← ga.len]; exact hi)]
    · have hle : (ma a).length ≤ i := by omega
      rw [getD_append_rightC9S _ _ _ _ hle] at h
      rw [ga.len] at h hle
      obtain ⟨b', h1, h2⟩ := gb.set b hx.2 _ y h
      refine ⟨(a, b'), ⟨hx.1, h1⟩, ?_⟩
      simp only [h2]
      rw [List.set_append_right _ _ hle]

/-- Mask of an `Option<T>`: the tag byte is layout. -/
def maskOptC9S {α : Type} (m : α → List Bool) : Option α → List Bool
  | none => [false]
  | some a => false :: m a

theorem FieldC9S.opt {α : Type} {enc : α → Bytes} {mask wf} (g : FieldC9S enc mask wf) :
    FieldC9S (encOpt enc) (maskOptC9S mask) (optWFg wf) where
  len := fun o => by cases o <;> simp [maskOptC9S, encOpt, g.len]
  set := by
    intro o ho i y h
    cases o with
    | none =>
      cases i with
      | zero => simp [maskOptC9S] at h
      | succ j => simp [maskOptC9S] at h
    | some a =>
      cases i with
      | zero => simp [maskOptC9S] at h
      | succ j =>
        simp only [maskOptC9S, List.getD_cons_succ] at h
        obtain ⟨a', h1, h2⟩ := g.set a ho j y h
        exact ⟨some a', h1, by simp only [encOpt, h2, List.set_cons_succ]⟩

theorem encLogId_lengthC9S (id : LogId) : (encLogId id).length = 16 := by simp [encLogId]

theorem encLogId_surjC9S (bs : Bytes) (h : bs.length = 16) : ∃ id : LogId, id.WF ∧ encLogId id = bs := by
  have l1 : (bs.take 8).length = 8 := by rw [List.length_take, h]; rfl
  have l2 : (bs.drop 8).length = 8 := by rw [List.length_drop, h]
  refine ⟨⟨beToNat (bs.take 8), beToNat (bs.drop 8)⟩, ⟨?_, ?_⟩, ?_⟩
  · have := beToNat_lt (bs.take 8)
    rw [l1, pow_256_8] at this
    exact this
  · have := beToNat_lt (bs.drop 8)
    rw [l2, pow_256_8] at this
    exact this
  · have h1 := natToBE_beToNat (bs.take 8)
    have h2 := natToBE_beToNat (bs.drop 8)
    rw [l1] at h1
    rw [l2] at h2
    simp only [encLogId, h1, h2, List.take_append_drop]

def maskLogIdC9S : List Bool := List.replicate 16 true

theorem field_logIdC9S : FieldC9S encLogId (fun _ => maskLogIdC9S) LogId.WF where
  len := fun a => by rw [encLogId_lengthC9S]; rfl
  set := by
    intro a _ i y _
    obtain ⟨id, h1, h2⟩ := encLogId_surjC9S ((encLogId a).set i y)
      (by rw [List.length_set, encLogId_lengthC9S])
    exact ⟨id, h1, h2⟩

/-- Mask of a `Vec<u8>`: the 4 length bytes are layout, the bytes are values. -/
def maskBytesC9S (p : Bytes) : List Bool := List.replicate 4 false ++ List.replicate p.length true

theorem field_bytesC9S : FieldC9S encBytes maskBytesC9S bytesWF where
  len := fun p => by simp [maskBytesC9S, encBytes]; omega
  set := by
    intro p hp i y h
    obtain ⟨hle, _⟩ := getD_falses_appendC9S _ _ _ h
    refine ⟨p.set (i - 4) y, by unfold bytesWF at hp ⊢; rw [List.length_set]; exact hp, ?_⟩
    unfold encBytes
    rw [List.length_set, List.set_append_right _ _ (by simpa using hle)]
    simp

/-- Parallel to `encState`. -/
def maskStateC9S (s : RState) : List Bool :=
  [false] ++ maskOptC9S (fun _ => maskLogIdC9S) s.vote ++ maskOptC9S (fun _ => maskLogIdC9S) s.last
    ++ maskOptC9S (fun _ => maskLogIdC9S) s.committed ++ maskOptC9S (fun _ => maskLogIdC9S) s.purged
    ++ maskOptC9S maskBytesC9S s.userData

/-- Value/layout mask of a record body (parallel to `encBody`). -/
def maskBodyC9S : Record → List Bool
  | .saveVote _ => maskLogIdC9S
  | .append _ p => maskLogIdC9S ++ maskBytesC9S p
  | .commit _ => maskLogIdC9S
  | .truncateAfter o => maskOptC9S (fun _ => maskLogIdC9S) o
  | .purgeUpto _ => maskLogIdC9S
  | .state s => maskStateC9S s

/-- Mask of `tag ‖ body`: the 4 tag bytes are layout. -/
def maskTBC9S (r : Record) : List Bool := List.replicate 4 false ++ maskBodyC9S r

theorem field_stateC9S :
    FieldC9S
      (fun t : (((Option LogId × Option LogId) × Option LogId) × Option LogId) × Option Bytes =>
        [1] ++ encOpt encLogId t.1.1.1.1 ++ encOpt encLogId t.1.1.1.2 ++ encOpt encLogId t.1.1.2
          ++ encOpt encLogId t.1.2 ++ encOpt encBytes t.2)
      (fun t => maskStateC9S ⟨t.1.1.1.1, t.1.1.1.2, t.1.1.2, t.1.2, t.2⟩)
      (fun t => (((optWFg LogId.WF t.1.1.1.1 ∧ optWFg LogId.WF t.1.1.1.2) ∧ optWFg LogId.WF t.1.1.2)
          ∧ optWFg LogId.WF t.1.2) ∧ optWFg bytesWF t.2) :=
  ((((field_logIdC9S.opt.pfx [1]).pair field_logIdC9S.opt).pair field_logIdC9S.opt).pair
    field_logIdC9S.opt).pair field_bytesC9S.opt

/-- `tag ‖ body` as a field: per record kind the codec component behind its 4 tag bytes, seen through the
constructor (as `good_body` does for the decoder). -/
theorem field_TBC9S : FieldC9S encTB maskTBC9S Record.WF := by
  have aux : ∀ r : Record, (maskTBC9S r).length = (encTB r).length ∧
      (r.WF → ∀ (i : Nat) (y : UInt8), (maskTBC9S r).getD i false = true →
        ∃ r', r'.WF ∧ encTB r' = (encTB r).set i y) := by
    intro r
    cases r with
    | saveVote v =>
      have F := field_logIdC9S.pfx (natToBE 4 0)
      exact ⟨F.len v, fun hr i y h => let ⟨v', h1, h2⟩ := F.set v hr i y h; ⟨.saveVote v', h1, h2⟩⟩
    | append id p =>
      have F := (field_logIdC9S.pair field_bytesC9S).pfx (natToBE 4 1)
      exact ⟨F.len (id, p), fun hr i y h =>
        let ⟨⟨id', p'⟩, h1, h2⟩ := F.set (id, p) hr i y h; ⟨.append id' p', h1, h2⟩⟩
    | commit id =>
      have F := field_logIdC9S.pfx (natToBE 4 2)
      exact ⟨F.len id, fun hr i y h => let ⟨v', h1, h2⟩ := F.set id hr i y h; ⟨.commit v', h1, h2⟩⟩
    | truncateAfter o =>
      have F := field_logIdC9S.opt.pfx (natToBE 4 3)
      exact ⟨F.len o, fun hr i y h =>
        let ⟨o', h1, h2⟩ := F.set o ((optWFg_logId o).mpr hr) i y h
        ⟨.truncateAfter o', (optWFg_logId o').mp h1, h2⟩⟩
    | purgeUpto id =>
      have F := field_logIdC9S.pfx (natToBE 4 4)
      exact ⟨F.len id, fun hr i y h => let ⟨v', h1, h2⟩ := F.set id hr i y h; ⟨.purgeUpto v', h1, h2⟩⟩
    | state s =>
      have F := field_stateC9S.pfx (natToBE 4 5)
      refine ⟨F.len ((((s.vote, s.last), s.committed), s.purged), s.userData), fun hr i y h => ?_⟩
      -- `field_stateC9S` nests the five fields to the left (its `pair`s extend on the right)
      have hwf := (stateWF_iff s).mpr hr
      obtain ⟨⟨⟨⟨⟨v, l⟩, c⟩, p⟩, u⟩, h1, h2⟩ := F.set
        ((((s.vote, s.last), s.committed), s.purged), s.userData)
        ⟨⟨⟨⟨hwf.1, hwf.2.1⟩, hwf.2.2.1⟩, hwf.2.2.2.1⟩, hwf.2.2.2.2⟩ i y h
      exact ⟨.state ⟨v, l, c, p, u⟩,
        (stateWF_iff _).mp ⟨h1.1.1.1.1, h1.1.1.1.2, h1.1.1.2, h1.1.2, h1.2⟩, h2⟩
  exact ⟨fun r => (aux r).1, fun r hr => (aux r).2 hr⟩

theorem maskTB_lengthC9S (r : Record) : (maskTBC9S r).length = (encTB r).length := field_TBC9S.len r

theorem encTB_setC9S (r : Record) (hr : r.WF) (i : Nat) (y : UInt8)
    (h : (maskTBC9S r).getD i false = true) : ∃ r', r'.WF ∧ encTB r' = (encTB r).set i y :=
  field_TBC9S.set r hr i y h

theorem crcBits_addC9S (m n : Nat) (c : BitVec 32) : crcBits (m + n) c = crcBits n (crcBits m c) := by
  induction m generalizing c with
  | zero => rw [Nat.zero_add]; rfl
  | succ m ih =>
    have : m + 1 + n = (m + n) + 1 := by omega
    rw [this]
    exact ih (crcBit c)

theorem crcFeed_zerosC9S (k : Nat) (c : BitVec 32) :
    crcFeed c (List.replicate k 0) = crcBits (8 * k) c := by
  induction k generalizing c with
  | zero => rfl
  | succ k ih =>
    rw [List.replicate_succ, crcFeed_cons, ih]
    have h0 : crcByte c 0 = crcBits 8 c := by
      unfold crcByte
      have : BitVec.ofNat 32 (0 : UInt8).toNat = 0#32 := rfl
      rw [this, BitVec.xor_zero]
    have : 8 * (k + 1) = 8 + 8 * k := by omega
    rw [h0, this, crcBits_addC9S]

def uncrcBitsC9S : Nat → BitVec 32 → BitVec 32
  | 0, d => d
  | n + 1, d => uncrcBit (uncrcBitsC9S n d)

theorem crcBits_uncrcBitsC9S (n : Nat) (d : BitVec 32) : crcBits n (uncrcBitsC9S n d) = d := by
  induction n generalizing d with
  | zero => rfl
  | succ n ih =>
    show crcBits n (crcBit (uncrcBit (uncrcBitsC9S n d))) = d
    rw [crcBit_uncrcBit, ih]

/-- For a message of 20 bytes whose only non-zero byte `x` is followed by `k` zero bytes
(`k < 16`: the byte is not one of the four tag bytes, which is what `4 ≤ j` in `crc_onebyteC9S`
says), CRC-32 zero would force `x` to be the xor of the register after the `19 - k` leading zero
bytes (`8 * (19 - k)` bit steps from the initial value) and the register `8 + 8 * k` bit steps
before the final value `0xFFFFFFFF` (the byte's own 8 steps and the `k` zero bytes, undone by
`uncrcBit`). That xor is 0 or at least 256 for each `k`: not a non-zero byte. -/
theorem crc_tableC9S : ∀ k < 16,
    (crcBits (8 * (19 - k)) 0xFFFFFFFF#32 ^^^ uncrcBitsC9S (8 + 8 * k) 0xFFFFFFFF#32).toNat = 0 ∨
    256 ≤ (crcBits (8 * (19 - k)) 0xFFFFFFFF#32 ^^^ uncrcBitsC9S (8 + 8 * k) 0xFFFFFFFF#32).toNat := by
  decide +kernel

/-- `tag = 0 ‖ log id` with exactly one non-zero byte (in the log id) never has CRC-32 zero: meet in the
middle, see `crc_tableC9S`. -/
theorem crc_onebyteC9S (j k : Nat) (hjk : j + k = 19) (hj : 4 ≤ j) (x : UInt8) (hx : x ≠ 0) :
    crc32 (List.replicate j 0 ++ x :: List.replicate k 0) ≠ 0 := by
  intro h
  unfold crc32 at h
  have h1 : crcFeed 0xFFFFFFFF#32 (List.replicate j 0 ++ x :: List.replicate k 0) ^^^ 0xFFFFFFFF#32
      = 0xFFFFFFFF#32 ^^^ 0xFFFFFFFF#32 := by
    apply BitVec.eq_of_toNat_eq
    rw [h]; rfl
  have h2 := xor_right_cancel _ _ _ h1
  rw [crcFeed_append, crcFeed_cons, crcFeed_zerosC9S, crcFeed_zerosC9S] at h2
  unfold crcByte at h2
  rw [← crcBits_addC9S] at h2
  have h3 := crcBits_injective _ _ _ (h2.trans (crcBits_uncrcBitsC9S (8 + 8 * k) 0xFFFFFFFF#32).symm)
  have hk : k < 16 := by omega
  have hjj : j = 19 - k := by omega
  have h4 : BitVec.ofNat 32 x.toNat
      = crcBits (8 * (19 - k)) 0xFFFFFFFF#32 ^^^ uncrcBitsC9S (8 + 8 * k) 0xFFFFFFFF#32 := by
    rw [← h3, hjj, ← BitVec.xor_assoc, BitVec.xor_self, BitVec.zero_xor]
  have h5 := congrArg BitVec.toNat h4
  have hxlt := x.toNat_lt
  have hxne : x.toNat ≠ 0 := by
    intro e
    apply hx
    apply UInt8.toNat_inj.mp
    rw [e]; rfl
  simp only [BitVec.toNat_ofNat] at h5
  have hmod : x.toNat % 2 ^ 32 = x.toNat := Nat.mod_eq_of_lt (by omega)
  rw [hmod] at h5
  rcases crc_tableC9S k hk with h6 | h6 <;> omega

/-- Value/layout mask of the whole frame `encRecord r`: `tag ‖ body` as in `maskTBC9S`, and
the 8 checksum bytes are value bytes. -/
def valueMaskC9S (r : Record) : List Bool := maskTBC9S r ++ List.replicate 8 true

/-- Position `i` of the frame `encRecord r` holds a VALUE byte: a byte of a `u64` field
(term / index / voted_for of a vote or log id), of a payload or user-data body, or of the
stored checksum — not the record tag, the state version byte, an `Option` tag or a length
prefix. Syntactic (by cases on the record kind, see `maskBodyC9S`) and decidable. -/
def ValuePos (r : Record) (i : Nat) : Prop := (valueMaskC9S r).getD i false = true

instance (r : Record) (i : Nat) : Decidable (ValuePos r i) := by
  unfold ValuePos; exact inferInstance

theorem valueMask_lengthC9S (r : Record) : (valueMaskC9S r).length = (encRecord r).length := by
  rw [encRecord_eq]; simp [valueMaskC9S, maskTB_lengthC9S]

theorem ValuePos.ltC9S {r : Record} {i : Nat} (h : ValuePos r i) : i < (encRecord r).length := by
  rw [← valueMask_lengthC9S]; exact getD_true_ltC9S _ _ h

theorem ValuePos.geC9S {r : Record} {i : Nat} (h : ValuePos r i) : 4 ≤ i := by
  unfold ValuePos valueMaskC9S maskTBC9S at h
  rw [List.append_assoc] at h
  exact (getD_falses_appendC9S 4 _ i h).1

theorem set_splitC9S (l : Bytes) (i : Nat) (hi : i < l.length) (y : UInt8) :
    l = l.take i ++ l[i] :: l.drop (i + 1) ∧ l.set i y = l.take i ++ y :: l.drop (i + 1) := by
  constructor
  · rw [← List.drop_eq_getElem_cons hi, List.take_append_drop]
  · rw [List.set_eq_take_append_cons_drop, if_pos hi]

theorem getD_eq_getElemC9S (l : Bytes) (i : Nat) (hi : i < l.length) : l.getD i 0 = l[i] := by
  simp [List.getD_eq_getElem?_getD, hi]

theorem set_ne_selfC9S (l : Bytes) (j : Nat) (y : UInt8) (hj : j < l.length) (h : l.getD j 0 ≠ y) :
    l.set j y ≠ l := by
  intro e
  apply h
  have this : (l.set j y).getD j 0 = l.getD j 0 := by rw [e]
  rw [← this, getD_eq_getElemC9S _ _ (by rw [List.length_set]; exact hj)]
  simp

theorem crc32_set_neC9S (l : Bytes) (i : Nat) (hi : i < l.length) (y : UInt8) (h : l[i] ≠ y) :
    crc32 l ≠ crc32 (l.set i y) := by
  obtain ⟨s1, s2⟩ := set_splitC9S l i hi y
  rw [s2]
  conv => lhs; rw [s1]
  exact crc32_single_byte _ _ _ _ h

theorem decRecord_value_byteC9S (r : Record) (hr : r.WF) (i : Nat) (y : UInt8) (hpos : ValuePos r i)
    (hy : (encRecord r).getD i 0 ≠ y) (rest : Bytes) :
    decRecord ((encRecord r).set i y ++ rest) = .invalid := by
  have hlt := hpos.ltC9S
  have hy' : (encRecord r)[i] ≠ y := by rwa [getD_eq_getElemC9S _ _ hlt] at hy
  by_cases hi : i < (encTB r).length
  · have hm : (maskTBC9S r).getD i false = true := by
      rw [← getD_append_leftC9S _ (List.replicate 8 true) _ _ (by rw [maskTB_lengthC9S]; exact hi)]
      exact hpos
    obtain ⟨r', hr', he⟩ := encTB_setC9S r hr i y hm
    have hx : (encTB r)[i] ≠ y := by
      simpa only [encRecord_eq, List.getElem_append_left hi] using hy'
    have hne : natToBE 8 (crc32 (encTB r)) ≠ natToBE 8 (crc32 (encTB r')) := by
      intro e
      have hc := natToBE_injective 8 (crc32_lt _) (crc32_lt _) e
      rw [he] at hc
      exact crc32_set_neC9S _ i hi y hx hc
    rw [encRecord_eq, List.set_append_left _ _ hi, ← he]
    exact decRecord_bad_sum_bytes r' hr' _ (natToBE_length 8 _) hne rest
  · have hle : (encTB r).length ≤ i := Nat.le_of_not_lt hi
    have hj : i - (encTB r).length < (natToBE 8 (crc32 (encTB r))).length := by
      rw [encRecord_eq, List.length_append] at hlt
      omega
    have hne : (natToBE 8 (crc32 (encTB r))).set (i - (encTB r).length) y
        ≠ natToBE 8 (crc32 (encTB r)) := by
      apply set_ne_selfC9S _ _ _ hj
      rw [getD_eq_getElemC9S _ _ hj]
      simpa only [encRecord_eq, List.getElem_append_right hle] using hy'
    rw [encRecord_eq, List.set_append_right _ _ hle]
    exact decRecord_bad_sum_bytes r hr _ (by rw [List.length_set, natToBE_length]) hne rest

theorem allZero_eq_replicateC9S (bs : Bytes) (h : allZero bs = true) :
    bs = List.replicate bs.length 0 := by
  rw [List.eq_replicate_iff]
  refine ⟨rfl, fun b hb => ?_⟩
  unfold allZero at h
  rw [List.all_eq_true] at h
  simpa using h b hb

theorem allZero_appendC9S (a b : Bytes) : allZero (a ++ b) = (allZero a && allZero b) := by
  simp [allZero]

theorem crc_zeros20_bytesC9S :
    natToBE 8 (crc32 (List.replicate 20 0)) = [0, 0, 0, 0, 15, 213, 155, 141] := by
  rw [crc32_zeros20_eq]
  decide

theorem encTB_saveVote_lengthC9S (v : Vote) : (encTB (.saveVote v)).length = 20 := by
  simp [encTB, encBody, encLogId]

/-- If the altered frame were all zeros, the frame would be zeros but for ONE non-zero byte at `i ≥ 4`: tag 0, a
`SaveVote` frame of 20 + 8 bytes. `i < 20`: `tag ‖ body` has exactly one non-zero byte and stored CRC 0,
against `crc_onebyteC9S`. `i ≥ 20`: `tag ‖ body` is twenty zeros, whose stored CRC has two non-zero bytes;
one overwrite cannot clear both. -/
theorem frame_not_zeroC9S (r : Record) (i : Nat) (y : UInt8) (hpos : ValuePos r i)
    (hy : (encRecord r).getD i 0 ≠ y) : allZero ((encRecord r).set i y) = false := by
  cases hz : allZero ((encRecord r).set i y) with
  | false => rfl
  | true =>
    exfalso
    have hF := allZero_eq_replicateC9S _ hz
    rw [List.length_set] at hF
    have hlt := hpos.ltC9S
    have hge := hpos.geC9S
    have hy0 : y = 0 := by
      have h1 : ((encRecord r).set i y).getD i 0 = (List.replicate (encRecord r).length (0 : UInt8)).getD i 0 := by
        rw [← hF]
      rw [getD_eq_getElemC9S _ _ (by rw [List.length_set]; exact hlt),
        getD_eq_getElemC9S _ _ (by rw [List.length_replicate]; exact hlt)] at h1
      simpa using h1
    have hx : (encRecord r)[i] ≠ 0 := by
      intro e; apply hy; rw [getD_eq_getElemC9S _ _ hlt, e, hy0]
    -- from here on `y = 0` and the frame is zeros except at `i`
    have hE : encRecord r = (List.replicate (encRecord r).length 0).set i ((encRecord r)[i]) := by
      rw [← hF, List.set_set, List.set_getElem_self]
    have hn12 := encRecord_length_ge r
    -- a value position lies behind the four tag bytes, so these are zero in the frame itself:
    -- tag 0, a `SaveVote` frame of 20 + 8 bytes
    have htag : natToBE 4 r.tag = natToBE 4 0 := by
      have h1 : (encRecord r).take 4 = natToBE 4 r.tag := by
        rw [encRecord_eq, encTB, List.append_assoc, List.take_left' (natToBE_length 4 _)]
      rw [← h1, hE, List.take_set_of_le hge, List.take_replicate]
      have : min 4 (encRecord r).length = 4 := by omega
      rw [this]; decide
    have ht0 : r.tag = 0 := natToBE_injective 4 (Record.tag_lt r) (by decide) htag
    cases r with
    | saveVote v =>
      have hl20 := encTB_saveVote_lengthC9S v
      have hn : (encRecord (.saveVote v)).length = 28 := by rw [encRecord_eq]; simp [hl20]
      rw [hn] at hE
      generalize hxx : (encRecord (.saveVote v))[i] = x at hE hx
      have htake : (encRecord (.saveVote v)).take 20 = encTB (.saveVote v) := by
        rw [encRecord_eq, List.take_left' hl20]
      have hdrop : (encRecord (.saveVote v)).drop 20 = natToBE 8 (crc32 (encTB (.saveVote v))) := by
        rw [encRecord_eq, List.drop_left' hl20]
      by_cases hi : i < 20
      · have h1 : encTB (.saveVote v) = List.replicate i 0 ++ x :: List.replicate (19 - i) 0 := by
          rw [← htake, hE, List.take_set, List.take_replicate]
          have hi' : i < (List.replicate (min 20 28) (0 : UInt8)).length := by rw [List.length_replicate]; omega
          rw [(set_splitC9S _ i hi' x).2, List.take_replicate, List.drop_replicate]
          have e1 : min i (min 20 28) = i := by omega
          have e2 : min 20 28 - (i + 1) = 19 - i := by omega
          rw [e1, e2]
        have h2 : natToBE 8 (crc32 (encTB (.saveVote v))) = natToBE 8 0 := by
          rw [← hdrop, hE, List.drop_set_of_lt hi, List.drop_replicate]; decide
        have h3 := natToBE_injective 8 (crc32_lt _) (by decide) h2
        rw [h1] at h3
        exact crc_onebyteC9S i (19 - i) (by omega) hge x hx h3
      · have hle : 20 ≤ i := by omega
        have h1 : encTB (.saveVote v) = List.replicate 20 0 := by
          rw [← htake, hE, List.take_set_of_le hle, List.take_replicate]
          rfl
        have h2 : natToBE 8 (crc32 (encTB (.saveVote v))) = (List.replicate 8 0).set (i - 20) x := by
          rw [← hdrop, hE, List.drop_set, if_neg (by omega), List.drop_replicate]
        rw [h1, crc_zeros20_bytesC9S] at h2
        -- the stored checksum of twenty zero bytes has non-zero bytes at 4 and 5; one overwrite
        -- cannot clear both
        by_cases h4 : i - 20 = 4
        · have := congrArg (fun l => l[5]?) h2
          rw [h4] at this
          simp at this
        · have := congrArg (fun l => l[4]?) h2
          simp [h4] at this
    | append _ _ => simp [Record.tag] at ht0
    | commit _ => simp [Record.tag] at ht0
    | truncateAfter _ => simp [Record.tag] at ht0
    | purgeUpto _ => simp [Record.tag] at ht0
    | state _ => simp [Record.tag] at ht0

theorem allZero_value_byteC9S (r : Record) (i : Nat) (y : UInt8) (hpos : ValuePos r i)
    (hy : (encRecord r).getD i 0 ≠ y) (rest : Bytes) :
    allZero ((encRecord r).set i y ++ rest) = false := by
  rw [allZero_appendC9S, frame_not_zeroC9S r i y hpos hy]; rfl

theorem set_midC9S (a b c : Bytes) (i : Nat) (y : UInt8) (hi : i < b.length) :
    (a ++ (b ++ c)).set (a.length + i) y = a ++ (b.set i y ++ c) := by
  rw [List.set_append_right _ _ (by omega), Nat.add_sub_cancel_left, List.set_append_left _ _ hi]

theorem openChunk_value_byteC9S (cfg : Cfg) (id : Nat) {rs0 : List Record} (h0 : AllWF rs0)
    (r : Record) (hr : r.WF) (rest : Bytes) (i : Nat) (y : UInt8) (hpos : ValuePos r i)
    (hy : (encRecord r).getD i 0 ≠ y) :
    parseChunk ((encAll rs0 ++ (encRecord r ++ rest)).set ((encAll rs0).length + i) y)
      = (sized rs0, .invalid, (encRecord r).set i y ++ rest) ∧
    openChunk cfg id ((encAll rs0 ++ (encRecord r ++ rest)).set ((encAll rs0).length + i) y)
      = .error .invalid := by
  have hd := decRecord_value_byteC9S r hr i y hpos hy rest
  rw [set_midC9S (encAll rs0) (encRecord r) rest i y hpos.ltC9S]
  exact ⟨(openChunk_invalid_tail cfg id h0 hd).1, by
    rw [(openChunk_invalid_tail cfg id h0 hd).2, chunkResult, allZero_value_byteC9S r i y hpos hy]; rfl⟩

end RaftLog
