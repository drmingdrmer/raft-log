/-
C11, second sentence: "A file is closed as soon as it reaches the configured record-count or size limit, and
the reported on-disk size equals the bytes from the oldest retained chunk to the journal end."
On-disk size: `onDiskSize` is the journal end minus the oldest live chunk id; under the journal invariant it
is the sum of the live chunks' byte strings and, with nothing in flight, pending or to remove, the total
length of the linked files. Rotation rule: the store invariant `RotInvC11F`, kept by every call that does
not fail on `create_new`; along histories it rides on the journal invariant and `PanicFree`. The rule is
false after a failed `create_new` (a full chunk stays open), so it is no `Moves` instance: this chain walks
the call itself (`appendAndApply_rot_C11F` … `call_rot_C11F`), with "panicked" as the alternative.
-/
import RaftLogModel.Proofs.NoPanicAll
import RaftLogModel.Proofs.ReplayLinked
import RaftLogModel.Proofs.JournalCor
namespace RaftLog

theorem onDiskSize_def_C11F (s : Store) : s.onDiskSize = s.openEnd - s.chunkIds.headD 0 := by
  rw [Store.chunkIds_eq]
  unfold Store.onDiskSize
  cases hc : s.closed with
  | nil => rfl
  | cons c rest => rfl

theorem JInv.onDiskSize_bytes_C11F {s : Store} {fs : Fs} {w : Worker} (hj : JInv s fs w) :
    s.onDiskSize = sumNat (s.chunkIds.map (fun id => (chunkBytes s fs w id).length)) := by
  rw [hj.onDiskSize_extents, Store.chunkIds, List.map_map]
  congr 1
  apply List.map_congr_left
  intro offs ho
  exact (hj.chunkBytes_length offs ho).symm

theorem sumNat_eq_sum_C11F (l : List Nat) : sumNat l = l.sum := by
  induction l with
  | nil => rfl
  | cons x xs ih => simp [sumNat, ih]

theorem sumNat_foldl_insertNat_C11F (g : Nat → Nat) (L : List File) (acc : List Nat) :
    sumNat ((L.foldl (fun acc f => insertNat f.id acc) acc).map g)
      = sumNat (acc.map g) + sumNat (L.map (fun f => g f.id)) := by
  have hperm := ((foldl_insertNat_perm File.id L acc).map g).sum_nat
  simp only [sumNat_eq_sum_C11F, hperm, List.map_append, List.sum_append, List.map_map, Function.comp_def]

theorem fdata_of_mem_C11F {fs : Fs} (hn : (Fs.ids fs).Nodup) {f : File} (hf : f ∈ fs) :
    fdata fs f.id = f.data := by
  have hsome := (Fs.find_isSome_iff fs f.id).mpr (List.mem_map.mpr ⟨f, hf, rfl⟩)
  cases hf' : fs.find f.id with
  | none => rw [hf'] at hsome; cases hsome
  | some g =>
    have h1 : g ∈ fs := List.mem_of_find?_eq_some hf'
    have h2 : g.id = f.id := Fs.find_id hf'
    have : g = f := eq_of_nodup_ids hn h1 hf h2
    unfold fdata; rw [hf', this]

theorem linked_total_C11F {fs : Fs} (hn : (Fs.ids fs).Nodup) :
    ((fs.filter (·.linked)).map (·.data.length)).sum
      = sumNat (fs.linkedIds.map (fun id => (fdata fs id).length)) := by
  unfold Fs.linkedIds
  rw [sumNat_foldl_insertNat_C11F (fun id => (fdata fs id).length)]
  simp only [List.map_nil, sumNat, Nat.zero_add]
  rw [← sumNat_eq_sum_C11F]
  congr 1
  apply List.map_congr_left
  intro f hf
  rw [fdata_of_mem_C11F hn (List.mem_filter.mp hf).1]

theorem onDiskSize_files_C11F {s : Store} {fs : Fs} {w : Worker} (hj : JInv s fs w)
    (hn : (Fs.ids fs).Nodup) (hli : fs.linkedIds = s.chunkIds)
    (hpc : w.pc = .idle) (hqe : w.queue = []) (hp : s.pending = []) :
    s.onDiskSize = ((fs.filter (·.linked)).map (·.data.length)).sum := by
  rw [linked_total_C11F hn, hli, hj.onDiskSize_bytes_C11F]
  congr 1
  apply List.map_congr_left
  intro id _
  simp [chunkBytes, inflight_quiet hpc hqe, hp]

/-- A chunk with these offsets has reached the record-count or the size limit
(`OpenChunk::is_full`). -/
def fullOffsC11F (cfg : Cfg) (offs : List Nat) : Bool :=
  decide (recordsCount offs ≥ cfg.maxRecords) || decide (chunkSize offs ≥ cfg.maxSize)

theorem isOpenFull_eq_C11F (s : Store) : s.isOpenFull = fullOffsC11F s.cfg s.openOffsets := rfl

/-- A chunk closed by a rotation: it is full, it holds the head record and at
least one more, and without its last record it was not full — unless it holds
only head + one record (then the fresh chunk was "full" from the start: limits
so small that the head record alone reaches them). -/
def ClosedFullC11F (cfg : Cfg) (offs : List Nat) : Prop :=
  fullOffsC11F cfg offs = true ∧ 3 ≤ offs.length ∧
    (fullOffsC11F cfg offs.dropLast = false ∨ offs.length = 3)

structure RotInvC11F (s : Store) : Prop where
  open2 : 2 ≤ s.openOffsets.length
  openNF : s.isOpenFull = false ∨ s.openOffsets.length = 2
  closedFull : ∀ c ∈ s.closed, ClosedFullC11F s.cfg c.offsets

theorem RotInvC11F.ne_nil {s : Store} (h : RotInvC11F s) : s.openOffsets ≠ [] :=
  fun e => by have := h.open2; rw [e] at this; cases this

theorem RotInvC11F.applied_closeFull {s : Store} (h : RotInvC11F s) (r : Record) (st' : RState) :
    RotInvC11F (s.applied r st').closeFull.1 ∧ (s.applied r st').closeFull.1.cfg = s.cfg := by
  have ho : (s.applied r st').openOffsets = s.openOffsets ++ [s.openEnd + (encRecord r).length] := rfl
  have hlen : (s.applied r st').openOffsets.length = s.openOffsets.length + 1 := by
    rw [ho, List.length_append]; rfl
  have h2 := h.open2
  cases hf : (s.applied r st').isOpenFull with
  | false =>
    rw [Store.closeFull_of_not_full hf]
    exact ⟨⟨hlen ▸ Nat.le_succ_of_le h2, .inl hf, h.closedFull⟩, rfl⟩
  | true =>
    rw [Store.closeFull_of_full hf]
    refine ⟨⟨Nat.le_refl 2, .inr rfl, fun c hc => ?_⟩, rfl⟩
    rcases List.mem_append.1 hc with hc | hc
    · exact h.closedFull c hc
    · cases List.mem_singleton.1 hc
      refine ⟨hf, hlen ▸ Nat.succ_le_succ h2, ?_⟩
      show fullOffsC11F s.cfg (s.applied r st').openOffsets.dropLast = false ∨ _
      rw [ho, List.dropLast_concat]
      exact h.openNF.imp_right fun h => by rw [List.length_append, h]; rfl

/-- A call keeps the rotation rule unless it panics (`call_no_panic`: it does not, on a `PanicFree` store) —
provided no file sits at or beyond the journal end, so that `create_new` does not fail and leave a
full open chunk behind. -/
theorem appendAndApply_rot_C11F {s : Store} (fsHas : Nat → Bool) (r : Record)
    (h : RotInvC11F s) (hfs : ∀ i, s.openEnd ≤ i → fsHas i = false) :
    (∃ m, (s.appendAndApply fsHas r).1 = .panic m) ∨
      (RotInvC11F (s.appendAndApply fsHas r).2.1 ∧ (s.appendAndApply fsHas r).2.1.cfg = s.cfg) := by
  refine Store.appendAndApply_elim (s.appendAndApply fsHas r) rfl (fun _ _ => .inr ⟨h, rfl⟩)
    (fun _ _ => .inl ⟨_, rfl⟩) (fun _ _ _ => .inl ⟨_, rfl⟩) ?_
  intro st' s2 _ hs2 s3 hs3
  rw [hs3, Store.applied_of_indexed st' h.ne_nil hs2]
  have key := h.applied_closeFull r st'
  refine ⟨fun hf => .inr ?_, fun _ he => ?_, fun hf _ => .inr ?_⟩
  · rwa [Store.closeFull_of_not_full hf] at key
  · rw [Store.applied_openEnd, hfs _ (Nat.le_add_right _ _)] at he
    cases he
  · rwa [Store.closeFull_of_full hf] at key

theorem appendBatch_rot_C11F (es : List (LogId × Bytes)) (fsHas : Nat → Bool) (s : Store) (seg : Seg)
    (effs : List Eff) (h : RotInvC11F s) (hfs : ∀ i, s.openEnd ≤ i → fsHas i = false) :
    (∃ m, (Store.appendBatch fsHas es s seg effs).1 = .panic m) ∨
      (RotInvC11F (Store.appendBatch fsHas es s seg effs).2.1 ∧
        (Store.appendBatch fsHas es s seg effs).2.1.cfg = s.cfg) := by
  refine Store.appendBatch_elim
    (P := fun fsHas s1 _ => RotInvC11F s1 ∧ s1.cfg = s.cfg ∧ ∀ i, s1.openEnd ≤ i → fsHas i = false)
    (R := fun res => (∃ m, res.1 = .panic m) ∨ (RotInvC11F res.2.1 ∧ res.2.1.cfg = s.cfg)) es
    (fun _ _ _ _ _ _ hp => Or.inr ⟨hp.1, hp.2.1⟩)
    (fun fsHas s1 effs id p _ _ hp res s' e' hres => ?_) fsHas s seg effs ⟨h, rfl, hfs⟩
  have g := appendAndApply_rot_C11F fsHas (.append id p) hp.1 hp.2.2
  have gr := (appendAndApply_growth s1 (.append id p) hp.2.2).1
  rw [hres] at g gr
  cases res with
  | panic m => exact Or.inl ⟨m, rfl⟩
  | err k => exact g.imp_right fun ⟨g1, g2⟩ => ⟨g1, g2.trans hp.2.1⟩
  | ok seg' =>
    rcases g with ⟨m, hm⟩ | ⟨g1, g2⟩
    · cases hm
    · exact ⟨g1, g2.trans hp.2.1, gr.fsHas hp.2.2⟩

theorem call_rot_C11F {s : Store} (fsHas : Nat → Bool) (op : Op) (h : RotInvC11F s)
    (hfs : ∀ i, s.openEnd ≤ i → fsHas i = false) :
    (∃ m, (s.call fsHas op).1 = .panic m) ∨
      (RotInvC11F (s.call fsHas op).2.1 ∧ (s.call fsHas op).2.1.cfg = s.cfg) := by
  rcases s.call_cases fsHas op with ⟨x, e, _⟩ | ⟨es, seg0, rfl, e⟩ | ⟨r, _, e⟩ |
    ⟨upto, seg, s', effs, _, ha, e⟩ <;> rw [e]
  · exact Or.inr ⟨h, rfl⟩
  · exact appendBatch_rot_C11F es fsHas s _ [] h hfs
  · exact appendAndApply_rot_C11F fsHas r h hfs
  · rcases ha ▸ appendAndApply_rot_C11F fsHas (.purgeUpto upto) h hfs with ⟨m, hm⟩ | ⟨g1, g2⟩
    · cases hm
    · obtain ⟨pre, hpre, _⟩ := popObsolete_pre upto s'.closed
      exact Or.inr ⟨⟨g1.open2, g1.openNF, fun c hc =>
        g1.closedFull c (by rw [hpre]; exact List.mem_append_right _ hc)⟩, g2⟩

theorem fullOffs_congr_C11F {c1 c2 : Cfg} (h1 : c2.maxRecords = c1.maxRecords)
    (h2 : c2.maxSize = c1.maxSize) (offs : List Nat) : fullOffsC11F c2 offs = fullOffsC11F c1 offs := by
  simp only [fullOffsC11F, h1, h2]

theorem RotInvC11F.of_limits {s s2 : Store} (h : RotInvC11F s)
    (h1 : s2.cfg.maxRecords = s.cfg.maxRecords) (h2 : s2.cfg.maxSize = s.cfg.maxSize)
    (h3 : s2.openOffsets = s.openOffsets) (h4 : s2.closed = s.closed) : RotInvC11F s2 := by
  refine ⟨by rw [h3]; exact h.open2, ?_, ?_⟩
  · rw [isOpenFull_eq_C11F, fullOffs_congr_C11F h1 h2, h3]; exact h.openNF
  · intro c hc
    rw [h4] at hc
    obtain ⟨k1, k2, k3⟩ := h.closedFull c hc
    exact ⟨by rw [fullOffs_congr_C11F h1 h2]; exact k1, k2, by rw [fullOffs_congr_C11F h1 h2]; exact k3⟩

def RotSysC11F (cfg : Cfg) (y : Sys) : Prop :=
  ∃ s, y.store = some s ∧ s.cfg = cfg ∧ RotInvC11F s

theorem fresh_RotSys_C11F (cfg : Cfg) : RotSysC11F cfg (Sys.fresh cfg) := by
  rw [Sys.fresh_eq]
  exact ⟨_, rfl, rfl, Nat.le_refl 2, Or.inr rfl, fun c hc => nomatch hc⟩

theorem RotSysC11F.of_noncall {cfg : Cfg} {y : Sys} (h : RotSysC11F cfg y) {st : Step}
    (hst : st.journal = true) (hnc : ∀ op, st ≠ .call op) : RotSysC11F cfg (y.step st) := by
  obtain ⟨s, hs, hc, hr⟩ := h
  obtain ⟨f, hf, hb⟩ := y.step_store_between (Step.live_of_journal hst) hnc
  obtain ⟨c, p, rm, e, _⟩ := hb s
  exact ⟨f s, by rw [hf, hs]; rfl, by rw [e]; exact hc,
    by rw [e]; exact ⟨hr.open2, hr.openNF, hr.closedFull⟩⟩

theorem RotSysC11F.worker {cfg : Cfg} {y : Sys} (h : RotSysC11F cfg y) (out : Outcome) :
    RotSysC11F cfg (y.workerStep out).1 :=
  h.of_noncall (st := .worker out) rfl (fun _ e => nomatch e)

theorem RotSysC11F.workerIdle {cfg : Cfg} {y : Sys} (h : RotSysC11F cfg y) :
    RotSysC11F cfg y.workerIdle.1 :=
  h.of_noncall (st := .workerIdle) rfl (fun _ e => nomatch e)

/-- The journal invariant gives "no file at or beyond the journal end", `PanicFree` excludes the panic
alternative of `call_rot_C11F`. -/
theorem run_RotSys_C11F {cfg : Cfg} (steps : List Step) (y : Sys) (hJ : J y) (hp : PFSys_D12 y)
    (hr : RotSysC11F cfg y) (hst : ∀ st ∈ steps, st.journal = true)
    (hwf : ∀ op ∈ stepOps steps, op.WF) (hnd : (y.run steps).worker.pc ≠ .dead) :
    RotSysC11F cfg (y.run steps) := by
  obtain ⟨s, hs, hd, hj⟩ := hJ
  obtain ⟨s0, hs0, hc, hr⟩ := hr
  cases hs.symm.trans hs0
  obtain ⟨s', hs', _, _, hc', hr'⟩ := Sys.Live.run (C := Op.WF)
    (I := fun s fs w => (JInv s fs w ∧ PanicFree s) ∧ s.cfg = cfg ∧ RotInvC11F s)
    (PanicFree.frame.and (fun _ _ k => ⟨k.1, k.2.of_limits rfl rfl rfl rfl⟩) (fun _ k => k)
      (fun _ _ k _ _ => ⟨k.1, k.2.of_limits rfl rfl rfl rfl⟩)
      (fun _ k => ⟨k.1, k.2.of_limits rfl rfl rfl rfl⟩))
    (fun {s fs w op} hop h => by
      obtain ⟨hno, hpf⟩ := call_ok_D12 fs.has op h.1.2 hop
      rcases call_rot_C11F fs.has op h.2.2 (Fs.has_false_of_lt h.1.1.fsLt) with ⟨m, hm⟩ | ⟨g1, g2⟩
      · exact absurd hm (hno m)
      · exact ⟨⟨JInv.call_wf JInv.callerInv id id _ hop h.1.1, hpf⟩, g2.trans h.2.1, g1⟩)
    steps ⟨s, hs, hd, ⟨hj, hp s hs⟩, hc, hr⟩ hst hwf hnd
  exact ⟨s', hs', hc', hr'⟩

theorem fullOffs_false_iff_C11F (cfg : Cfg) (offs : List Nat) :
    fullOffsC11F cfg offs = false ↔ recordsCount offs < cfg.maxRecords ∧ chunkSize offs < cfg.maxSize := by
  simp only [fullOffsC11F, Bool.or_eq_false_iff, decide_eq_false_iff_not]
  omega

theorem fullOffs_true_iff_C11F (cfg : Cfg) (offs : List Nat) :
    fullOffsC11F cfg offs = true ↔ cfg.maxRecords ≤ recordsCount offs ∨ cfg.maxSize ≤ chunkSize offs := by
  simp only [fullOffsC11F, Bool.or_eq_true, decide_eq_true_eq, ge_iff_le]

theorem RotInvC11F.open_spec {s : Store} (h : RotInvC11F s) :
    (recordsCount s.openOffsets < s.cfg.maxRecords ∧ chunkSize s.openOffsets < s.cfg.maxSize) ∨
      (recordsCount s.openOffsets = 1 ∧
        (s.cfg.maxRecords ≤ 1 ∨ s.cfg.maxSize ≤ chunkSize s.openOffsets)) := by
  by_cases hf : s.isOpenFull = true
  · rcases h.openNF with h1 | h1
    · rw [h1] at hf; cases hf
    · have hc : recordsCount s.openOffsets = 1 := by simp [recordsCount, h1]
      rw [isOpenFull_eq_C11F, fullOffs_true_iff_C11F, hc] at hf
      exact Or.inr ⟨hc, hf⟩
  · have hf' : s.isOpenFull = false := by simpa using hf
    rw [isOpenFull_eq_C11F, fullOffs_false_iff_C11F] at hf'
    exact Or.inl hf'

theorem ClosedFullC11F.spec {cfg : Cfg} {offs : List Nat} (h : ClosedFullC11F cfg offs) :
    (cfg.maxRecords ≤ recordsCount offs ∨ cfg.maxSize ≤ chunkSize offs) ∧
    2 ≤ recordsCount offs ∧
    ((recordsCount offs.dropLast < cfg.maxRecords ∧ chunkSize offs.dropLast < cfg.maxSize) ∨
      recordsCount offs = 2) ∧
    recordsCount offs.dropLast + 1 = recordsCount offs ∧
    recordsCount offs ≤ max cfg.maxRecords 2 ∧
    (cfg.maxRecords ≤ recordsCount offs → recordsCount offs = max cfg.maxRecords 2) := by
  obtain ⟨h1, h2, h3⟩ := h
  rw [fullOffs_true_iff_C11F] at h1
  rw [fullOffs_false_iff_C11F] at h3
  have hd : recordsCount offs.dropLast + 1 = recordsCount offs := by
    simp only [recordsCount, List.length_dropLast]; omega
  have h3' : (recordsCount offs.dropLast < cfg.maxRecords ∧ chunkSize offs.dropLast < cfg.maxSize) ∨
      recordsCount offs = 2 := by
    rcases h3 with k | k
    · exact Or.inl k
    · exact Or.inr (by simp only [recordsCount]; omega)
  have h2' : 2 ≤ recordsCount offs := by simp only [recordsCount]; omega
  have hmax : recordsCount offs ≤ max cfg.maxRecords 2 := by
    rcases h3' with k | k
    · exact Nat.le_trans (by omega) (Nat.le_max_left _ _)
    · rw [k]; exact Nat.le_max_right _ _
  exact ⟨h1, h2', h3', hd, hmax, fun hle => Nat.le_antisymm hmax (Nat.max_le.2 ⟨hle, h2'⟩)⟩

/-- The oldest live chunk starts below the journal end (the subtraction in
`on_disk_size` is a real one). -/
theorem JInv.oldest_lt_C11F {s : Store} {fs : Fs} {w : Worker} (hj : JInv s fs w) :
    s.chunkIds.headD 0 < s.openEnd := by
  rw [Store.chunkIds_eq]
  have h1 := hj.openId_lt
  cases hc : s.closed with
  | nil => exact h1
  | cons c rest =>
    have := hj.closed_lt (c := c) (by rw [hc]; exact List.mem_cons_self)
    show c.id < s.openEnd
    omega

end RaftLog
