/-
`openLoop` and `openStore` (Model/Open.lean) are unfolded here and, for the empty directory, in `Sys.fresh_eq`
(Proofs/SysBasic.lean), nowhere else. One iteration on a chunk that opens and replays is the equation `openLoop_step`;
undamaged chunks (`Loads`) followed by a chunk of which only the result of `Chunk::open` is known:
`Loads.openLoop_last`, `Loads.openLoop_err`. For arbitrary directories: the case lists `OpenStep` (one iteration) and
`OpenEnd` (what `openStore` does after the loop). Also here: what `Fs.syncAll` keeps, that `open` does not panic on
small files, and what `Chunk::open` returns on whole records followed by nothing or a torn tail.
-/
import RaftLogModel.Proofs.Parse
import RaftLogModel.Proofs.NoPanic
import RaftLogModel.Proofs.FsBasic
namespace RaftLog

def DataSmall (data : Bytes) : Prop := ∀ x ∈ (parseChunk data).1, RecSmall x.1

def FsSmall (fs : Fs) : Prop :=
  ∀ id ∈ fs.linkedIds, ∀ f, fs.find id = some f → DataSmall f.data

theorem applyIndex_st {s s1 : Store} {r : Record} {c : Nat} {seg : Seg}
    (h : s.applyIndex r c seg = some s1) : s1.st = s.st := by
  cases r with
  | truncateAfter o =>
    simp only [Store.applyIndex] at h
    split at h
    · cases h
    · cases h; rfl
  | purgeUpto id =>
    simp only [Store.applyIndex] at h
    split at h
    · cases h
    · cases h; rfl
  | _ => cases h; rfl

theorem smApply_small {s : Store} {r : Record} {c : Nat} {seg : Seg} (hr : RecSmall r)
    (hs : StSmall s.st) :
    (∀ m, s.smApply r c seg ≠ .panic m) ∧
      (∀ s', s.smApply r c seg = .ok s' → StSmall s'.st) := by
  unfold Store.smApply
  cases hi : s.applyIndex r c seg with
  | none => exact absurd hi (applyIndex_ne_none hr.1 c seg)
  | some s1 =>
    have hst := applyIndex_st hi
    simp only
    cases ha : s1.st.apply r with
    | ok st' =>
      refine ⟨fun m h => (by cases h), ?_⟩
      intro s' h
      injection h with h; subst h
      rw [hst] at ha
      exact apply_small hr hs ha
    | err k => exact ⟨fun m h => (by cases h), fun s' h => (by cases h)⟩
    | panic m' =>
      rw [hst] at ha
      exact absurd ha (apply_not_panic hs.2 m')

theorem replay_small (c : Nat) (rs : List Record) (offs : List Nat) (s : Store)
    (hr : ∀ r ∈ rs, RecSmall r) (hs : StSmall s.st) :
    (∀ m, replay c rs offs s ≠ .panic m) ∧ (∀ s', replay c rs offs s = .ok s' → StSmall s'.st) := by
  -- without a record and two offsets `replay` returns the store as it is
  have stop : ∀ s0 : Store, StSmall s0.st →
      (∀ m, Res.ok s0 ≠ .panic m) ∧ (∀ s', Res.ok s0 = .ok s' → StSmall s'.st) :=
    fun s0 h0 => ⟨fun m h => (by cases h), fun s' h => (by cases h; exact h0)⟩
  induction rs generalizing offs s with
  | nil => exact stop s hs
  | cons r rs ih =>
    match offs with
    | [] => exact stop s hs
    | [_] => exact stop s hs
    | o1 :: o2 :: os =>
      obtain ⟨h1, h2⟩ := smApply_small (s := s) (c := c) (seg := ⟨o1, o2 - o1⟩)
        (hr r List.mem_cons_self) hs
      simp only [replay]
      cases hsm : s.smApply r c ⟨o1, o2 - o1⟩ with
      | ok s1 => exact ih (o2 :: os) s1 (fun x hx => hr x (List.mem_cons_of_mem _ hx)) (h2 s1 hsm)
      | err k => exact ⟨fun m h => (by cases h), fun s' h => (by cases h)⟩
      | panic m' => exact absurd hsm (h1 m')

theorem replay_cons (chunk start : Nat) (r : Record) (rs : List Record) (s : Store) :
    replay chunk (r :: rs) (offsetsFrom start (sizes (r :: rs))) s =
      match s.smApply r chunk ⟨start, (encRecord r).length⟩ with
      | .ok s' => replay chunk rs (offsetsFrom (start + (encRecord r).length) (sizes rs)) s'
      | other => other := by
  cases rs <;> simp only [sizes, List.map_cons, List.map_nil, offsetsFrom, replay, Nat.add_sub_cancel_left] <;>
    cases s.smApply r chunk ⟨start, (encRecord r).length⟩ <;> rfl

theorem openChunk_parse_ok {cfg : Cfg} {id : Nat} {data : Bytes} {rs : List Record} {e : ParseEnd}
    {rest : Bytes} {oc : OpenedChunk} (hp : parseChunk data = (sized rs, e, rest))
    (h : openChunk cfg id data = .ok oc) :
    oc.records = rs ∧ oc.offsets = offsetsFrom id (sizes rs) ∧
      (oc.truncatedTo = none ∨ oc.truncatedTo = some (encAll rs).length) := by
  rw [openChunk_of_parse hp] at h
  unfold chunkResult at h
  split at h
  · injection h with h; subst h; exact ⟨rfl, rfl, Or.inl rfl⟩
  · split at h
    · injection h with h; subst h; exact ⟨rfl, rfl, Or.inr rfl⟩
    · cases h
  · split at h
    · injection h with h; subst h; exact ⟨rfl, rfl, Or.inr rfl⟩
    · cases h

theorem openChunk_ok {cfg : Cfg} {id : Nat} {data : Bytes} {oc : OpenedChunk}
    (h : openChunk cfg id data = .ok oc) :
    ∃ rs rest, AllWF rs ∧ (parseChunk data).1 = sized rs ∧ data = encAll rs ++ rest ∧
      oc.records = rs ∧ oc.offsets = offsetsFrom id (sizes rs) ∧
      (oc.truncatedTo = none ∨ oc.truncatedTo = some (encAll rs).length) := by
  obtain ⟨rs, h1, h2, h3, _⟩ := parseChunk_canon data
  exact ⟨rs, _, h2, h1, h3, openChunk_parse_ok (e := (parseChunk data).2.1)
    (rest := (parseChunk data).2.2) (by rw [← h1]) h⟩

/-- What `open` does to the chunk files it keeps: one `sync` each (D15). -/
def Fs.syncAll (fs : Fs) (ids : List Nat) : Fs := ids.foldl Fs.sync fs

def syncEvs (ids : List Nat) : List Ev := ids.map (fun id => Ev.sync "o" id true)

def Ev.IsOpenSync (e : Ev) : Prop := ∃ id, e = Ev.sync "o" id true

theorem syncEvs_isOpenSync (ids : List Nat) : ∀ e ∈ syncEvs ids, e.IsOpenSync := by
  intro e he
  obtain ⟨id, _, rfl⟩ := List.mem_map.mp he
  exact ⟨id, rfl⟩

@[simp] theorem Fs.syncAll_nil (fs : Fs) : fs.syncAll [] = fs := rfl
theorem Fs.syncAll_cons (fs : Fs) (id : Nat) (ids : List Nat) :
    fs.syncAll (id :: ids) = (fs.sync id).syncAll ids := rfl
@[simp] theorem syncEvs_nil : syncEvs [] = [] := rfl
theorem syncEvs_cons (id : Nat) (ids : List Nat) :
    syncEvs (id :: ids) = Ev.sync "o" id true :: syncEvs ids := rfl
theorem syncEvs_append (xs ys : List Nat) : syncEvs (xs ++ ys) = syncEvs xs ++ syncEvs ys := by
  simp [syncEvs]
theorem Fs.syncAll_append (fs : Fs) (xs ys : List Nat) :
    fs.syncAll (xs ++ ys) = (fs.syncAll xs).syncAll ys := by
  simp [Fs.syncAll, List.foldl_append]

theorem Fs.syncAll_concat (fs : Fs) (ids : List Nat) (i : Nat) :
    fs.syncAll (ids ++ [i]) = (fs.syncAll ids).sync i := Fs.syncAll_append fs ids [i]
theorem syncEvs_concat (ids : List Nat) (i : Nat) :
    syncEvs (ids ++ [i]) = syncEvs ids ++ [Ev.sync "o" i true] := syncEvs_append ids [i]

theorem Fs.syncAll_eq_map (fs : Fs) (ids : List Nat) :
    fs.syncAll ids = List.map (fun f => if ids.contains f.id then
      ({ f with durable := f.data.length } : File) else f) fs := by
  induction ids generalizing fs with
  | nil => simp [Fs.syncAll]
  | cons id ids ih =>
    rw [Fs.syncAll_cons, ih, Fs.sync, Fs.update, List.map_map]
    refine List.map_congr_left fun f _ => ?_
    by_cases h1 : f.id = id
    · subst h1
      simp only [Function.comp, beq_self_eq_true, if_true, List.contains_cons, Bool.true_or]
      split <;> rfl
    · simp [h1]

theorem Fs.syncAll_eq_self {fs : Fs} {ids : List Nat}
    (h : ∀ f ∈ fs, f.id ∈ ids → f.durable = f.data.length) : fs.syncAll ids = fs := by
  rw [Fs.syncAll_eq_map]
  conv => rhs; rw [← List.map_id fs]
  apply List.map_congr_left
  intro f hf
  by_cases h2 : ids.contains f.id = true
  · have := h f hf (by simpa using h2)
    rw [if_pos h2, ← this]; rfl
  · rw [if_neg h2]; rfl

theorem Fs.find_syncAll (fs : Fs) (ids : List Nat) (id' : Nat) :
    Fs.find (fs.syncAll ids) id' = (Fs.find fs id').map (fun f =>
      if ids.contains f.id then ({ f with durable := f.data.length } : File) else f) := by
  rw [Fs.syncAll_eq_map]
  unfold Fs.find
  induction fs with
  | nil => rfl
  | cons x xs ih =>
    simp only [List.map_cons, List.find?_cons]
    have : ((if ids.contains x.id then ({ x with durable := x.data.length } : File) else x).id == id')
        = (x.id == id') := by split <;> rfl
    rw [this]
    cases x.id == id'
    · exact ih
    · rfl

theorem Fs.find_syncAll_map {α} (φ : File → α) (hφ : ∀ f, φ { f with durable := f.data.length } = φ f)
    (fs : Fs) (ids : List Nat) (i : Nat) : ((fs.syncAll ids).find i).map φ = (fs.find i).map φ := by
  rw [Fs.find_syncAll]
  cases fs.find i with
  | none => rfl
  | some f => simp only [Option.map_some]; split <;> simp [hφ]

theorem Fs.syncAll_frame {α} (φ : Fs → α) (h : ∀ fs id, φ (Fs.sync fs id) = φ fs) (fs : Fs)
    (ids : List Nat) : φ (fs.syncAll ids) = φ fs := by
  induction ids generalizing fs with
  | nil => rfl
  | cons id ids ih => rw [Fs.syncAll_cons, ih, h]

theorem Fs.has_syncAll (fs : Fs) (ids : List Nat) (n : Nat) : (fs.syncAll ids).has n = fs.has n :=
  Fs.syncAll_frame (·.has n) (fun fs id => Fs.has_sync fs id n) fs ids

theorem Fs.ids_syncAll (fs : Fs) (ids : List Nat) : Fs.ids (fs.syncAll ids) = Fs.ids fs :=
  Fs.syncAll_frame Fs.ids Fs.ids_sync fs ids

theorem fdata_syncAll (fs : Fs) (ids : List Nat) (i : Nat) : fdata (fs.syncAll ids) i = fdata fs i :=
  Fs.syncAll_frame (fdata · i) (fun fs id => fdata_sync fs id i) fs ids

theorem Fs.find_syncAll_some {fs : Fs} {id' : Nat} {f : File} (ids : List Nat)
    (h : Fs.find fs id' = some f) :
    ∃ f', Fs.find (fs.syncAll ids) id' = some f' ∧ f'.data = f.data ∧ f'.id = f.id ∧
      f'.linked = f.linked := by
  rw [Fs.find_syncAll, h]
  by_cases hc : ids.contains f.id = true
  · exact ⟨{ f with durable := f.data.length }, by simp only [Option.map_some, if_pos hc],
      rfl, rfl, rfl⟩
  · exact ⟨f, by simp only [Option.map_some, if_neg hc], rfl, rfl, rfl⟩

theorem Fs.linkedIds_syncAll (fs : Fs) (ids : List Nat) : (fs.syncAll ids).linkedIds = fs.linkedIds :=
  Fs.syncAll_frame Fs.linkedIds Fs.linkedIds_sync fs ids

def AllDurable (fs : Fs) : Prop := ∀ g ∈ fs, g.durable = g.data.length

theorem AllDurable.sync_eq {fs : Fs} (h : AllDurable fs) (id : Nat) : Fs.sync fs id = fs := by
  have := Fs.syncAll_eq_self (fs := fs) (ids := [id]) (fun f hf _ => h f hf)
  exact this

theorem AllDurable.syncAll_eq {fs : Fs} (h : AllDurable fs) (ids : List Nat) :
    fs.syncAll ids = fs :=
  Fs.syncAll_eq_self (fun f hf _ => h f hf)

theorem AllDurable.truncate {fs : Fs} (h : AllDurable fs) (id len : Nat) :
    AllDurable (Fs.truncate fs id len) := by
  intro g hg
  unfold Fs.truncate Fs.update at hg
  obtain ⟨f0, h0, e⟩ := List.mem_map.mp hg
  have := h f0 h0
  split at e
  · subst e
    simp only [List.length_take, this]
    omega
  · subst e; exact this

def OpenAcc.synced (a : OpenAcc) (id : Nat) : OpenAcc :=
  { a with fs := a.fs.sync id, evs := a.evs ++ [Ev.sync "o" id true] }

/-- The accumulator as the body of an `openLoop` step sees it: the eviction boundary is set first. -/
def OpenAcc.pre (a : OpenAcc) : OpenAcc :=
  { a with sm := { a.sm with cache := a.sm.cache.setLastEvictable a.lastLogId } }

def gapCheck (a : OpenAcc) (id : Nat) : Bool :=
  match a.prevEnd with
  | some p => p != id
  | none => false

def OpenAcc.afterTrunc (a : OpenAcc) (id : Nat) : Option Nat → OpenAcc
  | some len => { a with fs := a.fs.truncate id len,
                         evs := a.evs ++ [.trunc "o" id len, .sync "o" id true] }
  | none => a

/-- The part of an `openLoop` step after `openChunk` succeeded: the text of `openLoop`
(Model/Open.lean) from `replay` on, repeated; `openLoop_nogap` ties the two together. -/
def openTail (cfg : Cfg) (id : Nat) (rest : List Nat) (oc : OpenedChunk) (a1 : OpenAcc) :
    Res OpenAcc × OpenAcc :=
  match replay id oc.records oc.offsets a1.sm with
  | .err k => (.err k, a1)
  | .panic m => (.panic m, a1)
  | .ok sm2 =>
    if oc.records.isEmpty && rest.isEmpty then
      let a2 := { a1 with sm := sm2, fs := a1.fs.unlink id,
                          evs := a1.evs ++ [.unlink "o" id true], prevEnd := some id,
                          lastTruncated := true }
      (.ok a2, a2)
    else
      let sm3 := { sm2 with closed := sm2.closed ++ [⟨oc.offsets, sm2.st⟩] }
      let a1s : OpenAcc := { a1 with fs := a1.fs.sync id, evs := a1.evs ++ [Ev.sync "o" id true] }
      openLoop cfg rest { a1s with sm := sm3, prevEnd := some (lastOff oc.offsets),
                                   lastLogId := sm2.st.last,
                                   lastTruncated := oc.truncatedTo.isSome }

theorem openLoop_gap (cfg : Cfg) (id : Nat) (rest : List Nat) (a : OpenAcc)
    (h : gapCheck a id = true) : openLoop cfg (id :: rest) a = (.err .gap, a.pre) := by
  rw [openLoop]
  simp only
  split
  · rfl
  · rename_i heq
    exfalso
    unfold gapCheck at h
    cases hp : a.prevEnd <;> simp [hp] at h heq
    exact h heq

theorem openLoop_nogap (cfg : Cfg) (id : Nat) (rest : List Nat) (a : OpenAcc)
    (h : gapCheck a id = false) : openLoop cfg (id :: rest) a =
      match a.fs.find id with
      | none => (.err .notFound, a.pre)
      | some f =>
        match openChunk cfg id f.data with
        | .error k => (.err k, a.pre)
        | .ok oc => openTail cfg id rest oc (a.pre.afterTrunc id oc.truncatedTo) := by
  rw [openLoop]
  simp only
  split
  · rename_i heq
    exfalso
    unfold gapCheck at h
    cases hp : a.prevEnd <;> simp [hp] at h heq
    exact heq h
  · cases a.fs.find id with
    | none => rfl
    | some f =>
      simp only
      cases openChunk cfg id f.data with
      | error k => rfl
      | ok oc =>
        obtain ⟨recs, offs, tr⟩ := oc
        cases tr <;> rfl

theorem OpenAcc.afterTrunc_sm (a : OpenAcc) (id : Nat) (tr : Option Nat) :
    (a.afterTrunc id tr).sm = a.sm := by
  cases tr <;> rfl

def OpenAcc.dropHeadless (a : OpenAcc) (id : Nat) (tr : Option Nat) : OpenAcc :=
  let a1 := a.pre.afterTrunc id tr
  { a1 with fs := a1.fs.unlink id, evs := a1.evs ++ [.unlink "o" id true], prevEnd := some id,
            lastTruncated := true }

/-- The accumulator after chunk `id` — complete records `rs`, cut as `tr` says — was replayed to
`sm2` and closed. -/
def OpenAcc.kept (a : OpenAcc) (id : Nat) (rs : List Record) (tr : Option Nat) (sm2 : Store) :
    OpenAcc :=
  { (a.pre.afterTrunc id tr).synced id with
    sm := { sm2 with closed := sm2.closed ++ [⟨offsetsFrom id (sizes rs), sm2.st⟩] },
    prevEnd := some (lastOff (offsetsFrom id (sizes rs))),
    lastLogId := sm2.st.last,
    lastTruncated := tr.isSome }

/-- One iteration of the loop on a chunk that opens (records `rs`, cut decision `tr`) and replays: it is
closed and the loop goes on, except that a newest chunk without a complete record is removed. Every walk of
`openLoop` over a chunk that loads is this equation. -/
theorem openLoop_step {cfg : Cfg} {a : OpenAcc} {id : Nat} {f : File} {rs : List Record}
    {tr : Option Nat} {sm2 : Store} (more : List Nat)
    (hg : gapCheck a id = false) (hf : a.fs.find id = some f)
    (hoc : openChunk cfg id f.data = .ok ⟨rs, offsetsFrom id (sizes rs), tr⟩)
    (hr : replay id rs (offsetsFrom id (sizes rs)) a.pre.sm = .ok sm2) :
    openLoop cfg (id :: more) a =
      if rs = [] ∧ more = [] then (.ok (a.dropHeadless id tr), a.dropHeadless id tr)
      else openLoop cfg more (a.kept id rs tr sm2) := by
  rw [openLoop_nogap cfg id more a hg]
  simp only [hf, hoc]
  unfold openTail
  simp only [a.pre.afterTrunc_sm, hr]
  by_cases h : rs = [] ∧ more = []
  · obtain ⟨rfl, rfl⟩ := h
    cases hr
    simp only [List.isEmpty_nil, Bool.and_self, if_true, and_self]
    cases tr <;> rfl
  · rw [if_neg h, if_neg (by simpa [List.isEmpty_iff] using h)]
    rfl

def Fs.cut (fs : Fs) (id : Nat) : Option Nat → Fs
  | none => fs
  | some len => fs.truncate id len

def cutEvs (id : Nat) : Option Nat → List Ev
  | none => []
  | some len => [.trunc "o" id len, .sync "o" id true]

theorem OpenAcc.kept_fs_evs (a : OpenAcc) (id : Nat) (rs : List Record) (tr : Option Nat)
    (sm2 : Store) : (a.kept id rs tr sm2).fs = (a.fs.cut id tr).sync id ∧
      (a.kept id rs tr sm2).evs = a.evs ++ cutEvs id tr ++ [.sync "o" id true] := by
  cases tr <;> simp [OpenAcc.kept, OpenAcc.synced, OpenAcc.afterTrunc, OpenAcc.pre, Fs.cut, cutEvs]

theorem OpenAcc.dropHeadless_fs_evs (a : OpenAcc) (id : Nat) (tr : Option Nat) :
    (a.dropHeadless id tr).fs = (a.fs.cut id tr).unlink id ∧
      (a.dropHeadless id tr).evs = a.evs ++ cutEvs id tr ++ [.unlink "o" id true] := by
  cases tr <;> simp [OpenAcc.dropHeadless, OpenAcc.afterTrunc, OpenAcc.pre, Fs.cut, cutEvs]

theorem OpenAcc.dropHeadless_sm (a : OpenAcc) (id : Nat) (tr : Option Nat) :
    (a.dropHeadless id tr).sm = a.pre.sm := by
  cases tr <;> rfl

theorem Fs.find_cut_other (fs : Fs) {id id' : Nat} (h : id' ≠ id) (tr : Option Nat) :
    (fs.cut id tr).find id' = fs.find id' := by
  cases tr with
  | none => rfl
  | some len => exact Fs.find_truncate_other _ h len

theorem Fs.ids_cut (fs : Fs) (id : Nat) (tr : Option Nat) : Fs.ids (fs.cut id tr) = Fs.ids fs := by
  cases tr with
  | none => rfl
  | some len => exact Fs.ids_truncate fs id len

theorem Fs.has_cut (fs : Fs) (id : Nat) (tr : Option Nat) (n : Nat) :
    (fs.cut id tr).has n = fs.has n := by
  cases tr with
  | none => rfl
  | some len => exact Fs.has_truncate fs id len n

theorem dropHeadless_find_other (a : OpenAcc) {id id' : Nat} (h : id' ≠ id) (tr : Option Nat) :
    (a.dropHeadless id tr).fs.find id' = a.fs.find id' := by
  rw [(a.dropHeadless_fs_evs id tr).1, Fs.find_unlink_other _ h, Fs.find_cut_other a.fs h tr]

theorem dropHeadless_has (a : OpenAcc) (id : Nat) (tr : Option Nat) :
    (a.dropHeadless id tr).fs.has id = false := by
  rw [(a.dropHeadless_fs_evs id tr).1]
  exact Fs.has_unlink_self _ _

/-- Everything one iteration of `openLoop` can do. Properties of `open` on an arbitrary directory, and what a
successful `open` must have seen, are inductions over the ids with a case split on this. -/
inductive OpenStep (cfg : Cfg) (a : OpenAcc) (id : Nat) (more : List Nat) :
    Res OpenAcc × OpenAcc → Prop
  | gap : gapCheck a id = true → OpenStep cfg a id more (.err .gap, a.pre)
  | notFound : gapCheck a id = false → a.fs.find id = none →
      OpenStep cfg a id more (.err .notFound, a.pre)
  | chunkErr {f : File} {k : ErrKind} : gapCheck a id = false → a.fs.find id = some f →
      openChunk cfg id f.data = .error k → OpenStep cfg a id more (.err k, a.pre)
  | replayErr {f : File} {rs : List Record} {tr : Option Nat} {k : ErrKind} :
      gapCheck a id = false → a.fs.find id = some f →
      openChunk cfg id f.data = .ok ⟨rs, offsetsFrom id (sizes rs), tr⟩ →
      replay id rs (offsetsFrom id (sizes rs)) a.pre.sm = .err k →
      OpenStep cfg a id more (.err k, a.pre.afterTrunc id tr)
  | replayPanic {f : File} {rs : List Record} {tr : Option Nat} {m : String} :
      gapCheck a id = false → a.fs.find id = some f →
      openChunk cfg id f.data = .ok ⟨rs, offsetsFrom id (sizes rs), tr⟩ →
      replay id rs (offsetsFrom id (sizes rs)) a.pre.sm = .panic m →
      OpenStep cfg a id more (.panic m, a.pre.afterTrunc id tr)
  | drop {f : File} {tr : Option Nat} : gapCheck a id = false → a.fs.find id = some f →
      openChunk cfg id f.data = .ok ⟨[], offsetsFrom id (sizes []), tr⟩ → more = [] →
      OpenStep cfg a id more (.ok (a.dropHeadless id tr), a.dropHeadless id tr)
  | keep {f : File} {rs : List Record} {tr : Option Nat} {sm2 : Store} :
      gapCheck a id = false → a.fs.find id = some f →
      openChunk cfg id f.data = .ok ⟨rs, offsetsFrom id (sizes rs), tr⟩ →
      replay id rs (offsetsFrom id (sizes rs)) a.pre.sm = .ok sm2 → (rs ≠ [] ∨ more ≠ []) →
      OpenStep cfg a id more (openLoop cfg more (a.kept id rs tr sm2))

theorem openLoop_cons (cfg : Cfg) (id : Nat) (more : List Nat) (a : OpenAcc) :
    OpenStep cfg a id more (openLoop cfg (id :: more) a) := by
  cases hg : gapCheck a id with
  | true => rw [openLoop_gap cfg id more a hg]; exact .gap hg
  | false =>
    cases hf : a.fs.find id with
    | none => rw [openLoop_nogap cfg id more a hg]; simp only [hf]; exact .notFound hg hf
    | some f =>
      cases hoc : openChunk cfg id f.data with
      | error k =>
        rw [openLoop_nogap cfg id more a hg]; simp only [hf, hoc]; exact .chunkErr hg hf hoc
      | ok oc =>
        obtain ⟨rs0, _, _, _, _, h1, h2, _⟩ := openChunk_ok hoc
        obtain ⟨rs, offs, tr⟩ := oc
        simp only at h1 h2
        subst h1 h2
        cases hr : replay id rs (offsetsFrom id (sizes rs)) a.pre.sm with
        | ok sm2 =>
          rw [openLoop_step more hg hf hoc hr]
          split
          · rename_i h; obtain ⟨rfl, rfl⟩ := h; exact .drop hg hf hoc rfl
          · rename_i h; exact .keep hg hf hoc hr (by
              by_cases h1 : rs = []
              · exact .inr fun h2 => h ⟨h1, h2⟩
              · exact .inl h1)
        | err k =>
          rw [openLoop_nogap cfg id more a hg]
          simp only [hf, hoc, openTail, a.pre.afterTrunc_sm]
          rw [hr]
          exact .replayErr hg hf hoc hr
        | panic m =>
          rw [openLoop_nogap cfg id more a hg]
          simp only [hf, hoc, openTail, a.pre.afterTrunc_sm]
          rw [hr]
          exact .replayPanic hg hf hoc hr

theorem DataSmall_take {data : Bytes} {rs : List Record} {rest : Bytes} (hwf : AllWF rs)
    (h1 : (parseChunk data).1 = sized rs) (h2 : data = encAll rs ++ rest) (hd : DataSmall data) :
    DataSmall (data.take (encAll rs).length) := by
  have : data.take (encAll rs).length = encAll rs := by
    rw [h2]; exact List.take_left' rfl
  rw [this]
  unfold DataSmall
  rw [parse_encAll' hwf, ← h1]
  exact hd

/-- What the remaining iterations need; `FsSmall fs` is `ReadsSmall fs.linkedIds fs`. -/
def ReadsSmall (ids : List Nat) (fs : Fs) : Prop :=
  ∀ id ∈ ids, ∀ f, fs.find id = some f → DataSmall f.data

theorem ReadsSmall.update {ids : List Nat} {fs : Fs} (h : ReadsSmall ids fs) (c : Nat)
    (g : File → File) (hg : ∀ f, (g f).id = f.id)
    (hd : ∀ f, fs.find c = some f → DataSmall f.data → DataSmall (g f).data) :
    ReadsSmall ids (fs.update c g) := by
  intro id hid f' hf'
  by_cases e : id = c
  · subst e
    cases hfc : fs.find id with
    | none => rw [Fs.find_update _ _ _ _ hg, hfc] at hf'; cases hf'
    | some f =>
      rw [Fs.find_update_self hfc g hg] at hf'
      cases hf'
      exact hd f hfc (h id hid f hfc)
  · rw [Fs.find_update_other _ e g hg] at hf'
    exact h id hid f' hf'

theorem openLoop_no_panic (cfg : Cfg) (ids : List Nat) (a : OpenAcc) (hs : StSmall a.sm.st)
    (hf : ReadsSmall ids a.fs) : ∀ m, (openLoop cfg ids a).1 ≠ .panic m := by
  induction ids generalizing a with
  | nil => intro m h; cases h
  | cons id rest ih =>
    -- the records of a chunk that opens are small, so its replay does not panic and ends small
    have hrep : ∀ {f : File} {rs : List Record} {tr : Option Nat}, a.fs.find id = some f →
        openChunk cfg id f.data = .ok ⟨rs, offsetsFrom id (sizes rs), tr⟩ →
        ((∀ m, replay id rs (offsetsFrom id (sizes rs)) a.pre.sm ≠ .panic m) ∧
          ∀ s', replay id rs (offsetsFrom id (sizes rs)) a.pre.sm = .ok s' → StSmall s'.st) ∧
        ∀ sm2, ReadsSmall rest (a.kept id rs tr sm2).fs := by
      intro f rs tr hfind hoc
      obtain ⟨_, rst, hwf, hparse, hdata, rfl, _, htr⟩ := openChunk_ok hoc
      have hfsmall : DataSmall f.data := hf id List.mem_cons_self f hfind
      refine ⟨replay_small id _ _ a.pre.sm (fun r hr => hfsmall (r, (encRecord r).length)
        (hparse ▸ List.mem_map.mpr ⟨r, hr, rfl⟩)) hs, fun sm2 => ?_⟩
      rw [(a.kept_fs_evs id _ tr sm2).1]
      have htail : ReadsSmall rest a.fs := fun id' hid' => hf id' (List.mem_cons_of_mem _ hid')
      refine ReadsSmall.update ?_ id _ (fun _ => rfl) (fun _ _ h => h)
      rcases htr with htr | htr <;> simp only at htr <;> subst htr
      · exact htail
      · refine htail.update id _ (fun _ => rfl) (fun f0 hf0 _ => ?_)
        cases hfind.symm.trans hf0
        exact DataSmall_take hwf hparse hdata hfsmall
    have hstep := openLoop_cons cfg id rest a
    generalize openLoop cfg (id :: rest) a = r at hstep
    cases hstep with
    | replayPanic _ hfind hoc hr => exact fun m => absurd hr ((hrep hfind hoc).1.1 _)
    | @keep _ _ _ sm2 _ hfind hoc hr _ => exact ih _ ((hrep hfind hoc).1.2 sm2 hr) ((hrep hfind hoc).2 _)
    | _ => intro m h; cases h

def prevLastOf (closed : List Closed) : Option LogId :=
  match closed.getLast? with
  | some c => c.state.last
  | none => none

theorem prevLastOf_concat (cs : List Closed) (c : Closed) :
    prevLastOf (cs ++ [c]) = c.state.last := by
  simp [prevLastOf]

/-- How `openStore` ends, given what its loop returned. The `"unreachable"` arm of the model is not among the
cases: a non-empty chunk table has a last entry. -/
inductive OpenEnd : Res OpenAcc × OpenAcc → Res (Store × Worker) × Fs × List Ev → Prop
  | err (k : ErrKind) (a : OpenAcc) : OpenEnd (.err k, a) (.err k, a.fs, a.evs)
  | panic (m : String) (a : OpenAcc) : OpenEnd (.panic m, a) (.panic m, a.fs, a.evs)
  | reuse (x : OpenAcc) {a : OpenAcc} {closed : List Closed} {lastC : Closed} :
      a.sm.closed = closed ++ [lastC] → a.lastTruncated = false →
      OpenEnd (.ok x, a)
        (.ok ({ a.sm with closed := closed, openOffsets := lastC.offsets, pending := [] },
          { files := [⟨lastC.id, prevLastOf closed⟩] }), a.fs, a.evs)
  | exists (x : OpenAcc) {a : OpenAcc} {n : Nat} : (a.lastTruncated = true ∨ a.sm.closed = []) →
      a.prevEnd.getD 0 = n → a.fs.has n = true →
      OpenEnd (.ok x, a) (.err .exists, a.fs, a.evs ++ [.create "o" n false])
  | fresh (x : OpenAcc) {a : OpenAcc} {n : Nat} : (a.lastTruncated = true ∨ a.sm.closed = []) →
      a.prevEnd.getD 0 = n → a.fs.has n = false →
      OpenEnd (.ok x, a)
        (.ok (({ a.sm with openOffsets := [n, n + (encRecord (.state a.sm.st)).length],
                           pending := [] } : Store),
              { files := [⟨n, prevLastOf a.sm.closed⟩] }),
          (a.fs.create n).write n (encRecord (.state a.sm.st)),
          a.evs ++ [.create "o" n true, .write "o" n (encRecord (.state a.sm.st)) true])

theorem openStore_of_err {cfg : Cfg} {fs : Fs} {k : ErrKind} {a : OpenAcc}
    (hl : openLoop cfg fs.linkedIds { sm := emptyStore cfg, fs := fs } = (.err k, a)) :
    openStore cfg fs = (.err k, a.fs, a.evs) := by
  unfold openStore; simp only [hl]

theorem openStore_fresh {cfg : Cfg} {fs : Fs} {x a : OpenAcc} {n : Nat}
    (hl : openLoop cfg fs.linkedIds { sm := emptyStore cfg, fs := fs } = (.ok x, a))
    (ht : a.lastTruncated = true ∨ a.sm.closed = []) (hp : a.prevEnd.getD 0 = n)
    (hh : a.fs.has n = false) :
    openStore cfg fs =
      (.ok (({ a.sm with openOffsets := [n, n + (encRecord (.state a.sm.st)).length],
                         pending := [] } : Store),
            { files := [⟨n, prevLastOf a.sm.closed⟩] }),
        (a.fs.create n).write n (encRecord (.state a.sm.st)),
        a.evs ++ [.create "o" n true, .write "o" n (encRecord (.state a.sm.st)) true]) := by
  unfold openStore
  simp only [hl]
  have hre : (!a.sm.closed.isEmpty && !a.lastTruncated) = false := by
    rcases ht with ht | ht
    · rw [ht]; simp
    · rw [ht]; simp
  rw [hre]
  simp only [Bool.false_eq_true, if_false, hp, hh]
  unfold prevLastOf
  cases a.sm.closed.getLast? <;> rfl

theorem openStore_of_loads (cfg : Cfg) {fs fs' : Fs} {evs : List Ev} {x a' : OpenAcc}
    {closed : List Closed} {lastC : Closed}
    (hloop : openLoop cfg fs.linkedIds { sm := emptyStore cfg, fs := fs } = (.ok x, a'))
    (hcl : a'.sm.closed = closed ++ [lastC]) (hlt : a'.lastTruncated = false)
    (hfs' : a'.fs = fs') (hevs' : a'.evs = evs) :
    openStore cfg fs =
      (.ok ({ a'.sm with closed := closed, openOffsets := lastC.offsets, pending := [] },
        { files := [⟨lastC.id, prevLastOf closed⟩] }), fs', evs) := by
  unfold openStore
  simp only [hloop]
  have hre : (!a'.sm.closed.isEmpty && !a'.lastTruncated) = true := by
    rw [hcl, hlt]; simp
  rw [hre]
  simp only [if_true]
  have hgl : a'.sm.closed.getLast? = some lastC := by rw [hcl]; simp
  have hdl : a'.sm.closed.dropLast = closed := by rw [hcl]; simp
  rw [hgl]
  simp only [hdl, hfs', hevs']
  rfl

theorem openStore_end (cfg : Cfg) (fs : Fs) :
    OpenEnd (openLoop cfg fs.linkedIds { sm := emptyStore cfg, fs := fs }) (openStore cfg fs) := by
  rcases hl : openLoop cfg fs.linkedIds { sm := emptyStore cfg, fs := fs } with ⟨x | k | m, a⟩
  · have hfresh : (a.lastTruncated = true ∨ a.sm.closed = []) → OpenEnd (.ok x, a) (openStore cfg fs) := by
      intro ht
      cases hh : a.fs.has (a.prevEnd.getD 0) with
      | false => rw [openStore_fresh hl ht rfl hh]; exact .fresh x ht rfl hh
      | true =>
        have : openStore cfg fs
            = (.err .exists, a.fs, a.evs ++ [.create "o" (a.prevEnd.getD 0) false]) := by
          unfold openStore
          rcases ht with ht | ht <;> simp [hl, ht, hh]
        rw [this]; exact .exists x ht rfl hh
    cases hlt : a.lastTruncated with
    | true => exact hfresh (.inl hlt)
    | false =>
      rcases List.eq_nil_or_concat a.sm.closed with hc | ⟨closed, lastC, hc⟩
      · exact hfresh (.inr hc)
      · rw [List.concat_eq_append] at hc
        rw [openStore_of_loads cfg hl hc hlt rfl rfl]; exact .reuse x hc hlt
  · rw [openStore_of_err hl]; exact .err k a
  · have : openStore cfg fs = (.panic m, a.fs, a.evs) := by unfold openStore; simp only [hl]
    rw [this]; exact .panic m a

theorem openStore_ok_shape {cfg : Cfg} {fs fs' : Fs} {s' : Store} {w' : Worker} {evs : List Ev}
    (h : openStore cfg fs = (.ok (s', w'), fs', evs)) :
    ∃ x a, openLoop cfg fs.linkedIds { sm := emptyStore cfg, fs := fs } = (.ok x, a) ∧
      s'.cache = a.sm.cache ∧ s'.st = a.sm.st ∧ s'.log = a.sm.log ∧
      w' = { files := [⟨s'.openId, prevLastOf s'.closed⟩] } ∧
      ((∃ lastC, a.sm.closed.getLast? = some lastC ∧ a.lastTruncated = false ∧
          s'.closed = a.sm.closed.dropLast ∧ s'.openId = lastC.id) ∨
        (s'.closed = a.sm.closed ∧ s'.openId = a.prevEnd.getD 0)) := by
  have he := openStore_end cfg fs
  rw [h] at he
  generalize openLoop cfg fs.linkedIds { sm := emptyStore cfg, fs := fs } = l at he ⊢
  cases he with
  | @reuse x a closed lastC hc hlt =>
    exact ⟨x, a, rfl, rfl, rfl, rfl, rfl, .inl ⟨lastC, by rw [hc]; simp, hlt, by rw [hc]; simp, rfl⟩⟩
  | fresh x _ hp _ => exact ⟨x, _, rfl, rfl, rfl, rfl, rfl, .inr ⟨rfl, hp.symm⟩⟩

theorem openStore_no_panic (cfg : Cfg) (fs : Fs) (h : FsSmall fs) :
    ∀ m, (openStore cfg fs).1 ≠ .panic m := by
  intro m hm
  have hl := openLoop_no_panic cfg fs.linkedIds { sm := emptyStore cfg, fs := fs }
    ⟨trivial, trivial⟩ h
  have he := openStore_end cfg fs
  generalize openLoop cfg fs.linkedIds { sm := emptyStore cfg, fs := fs } = l at he hl
  generalize openStore cfg fs = r at he hm
  cases he with
  | panic m' a => exact hl m' rfl
  | _ => cases hm

/-- What a crash can leave behind the last complete record: part of a record, or zero bytes (the file was
extended and the data never reached the disk). -/
def TornTail (tail : Bytes) : Prop :=
  (tail ≠ [] ∧ ∃ r t, r.WF ∧ t ≠ [] ∧ tail ++ t = encRecord r) ∨
  (∃ m, 1 ≤ m ∧ tail = List.replicate m 0)

theorem TornTail.ne_nil {tail : Bytes} (h : TornTail tail) : tail ≠ [] := by
  rcases h with ⟨hne, _⟩ | ⟨m, hm, rfl⟩
  · exact hne
  · exact List.ne_nil_of_length_pos (by rw [List.length_replicate]; exact hm)

def tailTrunc (rs : List Record) (tail : Bytes) : Option Nat :=
  if tail = [] then none else some (encAll rs).length

theorem openChunk_tail {cfg : Cfg} {rs : List Record} (hwf : AllWF rs) {tail : Bytes}
    (h : tail = [] ∨ (cfg.truncate = true ∧ TornTail tail)) (id : Nat) :
    openChunk cfg id (encAll rs ++ tail) = .ok ⟨rs, offsetsFrom id (sizes rs), tailTrunc rs tail⟩ := by
  rcases h with rfl | ⟨ht, htail⟩
  · rw [List.append_nil, openChunk_of_parse (parse_encAll' hwf)]; rfl
  · rw [tailTrunc, if_neg htail.ne_nil]
    rcases htail with ⟨hne, r, t, hr, htne, e⟩ | ⟨m, hm, rfl⟩
    · rw [openChunk_of_parse (parse_cut' hwf hr hne ⟨t, htne, e⟩)]
      simp [chunkResult, ht]
    · rw [openChunk_of_parse (parse_zero_tail' hwf hm)]
      by_cases h28 : m < 28 <;> simp [h28, chunkResult, ht, allZero_replicate]

theorem openChunk_clean (cfg : Cfg) (id : Nat) {rs : List Record} (hwf : AllWF rs) :
    openChunk cfg id (encAll rs) = .ok ⟨rs, offsetsFrom id (sizes rs), none⟩ := by
  have := openChunk_tail (cfg := cfg) hwf (.inl rfl) id
  rwa [List.append_nil] at this

/-- A newest file that `open` removes and recreates: no byte, or the beginning of its first record. (A file of
zero bytes only is dropped too, `openChunk_tail` at `rs := []`, but is not `Headless`.) -/
def Headless (cfg : Cfg) (data : Bytes) : Prop :=
  data = [] ∨ (cfg.truncate = true ∧ data ≠ [] ∧
    ∃ r t, r.WF ∧ t ≠ [] ∧ data ++ t = encRecord r)

theorem openChunk_headless {cfg : Cfg} {data : Bytes} (h : Headless cfg data) (id : Nat) :
    openChunk cfg id data = .ok ⟨[], [id], tailTrunc [] data⟩ :=
  openChunk_tail (rs := []) AllWF.nil (h.imp_right fun ⟨ht, k⟩ => ⟨ht, .inl k⟩) id

/-- `a.kept id rs none sm2` (`OpenAcc.loaded_eq_kept`): the accumulator after a chunk that was not cut; `Loads` and
`LoadStep` speak of it. -/
def OpenAcc.loaded (a : OpenAcc) (id : Nat) (rs : List Record) (sm2 : Store) : OpenAcc :=
  { a.pre.synced id with
    sm := { sm2 with closed := sm2.closed ++ [⟨offsetsFrom id (sizes rs), sm2.st⟩] },
    prevEnd := some (lastOff (offsetsFrom id (sizes rs))),
    lastLogId := sm2.st.last,
    lastTruncated := false }

theorem OpenAcc.loaded_eq_kept (a : OpenAcc) (id : Nat) (rs : List Record) (sm2 : Store) :
    a.loaded id rs sm2 = a.kept id rs none sm2 := rfl

theorem OpenAcc.loaded_prevEnd (a : OpenAcc) (id : Nat) (rs : List Record) (sm2 : Store) :
    (a.loaded id rs sm2).prevEnd = some (id + (encAll rs).length) := by
  simp only [OpenAcc.loaded, lastOff_sized]

/-- The loop takes `a` to `a'` over the chunks `ids`, each an undamaged file that abuts and replays. A chunk
without a record is not among them (`rs ≠ []`): the loop removes such a chunk if it is the newest and closes it
empty otherwise. -/
inductive Loads (cfg : Cfg) : List Nat → OpenAcc → OpenAcc → Prop
  | nil (a : OpenAcc) : Loads cfg [] a a
  | cons {id : Nat} {rest : List Nat} {a a' : OpenAcc} {f : File} {rs : List Record}
      {sm2 : Store} :
      gapCheck a id = false → a.fs.find id = some f → f.data = encAll rs → AllWF rs → rs ≠ [] →
      replay id rs (offsetsFrom id (sizes rs)) a.pre.sm = .ok sm2 →
      Loads cfg rest (a.loaded id rs sm2) a' → Loads cfg (id :: rest) a a'

theorem openLoop_clean_step {cfg : Cfg} {a : OpenAcc} {id : Nat} {f : File} {rs : List Record}
    {sm2 : Store} (more : List Nat)
    (hg : gapCheck a id = false) (hf : a.fs.find id = some f) (hd : f.data = encAll rs)
    (hwf : AllWF rs) (hne : rs ≠ [] ∨ more ≠ [])
    (hr : replay id rs (offsetsFrom id (sizes rs)) a.pre.sm = .ok sm2) :
    openLoop cfg (id :: more) a = openLoop cfg more (a.loaded id rs sm2) := by
  rw [openLoop_step more hg hf (hd ▸ openChunk_clean cfg id hwf) hr,
    if_neg (fun h => hne.elim (· h.1) (· h.2))]
  rfl

theorem Loads.openLoop_append {cfg : Cfg} {ids : List Nat} {a a' : OpenAcc}
    (h : Loads cfg ids a a') (more : List Nat) :
    openLoop cfg (ids ++ more) a = openLoop cfg more a' := by
  induction h with
  | nil a => rfl
  | cons hg hf hd hwf hne hr _ ih =>
    rw [List.cons_append, openLoop_clean_step _ hg hf hd hwf (Or.inl hne) hr, ih]

/-- D15: `open` syncs each chunk it keeps, once. -/
theorem Loads.fs_evs {cfg : Cfg} {ids : List Nat} {a a' : OpenAcc} (h : Loads cfg ids a a') :
    a'.fs = a.fs.syncAll ids ∧ a'.evs = a.evs ++ syncEvs ids := by
  induction h with
  | nil a => exact ⟨rfl, (List.append_nil _).symm⟩
  | cons _ _ _ _ _ _ _ ih =>
    rw [ih.1, ih.2, Fs.syncAll_cons, syncEvs_cons]
    refine ⟨rfl, ?_⟩
    simp only [OpenAcc.loaded, OpenAcc.synced, OpenAcc.pre, List.append_assoc, List.singleton_append]

theorem Loads.find {cfg : Cfg} {ids : List Nat} {a a' : OpenAcc} (h : Loads cfg ids a a') {i : Nat}
    {f : File} (hf : a.fs.find i = some f) :
    ∃ f', a'.fs.find i = some f' ∧ f'.data = f.data ∧ f'.id = f.id ∧ f'.linked = f.linked :=
  h.fs_evs.1 ▸ Fs.find_syncAll_some ids hf

theorem Loads.openLoop_last {cfg : Cfg} {ids : List Nat} {a a1 : OpenAcc} (h : Loads cfg ids a a1)
    {i : Nat} {f : File} {rs : List Record} {tr : Option Nat} {sm2 : Store}
    (hg : gapCheck a1 i = false) (hf : a.fs.find i = some f)
    (hoc : openChunk cfg i f.data = .ok ⟨rs, offsetsFrom i (sizes rs), tr⟩)
    (hr : replay i rs (offsetsFrom i (sizes rs)) a1.pre.sm = .ok sm2) :
    openLoop cfg (ids ++ [i]) a =
      if rs = [] then (.ok (a1.dropHeadless i tr), a1.dropHeadless i tr)
      else (.ok (a1.kept i rs tr sm2), a1.kept i rs tr sm2) := by
  obtain ⟨f1, hf1, hd1, _⟩ := h.find hf
  rw [h.openLoop_append, openLoop_step [] hg hf1 (hd1 ▸ hoc) hr]
  simp only [and_true]
  split <;> rfl

theorem Loads.openLoop_err {cfg : Cfg} {ids : List Nat} {a a1 : OpenAcc} (h : Loads cfg ids a a1)
    {i : Nat} {f : File} {k : ErrKind} (more : List Nat)
    (hg : gapCheck a1 i = false) (hf : a.fs.find i = some f)
    (hoc : openChunk cfg i f.data = .error k) :
    openLoop cfg (ids ++ i :: more) a = (.err k, a1.pre) := by
  obtain ⟨f1, hf1, hd1, _⟩ := h.find hf
  rw [h.openLoop_append, openLoop_nogap cfg _ _ a1 hg]
  simp only [hf1, hd1, hoc]

theorem openLoop_headless {cfg : Cfg} {a : OpenAcc} {id : Nat} {f : File}
    (hg : gapCheck a id = false) (hf : a.fs.find id = some f) (hd : Headless cfg f.data) :
    openLoop cfg [id] a = (.ok (a.dropHeadless id (tailTrunc [] f.data)),
      a.dropHeadless id (tailTrunc [] f.data)) :=
  (Loads.nil a).openLoop_last hg hf (openChunk_headless hd id) rfl

theorem encAll_length_pos {rs : List Record} (h : rs ≠ []) : 0 < (encAll rs).length := by
  have := encAll_length_ge rs
  cases rs with
  | nil => exact absurd rfl h
  | cons _ _ => simp only [List.length_cons] at this; omega

theorem openStore_torn_newest {cfg : Cfg} {fs : Fs} {ids : List Nat} {i : Nat} {a' : OpenAcc}
    {f : File} {rs : List Record} {tail : Bytes} {sm2 : Store} (ht : cfg.truncate = true)
    (hids : fs.linkedIds = ids ++ [i]) (hload : Loads cfg ids { sm := emptyStore cfg, fs := fs } a')
    (habut : gapCheck a' i = false) (hfind : fs.find i = some f) (hd : f.data = encAll rs ++ tail)
    (hwf : AllWF rs) (hne : rs ≠ []) (htail : TornTail tail)
    (hr : replay i rs (offsetsFrom i (sizes rs)) a'.pre.sm = .ok sm2)
    {len n : Nat} {head : Bytes} (hlen : len = (encAll rs).length) (hn : n = i + len)
    (hhead : head = encRecord (.state sm2.st)) (hfree : fs.has n = false) :
    openStore cfg fs =
      (.ok ({ sm2 with closed := sm2.closed ++ [⟨offsetsFrom i (sizes rs), sm2.st⟩],
                       openOffsets := [n, n + head.length], pending := [] },
            { files := [⟨n, sm2.st.last⟩] }),
        ((((fs.syncAll ids).truncate i len).sync i).create n).write n head,
        syncEvs ids ++ [.trunc "o" i len, .sync "o" i true, .sync "o" i true, .create "o" n true,
          .write "o" n head true]) := by
  subst hlen hn hhead
  have hloop := hload.openLoop_last habut hfind (hd ▸ openChunk_tail hwf (.inr ⟨ht, htail⟩) i) hr
  rw [← hids, if_neg hne, tailTrunc, if_neg htail.ne_nil] at hloop
  obtain ⟨hfs, hevs⟩ := a'.kept_fs_evs i rs (some (encAll rs).length) sm2
  rw [hload.fs_evs.1, Fs.cut] at hfs
  rw [hload.fs_evs.2, cutEvs, List.nil_append] at hevs
  rw [openStore_fresh (n := i + (encAll rs).length) hloop (Or.inl rfl)
    (by simp only [OpenAcc.kept, lastOff_sized, Option.getD_some])
    (by rw [hfs, Fs.has_sync, Fs.has_truncate, Fs.has_syncAll]; exact hfree), hfs, hevs]
  simp only [OpenAcc.kept, prevLastOf_concat, List.append_assoc, List.cons_append, List.nil_append]

theorem openStore_clean_newest {cfg : Cfg} {fs : Fs} {ids : List Nat} {i : Nat} {a' : OpenAcc}
    {f : File} {rs : List Record} {sm2 : Store} (hids : fs.linkedIds = ids ++ [i])
    (hload : Loads cfg ids { sm := emptyStore cfg, fs := fs } a') (habut : gapCheck a' i = false)
    (hfind : fs.find i = some f) (hd : f.data = encAll rs) (hwf : AllWF rs) (hne : rs ≠ [])
    (hr : replay i rs (offsetsFrom i (sizes rs)) a'.pre.sm = .ok sm2) :
    openStore cfg fs =
      (.ok ({ sm2 with openOffsets := offsetsFrom i (sizes rs), pending := [] },
            { files := [⟨i, prevLastOf sm2.closed⟩] }), fs.syncAll (ids ++ [i]), syncEvs (ids ++ [i])) := by
  have hloop := hload.openLoop_last habut hfind (hd ▸ openChunk_clean cfg i hwf) hr
  rw [← hids, if_neg hne] at hloop
  obtain ⟨hfs, hevs⟩ := a'.kept_fs_evs i rs none sm2
  rw [hload.fs_evs.1, Fs.cut, ← Fs.syncAll_concat] at hfs
  rw [hload.fs_evs.2, cutEvs, List.append_nil, List.nil_append, ← syncEvs_concat] at hevs
  rw [openStore_of_loads cfg hloop rfl rfl hfs hevs]
  cases rs <;> rfl

theorem find_torn_newest {fs : Fs} {i : Nat} {f : File} (hf : fs.find i = some f) {n : Nat}
    (hn : 0 < n) (head : Bytes) :
    ((((fs.truncate i n).sync i).create (i + n)).write (i + n) head).find i
      = some { f with data := f.data.take n, durable := (f.data.take n).length } ∧
    ((((fs.truncate i n).sync i).create (i + n)).write (i + n) head).find (i + n)
      = some { id := i + n, data := head, durable := 0, linked := true } ∧
    ∀ id, id ≠ i → id ≠ i + n →
      ((((fs.truncate i n).sync i).create (i + n)).write (i + n) head).find id = fs.find id := by
  obtain ⟨hnew, hother⟩ := find_create_write ((fs.truncate i n).sync i) (i + n) head
  refine ⟨?_, hnew, fun id h1 h2 => ?_⟩
  · have h0 := Fs.find_truncate_self hf n
    rw [hother i (by omega)]
    exact Fs.find_update_self h0 _ (fun _ => rfl)
  · have h3 : ((fs.truncate i n).sync i).find id = (fs.truncate i n).find id :=
      Fs.find_update_other _ h1 _ (fun _ => rfl)
    rw [hother id h2, h3]
    exact Fs.find_truncate_other _ h1 n

theorem pre_emptyStore (cfg : Cfg) (fs : Fs) :
    (OpenAcc.pre { sm := emptyStore cfg, fs := fs }).sm = emptyStore cfg := rfl

end RaftLog
