/-
C15, middle clause (over a limit, only keys above the evictable boundary are resident), for ONE public
write call: what it leaves behind in the cache. An `append es` batch —
accepted or refused at its k-th entry, with chunk rotations in between — leaves `InsertedC15b` (transitive,
so it passes along the batch) or the store untouched; the five other ops leave `CacheShrinkC15b`.
-/
import RaftLogModel.Proofs.StoreCache
namespace RaftLog

theorem Cache.insert_lastEvictable_C15b (c : Cache) (k : LogId) (v : Bytes) :
    (c.insert k v).lastEvictable = c.lastEvictable := rfl
theorem Cache.insert_maxItems_C15b (c : Cache) (k : LogId) (v : Bytes) :
    (c.insert k v).maxItems = c.maxItems := rfl
theorem Cache.insert_capacity_C15b (c : Cache) (k : LogId) (v : Bytes) :
    (c.insert k v).capacity = c.capacity := rfl

/-- At least one entry was inserted since `s` (hence `trans`); `pinned` is the C15 clause for `s'` alone:
over a limit, only keys above the boundary are resident. -/
structure InsertedC15b (s s' : Store) : Prop where
  boundary : s'.cache.lastEvictable = s.cache.lastEvictable
  maxItems : s'.cache.maxItems = s.cache.maxItems
  capacity : s'.cache.capacity = s.cache.capacity
  last_lt : optLt s.st.last s'.st.last = true
  pinned : s'.cache.items.length > s'.cache.maxItems ∨ s'.cache.size > s'.cache.capacity →
    KeysGt s'.cache.items s'.cache.lastEvictable

theorem InsertedC15b.trans {s s1 s2 : Store} (h1 : InsertedC15b s s1) (h2 : InsertedC15b s1 s2) :
    InsertedC15b s s2 :=
  ⟨h2.boundary.trans h1.boundary, h2.maxItems.trans h1.maxItems, h2.capacity.trans h1.capacity,
   optLt_trans h1.last_lt h2.last_lt, h2.pinned⟩

theorem InsertedC15b.last_ne {s s' : Store} (h : InsertedC15b s s') : s'.st.last ≠ s.st.last :=
  optLt_ne h.last_lt

theorem InsertedC15b.ne {s s' : Store} (h : InsertedC15b s s') : s' ≠ s := by
  intro e; subst e; exact h.last_ne rfl

theorem appendAndApply_append_rej_C15b (s : Store) (fsHas : Nat → Bool) (id : LogId) (p : Bytes)
    (hrej : ∀ st', s.st.apply (.append id p) ≠ .ok st') :
    (s.appendAndApply fsHas (.append id p)).2.1 = s ∧
      ∀ seg, (s.appendAndApply fsHas (.append id p)).1 ≠ .ok seg := by
  refine Store.appendAndApply_elim (s.appendAndApply fsHas (.append id p)) rfl ?_ ?_ ?_ ?_
  · exact fun _ _ => ⟨rfl, (fun _ h => nomatch h)⟩
  · exact fun _ _ => ⟨rfl, (fun _ h => nomatch h)⟩
  · exact fun st' hst _ => absurd hst (hrej st')
  · exact fun st' _ hst _ _ _ => absurd hst (hrej st')

theorem InsertedC15b.applied {s : Store} {id : LogId} {p : Bytes} {st' : RState} (c : Nat)
    (hinv : CacheInv s) (hst : s.st.apply (.append id p) = .ok st') :
    InsertedC15b s (s.appliedAt c (.append id p) st') := by
  obtain ⟨hl, hnle⟩ := apply_append_last hst
  exact ⟨rfl, rfl, rfl, by simp only [Store.appliedAt, hl, optLt_iff_not_le]; exact hnle,
    Cache.insert_over_limit s.cache id p hinv.ok (items_lt_of_gt_last hinv hnle)⟩

theorem InsertedC15b.closeFull {s s' : Store} (h : InsertedC15b s s') : InsertedC15b s s'.closeFull.1 :=
  Store.closeFull_store (I := InsertedC15b s)
    (fun h => ⟨h.boundary, h.maxItems, h.capacity, h.last_lt, h.pinned⟩) h

/-- An accepted record stays inserted whatever `try_close_full_chunk` does afterwards (nothing, a rotation, or a
failed `create_new`, in which case the CALL reports an error but the entry is resident). -/
theorem InsertedC15b.moves (s0 : Store) :
    Moves (fun s _ => CacheInv s ∧ (s = s0 ∨ InsertedC15b s0 s)) fun _ r => ∃ id p, r = .append id p := by
  have key : ∀ {s : Store} {id p st'} (c : Nat), CacheInv s ∧ (s = s0 ∨ InsertedC15b s0 s) →
      s.st.apply (.append id p) = .ok st' → InsertedC15b s0 (s.appliedAt c (.append id p) st') :=
    fun c h hst => h.2.elim (· ▸ .applied c h.1 hst) (·.trans (.applied c h.1 hst))
  refine ⟨fun c _ h hg hst => ?_, fun c _ h hg hst _ => ?_, fun _ hg hn => ?_⟩
  · obtain ⟨id, p, rfl⟩ := hg
    have hc := h.1.applied (c := c) hst (fun _ hx => nomatch hx)
    exact ⟨Store.closeFull_store (I := CacheInv) (fun k => k.of_fields rfl rfl rfl) hc, .inr (key c h hst).closeFull⟩
  · obtain ⟨id, p, rfl⟩ := hg
    exact ⟨h.1.applied (c := c) hst (fun _ hx => nomatch hx), .inr (key c h hst)⟩
  · obtain ⟨id, p, rfl⟩ := hg
    simp [Store.indexed, Store.applyIndex] at hn

/-- `InsertedC15b.moves` yields "untouched or inserted"; for an ACCEPTED record "untouched" must go, which
only the walk of `appendAndApply` shows. -/
theorem appendAndApply_append_acc_C15b {s : Store} (fsHas : Nat → Bool) (id : LogId) (p : Bytes)
    (st' : RState) (hinv : CacheInv s) (hst : s.st.apply (.append id p) = .ok st') :
    InsertedC15b s (s.appendAndApply fsHas (.append id p)).2.1 := by
  refine Store.appendAndApply_elim (s.appendAndApply fsHas (.append id p)) rfl ?_ ?_ ?_ ?_
  · exact fun k hk => by rw [hk] at hst; cases hst
  · exact fun m hm => by rw [hm] at hst; cases hst
  · exact fun _ _ hn => by simp [Store.indexed, Store.applyIndex] at hn
  · intro st'' s2 hst'' hs2 s3 hs3
    cases hst.symm.trans hst''
    have hI : InsertedC15b s s3 := by
      rw [hs3, Store.appliedAt_of_indexed st' hs2]; exact .applied _ hinv hst
    exact ⟨fun _ => hI, fun _ _ => hI, fun hf _ => Store.closeFull_of_full hf ▸ hI.closeFull⟩

theorem appendBatch_C15b (fsHas : Nat → Bool) (es : List (LogId × Bytes)) (s : Store) (seg : Seg)
    (effs : List Eff) (hinv : CacheInv s) :
    (Store.appendBatch fsHas es s seg effs).2.1 = s ∨
    InsertedC15b s (Store.appendBatch fsHas es s seg effs).2.1 :=
  ((InsertedC15b.moves s).appendBatch es (fun _ x _ _ => ⟨x.1, x.2, rfl⟩) fsHas s seg effs
    ⟨hinv, .inl rfl⟩).2

theorem appendBatch_first_acc_C15b (fsHas : Nat → Bool) (id : LogId) (p : Bytes)
    (rest : List (LogId × Bytes)) (s : Store) (seg : Seg) (effs : List Eff) (st' : RState)
    (hinv : CacheInv s) (hst : s.st.apply (.append id p) = .ok st')
    (hidx : id.index + 1 ≠ U64) :
    InsertedC15b s (Store.appendBatch fsHas ((id, p) :: rest) s seg effs).2.1 := by
  rw [appendBatch_cons_small_D12 _ _ _ _ _ _ _ hidx]
  have h1 := appendAndApply_append_acc_C15b fsHas id p st' hinv hst
  have hi1 := appendAndApply_cacheInv fsHas (.append id p) hinv (by intro x hx; cases hx)
  split
  · rename_i seg' s' e' heq
    rw [heq] at h1 hi1
    rcases appendBatch_C15b (fun i => fsHas i || e'.any (fun e => e == .create i)) rest s' seg' (effs ++ e') hi1 with h2 | h2
    · rw [h2]; exact h1
    · exact h1.trans h2
  · rename_i k s' e' heq; rw [heq] at h1; exact h1
  · rename_i m s' e' heq; rw [heq] at h1; exact h1

theorem appendBatch_first_rej_C15b (fsHas : Nat → Bool) (id : LogId) (p : Bytes)
    (rest : List (LogId × Bytes)) (s : Store) (seg : Seg) (effs : List Eff)
    (hrej : ∀ st', s.st.apply (.append id p) ≠ .ok st') :
    (Store.appendBatch fsHas ((id, p) :: rest) s seg effs).2.1 = s := by
  by_cases hidx : id.index + 1 = U64
  · rw [appendBatch_cons_refused_D12 _ _ _ _ _ _ _ hidx]
  rw [appendBatch_cons_small_D12 _ _ _ _ _ _ _ hidx]
  obtain ⟨h1, hne⟩ := appendAndApply_append_rej_C15b s fsHas id p hrej
  split
  · rename_i seg' s' e' heq
    rw [heq] at hne; exact absurd rfl (hne seg')
  · rename_i k s' e' heq; rw [heq] at h1; exact h1
  · rename_i m s' e' heq; rw [heq] at h1; exact h1

theorem call_append_C15b {s : Store} (fsHas : Nat → Bool) (es : List (LogId × Bytes))
    (hinv : CacheInv s) :
    (s.call fsHas (.append es)).2.1 = s ∨ InsertedC15b s (s.call fsHas (.append es)).2.1 :=
  ((InsertedC15b.moves s).call fsHas (.append es) (fun _ hr => nomatch hr)
    (fun _ _ _ x _ _ => ⟨x.1, x.2, rfl⟩) (fun _ e => nomatch e) ⟨hinv, .inl rfl⟩).2

structure CacheShrinkC15b (c c' : Cache) : Prop where
  sub : c'.items.Sublist c.items
  boundary : c'.lastEvictable = c.lastEvictable
  maxItems : c'.maxItems = c.maxItems
  capacity : c'.capacity = c.capacity

theorem CacheShrinkC15b.refl (c : Cache) : CacheShrinkC15b c c :=
  ⟨List.Sublist.refl _, rfl, rfl, rfl⟩

theorem CacheShrinkC15b.of_eq {c c' : Cache} (h : c' = c) : CacheShrinkC15b c c' := by
  subst h; exact CacheShrinkC15b.refl _

theorem CacheShrinkC15b.trans {a b c : Cache} (h1 : CacheShrinkC15b a b) (h2 : CacheShrinkC15b b c) :
    CacheShrinkC15b a c :=
  ⟨h2.sub.trans h1.sub, h2.boundary.trans h1.boundary, h2.maxItems.trans h1.maxItems,
    h2.capacity.trans h1.capacity⟩

theorem idxCache_nonappend_C15b {c : Cache} {r : Record} (hok : c.OK) (hr : ∀ id p, r ≠ .append id p) :
    CacheShrinkC15b c (idxCache r c) ∧ (idxCache r c).OK := by
  cases r with
  | append id p => exact absurd rfl (hr id p)
  | truncateAfter o =>
    cases o with
    | none => exact ⟨⟨List.nil_sublist _, rfl, rfl, rfl⟩, Cache.clear_ok _⟩
    | some id =>
      obtain ⟨post, hpost⟩ := truncateAfter_items_prefix id c hok
      exact ⟨⟨by show List.Sublist _ c.items; rw [hpost]; exact List.sublist_append_left _ _, rfl, rfl, rfl⟩,
        Cache.truncateAfter_ok id hok⟩
  | purgeUpto id =>
    obtain ⟨pre, hpre⟩ := purgeUpto_items_suffix id c hok
    exact ⟨⟨by show List.Sublist _ c.items; rw [hpre]; exact List.sublist_append_right _ _, rfl, rfl, rfl⟩,
      Cache.purgeUpto_ok id hok⟩
  | _ => exact ⟨.refl _, hok⟩

theorem CacheShrinkC15b.moves (c0 : Cache) :
    Moves (fun s _ => CacheShrinkC15b c0 s.cache ∧ s.cache.OK) fun _ r => ∀ id p, r ≠ .append id p :=
  .of_store_at (fun _ h hr _ => ⟨h.1.trans (idxCache_nonappend_C15b h.2 hr).1, (idxCache_nonappend_C15b h.2 hr).2⟩)
    (fun h => h) (fun h _ _ => h)

def Op.nonAppendC15b : Op → Bool
  | .append _ => false
  | _ => true

theorem call_nonappend_C15b {s : Store} (fsHas : Nat → Bool) (op : Op) (hok : s.cache.OK)
    (hop : op.nonAppendC15b = true) : CacheShrinkC15b s.cache (s.call fsHas op).2.1.cache :=
  ((CacheShrinkC15b.moves s.cache).call fsHas op (fun _ hr => hr.not_append)
    (fun _ e => by subst e; cases hop) (fun _ _ h => h) ⟨.refl _, hok⟩).1

theorem call_meta_cache_C15b (s : Store) (fsHas : Nat → Bool) (op : Op)
    (hop : (∃ v, op = .saveVote v) ∨ (∃ id, op = .commit id) ∨ (∃ d, op = .saveUserData d)) :
    (s.call fsHas op).2.1.cache = s.cache := by
  have hM : Moves (fun s' _ => s'.cache = s.cache) fun _ r => ∀ c, idxCache r c = c :=
    .of_store_at (fun _ h hr _ => (hr _).trans h) (fun h => h) (fun h _ _ => h)
  rcases hop with ⟨v, rfl⟩ | ⟨id, rfl⟩ | ⟨d, rfl⟩ <;>
    exact hM.call fsHas _ (fun _ hr => by cases hr; exact fun _ => rfl) (fun _ e => by cases e)
      (fun _ e => by cases e) rfl

/-- Every public call keeps boundary and limits (the caller side never
publishes a boundary: a rotation only SENDS `appendFile`). -/
theorem call_boundary_limits_C15b {s : Store} (fsHas : Nat → Bool) (op : Op) (hinv : CacheInv s) :
    (s.call fsHas op).2.1.cache.lastEvictable = s.cache.lastEvictable ∧
    (s.call fsHas op).2.1.cache.maxItems = s.cache.maxItems ∧
    (s.call fsHas op).2.1.cache.capacity = s.cache.capacity := by
  by_cases hop : op.nonAppendC15b = true
  · have := call_nonappend_C15b fsHas op hinv.ok hop
    exact ⟨this.boundary, this.maxItems, this.capacity⟩
  · cases op with
    | append es =>
      rcases call_append_C15b fsHas es hinv with h | h
      · rw [h]; exact ⟨rfl, rfl, rfl⟩
      · exact ⟨h.boundary, h.maxItems, h.capacity⟩
    | _ => exact absurd rfl hop

end RaftLog
