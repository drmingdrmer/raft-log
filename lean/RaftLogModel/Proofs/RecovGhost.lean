/-
C05: crash images of reachable directories. The chunks of the ghost store (dropped chunks whose files are
still linked, then the live chunks) with their record lists describe every crash image; without a torn
predecessor (`NoTornPredecessor`) the hypotheses of `openStore_image_C5b` hold (`ghost_prep_C5b`).
-/
import RaftLogModel.Proofs.RecovInv
import RaftLogModel.Proofs.GhostHist
import RaftLogModel.Proofs.SmallJournalSys
namespace RaftLog

theorem CrashImage.durable_C5b {fs img : Fs} (h : CrashImage fs img) :
    ∀ g ∈ img, g.linked = true ∧ g.durable = g.data.length := by
  unfold CrashImage at h
  generalize fs.filter (fun f => f.linked) = l at h
  induction h with
  | nil => intro g hg; cases hg
  | @cons a b l1 l2 hab _ ih =>
    intro g hg
    rcases List.mem_cons.mp hg with e | e
    · subst e; exact ⟨hab.2.1, hab.2.2.1⟩
    · exact ih g e

theorem CrashImage.ids_nodup_C5b {fs img : Fs} (h : CrashImage fs img) (hn : (Fs.ids fs).Nodup) :
    (Fs.ids img).Nodup := by
  unfold Fs.ids
  rw [h.ids]
  exact hn.sublist (List.Sublist.map _ List.filter_sublist)

/-- Excludes the crash images of finding D11 (rotation gap): the caller creates the next chunk file before the
worker has written the tail of the old one, so a crash can leave a file that is not the newest shorter than its
chunk, and `open` reports a gap. Stated on the image alone: every linked file but the newest parses cleanly and
ends where the next one begins. -/
def NoTornPredecessor (img : Fs) : Prop :=
  ∀ pre a b post, img.linkedIds = pre ++ a :: b :: post →
    ∃ g, img.find a = some g ∧ (parseChunk g.data).2.1 = .clean ∧ a + g.data.length = b

theorem parsesToPrefix_full_C5b {rs : List Record} {data : Bytes} (h : ParsesToPrefix rs data)
    (hclean : (parseChunk data).2.1 = .clean) (hlen : data.length = (encAll rs).length) :
    data = encAll rs := by
  obtain ⟨j, hj, e, rest, hp, hd, hcase⟩ := h
  rw [hp] at hclean
  simp only at hclean
  subst hclean
  have hrest : rest = [] := by
    rcases hcase with ⟨_, e2⟩ | ⟨e1, _⟩ | ⟨m, _, _, e2⟩
    · exact e2
    · cases e1
    · split at e2 <;> cases e2
  subst hrest
  rw [List.append_nil] at hd
  rw [hd] at hlen
  rw [hd, take_full_of_length_C3 hlen]

theorem abut_at_C5b : ∀ (l1 : List (Closed × List Record)) (p q : Closed × List Record)
    (l2 : List (Closed × List Record)), AbutC3 (l1 ++ p :: q :: l2) →
    q.1.id = p.1.id + (encAll p.2).length := by
  intro l1
  induction l1 with
  | nil => intro p q l2 h; exact h.1
  | cons x l1 ih => intro p q l2 h; exact ih p q l2 h.tail

theorem noTorn_files_C5b {img : Fs} (hnt : NoTornPredecessor img) :
    ∀ (jl : List (Closed × List Record)) (last : Closed × List Record) (pre : List Nat),
    img.linkedIds = pre ++ (jl ++ [last]).map (·.1.id) → AbutC3 (jl ++ [last]) →
    (∀ p ∈ jl, ∀ g, img.find p.1.id = some g → ParsesToPrefix p.2 g.data) →
    ∀ p ∈ jl, ∃ g, img.find p.1.id = some g ∧ g.data = encAll p.2 := by
  intro jl last pre hids habut hparse p hp
  obtain ⟨l1, l2, rfl⟩ := List.append_of_mem hp
  obtain ⟨q, tl, hq⟩ : ∃ q tl, l2 ++ [last] = q :: tl := by
    cases l2 with
    | nil => exact ⟨last, [], rfl⟩
    | cons q tl => exact ⟨q, tl ++ [last], rfl⟩
  rw [List.append_assoc, List.cons_append, hq] at hids habut
  obtain ⟨g, k1, k2, k3⟩ := hnt (pre ++ l1.map (·.1.id)) p.1.id q.1.id (tl.map (·.1.id))
    (by rw [hids]; simp)
  have hab := abut_at_C5b l1 p q tl habut
  exact ⟨g, k1, parsesToPrefix_full_C5b (hparse p hp g k1) k2 (by omega)⟩

/-- A crash image `img` without torn predecessor of the files `fs` of the store `G` (journal `jc`, `jo`): it is an
`ImgHypC5b` for the chunks of `G`; the records `jo` of the open chunk take the closing state and index map `stC`,
`lC` to those of `G`; the newest file `g0` of the image is a cut of the file `f0` of the open chunk, which holds a
prefix of the bytes of `jo` (the rest is in flight or pending). -/
structure GhostImageC5b (G : Store) (fs img : Fs) (jc : List (Closed × List Record)) (jo : List Record)
    (stC : RState) (lC : Log) (g0 f0 : File) : Prop where
  hyp : ImgHypC5b img jc G.openId jo stC lC g0
  st : stRun jo stC = some G.st
  log : idxRun (chunkOps G.openId jo) lC = some G.log
  find : fs.find G.openId = some f0
  cut : CutOf f0 g0
  fits : ∃ t, f0.data ++ t = encAll jo

theorem ghost_imgHyp_C5b {G : Store} {fs : Fs} {w : Worker} {jc : List (Closed × List Record)}
    {jo : List Record} (g : RepG G fs w jc jo) (hj : JInv G fs w)
    (hlive : ∀ id ∈ G.chunkIds, fs.has id = true) (hlinked : fs.linkedIds = G.chunkIds)
    (hn : (Fs.ids fs).Nodup) {img : Fs} (hc : CrashImage fs img) (hnt : NoTornPredecessor img) :
    ∃ stC lC g0 f0, GhostImageC5b G fs img jc jo stC lC g0 f0 := by
  have hrecs := liveChunks_recs_C3 g
  have habut := liveChunks_abut_C3 g hj
  obtain ⟨stC, lC, r1, r2, r3, r4⟩ := g.run
  have hids := liveChunks_image_ids_C3 g hlinked hc
  have hfile := liveChunks_image_C3 g hlive hc
  have hfull := noTorn_files_C5b hnt jc ((⟨G.openOffsets, G.st⟩ : Closed), jo) []
    (by rw [hids]; simp only [List.nil_append, List.map_append, List.map_cons, List.map_nil]; rfl)
    habut
    (fun p hp g' hg' => by
      obtain ⟨f, g'', _, k2, _, _, k5⟩ := hfile p (List.mem_append_left _ hp)
      rw [k2] at hg'; cases hg'; exact k5)
  obtain ⟨f0, g0, hf0, hg0, hcut0, ht0, _⟩ :=
    hfile ((⟨G.openOffsets, G.st⟩ : Closed), jo) (List.mem_append_right _ (List.mem_singleton.mpr rfl))
  have hopen := hrecs ((⟨G.openOffsets, G.st⟩ : Closed), jo)
    (List.mem_append_right _ (List.mem_singleton.mpr rfl))
  refine ⟨stC, lC, g0, f0,
    { st := r2, log := r3, find := hf0, cut := hcut0, fits := ht0
      hyp :=
        { rep := r1, chained := ?chained, wfo := hopen.1, head := hopen.2.1, johead := r4
          nodup := hc.ids_nodup_C5b hn, all := hc.durable_C5b, ids := hids, files := ?files, g0 := hg0 } }⟩
  case files =>
    intro p hp
    obtain ⟨k1, k2, k3, _, _⟩ := hrecs p (List.mem_append_left _ hp)
    obtain ⟨g', m1, m2⟩ := hfull p hp
    exact ⟨g', m1, { data := m2, wf := k1, head := k2, offsets := k3 }⟩
  case chained =>
    rw [show offsetsFrom G.openId (sizes jo) = G.openOffsets from hopen.2.2.1]
    exact liveChunks_chained_C3 g hj

theorem take_eq_of_sized_C5b {rs : List Record} {i j : Nat} (h : sized (rs.take i) = sized (rs.take j)) :
    rs.take i = rs.take j := by
  have := congrArg (fun l => l.map (·.1)) h
  simp only [sized_map_fst] at this
  exact this

/-- What a crash leaves of the newest chunk file: a parse to `jo.take j` that covers every
record ending within the durable part. -/
theorem cutOf_parse_both_C5b {jo : List Record} (hwf : AllWF jo) {f g : File} {t : Bytes}
    (hf : f.data ++ t = encAll jo) (hc : CutOf f g) :
    ∃ j, j ≤ jo.length ∧ ∃ rest, g.data = encAll (jo.take j) ++ rest ∧ (rest = [] ∨ TornTail rest) ∧
      ∀ i, i ≤ jo.length → (encAll (jo.take i)).length ≤ f.durable → i ≤ j := by
  obtain ⟨j, hj, e, rest, hp, hd, hcase⟩ := cutOf_parses_C3 hwf hf hc
  obtain ⟨j', hj', ⟨e', rest', hp'⟩, hlo⟩ := cutOf_parses_lo_C3 hwf hf hc
  refine ⟨j, hj, rest, hd, ?_, ?_⟩
  · rcases hcase with ⟨_, h⟩ | ⟨_, hne, _, k⟩ | ⟨m, hm, h, _⟩
    · exact .inl h
    · exact .inr (.inl ⟨hne, k⟩)
    · exact .inr (.inr ⟨m, hm, h⟩)
  intro i hi hle
  have hij := hlo i hi hle
  have heq : jo.take j' = jo.take j := by
    apply take_eq_of_sized_C5b
    rw [hp] at hp'
    exact (congrArg (fun x => x.1) hp').symm
  have := congrArg List.length heq
  rw [List.length_take, List.length_take] at this
  omega

theorem below_of_keys_C5b {l : Log} {r' : RefLog} (hwf : r'.WF) (hk : logKeys l = entKeys r'.entries) :
    ∀ e ∈ l, optLe (some e.2.id) r'.state.last = true := by
  intro e he
  have : (e.1, e.2.id) ∈ logKeys l := List.mem_map.mpr ⟨e, he, rfl⟩
  rw [hk] at this
  obtain ⟨a, ha, hae⟩ := List.mem_map.mp this
  simp only [Prod.mk.injEq] at hae
  have := (hwf.below a ha).1
  rw [hae.2] at this
  exact this

/-- What the recovery theorems know about a crash image without torn predecessor (`ghost_prep_C5b`): the
parsed image (`parsed`: state `r'.state` and index map `l` at the end of the parse), and the reference log
`r'` that the replayed journal prefix `flatOps jc ++ chunkOps G.openId (jo.take j)` mirrors: `r'` is reached
by the first `n` of the writes `W` (`N0` writes precede the retained journal), `n` covers the tracked write
count `K` if the tracked position `E` is acknowledged, and the prefix reaches the marker `Bh`. -/
structure PrepC5b (G : Store) (img : Fs) (jc : List (Closed × List Record)) (jo : List Record) (W : List Op)
    (Bh A E K : Nat) (stC : RState) (lC : Log) (g0 : File) (j : Nat) (rest : Bytes) (n : Nat) (r' : RefLog)
    (l : Log) (N0 : Nat) : Prop where
  parsed : ImgParseC5b img jc G.openId jo stC lC g0 j rest r'.state l
  hist : HistG (allOps G jc jo) G.jstart W Bh E K
  takeLe : j ≤ jo.length
  isPrefix : flatOps jc ++ chunkOps G.openId (jo.take j) <+: allOps G jc jo
  histLen : W.length = N0 + cntW (allOps G jc jo)
  n_eq : n = N0 + cntW (flatOps jc ++ chunkOps G.openId (jo.take j))
  run : RefLog.run {} (W.take n) = some r'
  wf : r'.WF
  keys : logKeys l = entKeys r'.entries
  covers : E ≤ A → K ≤ n
  marker : Bh ≤ G.jstart + sizeSum (flatOps jc ++ chunkOps G.openId (jo.take j))

theorem ghost_prep_C5b {G : Store} {fs : Fs} {w : Worker} {jc : List (Closed × List Record)}
    {jo : List Record} {W : List Op} {Bh A E K : Nat}
    (g : RepG G fs w jc jo) (hj : JInv G fs w)
    (hhist : HistG (allOps G jc jo) G.jstart W Bh E K) (hack : Bh ≤ A)
    (hD : ∀ p ∈ liveChunksC3 G jc jo, ∀ f, fs.find p.1.id = some f →
      min (encAll p.2).length (A - p.1.id) ≤ f.durable)
    (hlive : ∀ id ∈ G.chunkIds, fs.has id = true) (hlinked : fs.linkedIds = G.chunkIds)
    (hn : (Fs.ids fs).Nodup) {img : Fs} (hc : CrashImage fs img) (hnt : NoTornPredecessor img) :
    ∃ stC lC g0 j rest n r' l N0, PrepC5b G img jc jo W Bh A E K stC lC g0 j rest n r' l N0 := by
  obtain ⟨stC, lC, g0, f0, I⟩ := ghost_imgHyp_C5b g hj hlive hlinked hn hc hnt
  have himg := I.hyp
  obtain ⟨t, ht0⟩ := I.fits
  obtain ⟨j, hjl, rest, hdata, hcase, hlo⟩ := cutOf_parse_both_C5b himg.wfo ht0 I.cut
  have hP : flatOps jc ++ chunkOps G.openId (jo.take j) <+: allOps G jc jo :=
    (List.prefix_append_right_inj _).mpr (opsFrom_take_prefix_C3 _ _ _ _)
  have hdur := hD ((⟨G.openOffsets, G.st⟩ : Closed), jo)
    (List.mem_append_right _ (List.mem_singleton.mpr rfl)) f0 I.find
  obtain ⟨N0, hN, ⟨r', m1, m2, l, m3, m4⟩, hEA, hB⟩ := hhist.replayed_C5b hack hP
    (fun Q hQ hQA => prefix_replayed_C3 (liveChunks_start_C3 g hj) hdur hlo hQ hQA)
  have hwf' : r'.WF := RefLog.run_wf_C3b _ _ _ RefLog.wf_empty m1
  exact ⟨stC, lC, g0, j, rest, _, r', l, N0,
    { hist := hhist, takeLe := hjl, isPrefix := hP, histLen := hN, n_eq := rfl, run := m1, wf := hwf', keys := m4, covers := hEA
      marker := hB
      parsed :=
        { hyp := himg, data := hdata, tail := hcase
          st := (stRunO_flat_chunk_C5b himg.rep _ _).symm.trans m2
          log := (idxRun_flat_chunk_C5b himg.rep _ _).symm.trans m3
          below := below_of_keys_C5b hwf' m4 } }⟩

theorem cutOf_durable_C5b {f g : File} (hd : f.durable = f.data.length) (hc : CutOf f g) :
    g.data = f.data := by
  obtain ⟨_, _, _, hcut⟩ := hc
  rcases hcut with ⟨k, hk1, hk2, hg⟩ | ⟨b, m, hb1, _, hm, hm2, _⟩
  · have : k = f.data.length := by omega
    rw [hg, this, List.take_length]
  · omega

theorem cutOf_whole_C5b {rs : List Record} {f g : File} {t : Bytes} (hf : f.data ++ t = encAll rs)
    (hdur : (encAll rs).length ≤ f.durable) (hc : CutOf f g) : g.data = encAll rs := by
  have hlen := congrArg List.length hf
  simp only [List.length_append] at hlen
  have hd : f.durable = f.data.length := by
    obtain ⟨_, _, _, ⟨k, _, _, _⟩ | ⟨b, m, _, _, _, _, _⟩⟩ := hc <;> omega
  rw [cutOf_durable_C5b hd hc, ← hf, List.eq_nil_of_length_eq_zero (l := t) (by omega),
    List.append_nil]

theorem noTorn_of_acked_C5b {G : Store} {fs : Fs} {w : Worker} {jc : List (Closed × List Record)}
    {jo : List Record} {A : Nat} (g : RepG G fs w jc jo) (hj : JInv G fs w)
    (hD : ∀ p ∈ liveChunksC3 G jc jo, ∀ f, fs.find p.1.id = some f →
      min (encAll p.2).length (A - p.1.id) ≤ f.durable)
    (hlive : ∀ id ∈ G.chunkIds, fs.has id = true) (hlinked : fs.linkedIds = G.chunkIds)
    (hA : G.openId ≤ A) {img : Fs} (hc : CrashImage fs img) : NoTornPredecessor img := by
  intro pre a b post hids
  rw [hc.linkedIds, hlinked, ← g.liveChunks_ids] at hids
  obtain ⟨l1, l', hsplit, _, hl'⟩ := List.map_eq_append_iff.mp hids
  obtain ⟨p, l'', e1, hpa, hl''⟩ := List.map_eq_cons_iff.mp hl'
  obtain ⟨q, l2, e2, hqb, _⟩ := List.map_eq_cons_iff.mp hl''
  subst e1; subst e2
  have habut := liveChunks_abut_C3 g hj
  rw [hsplit] at habut
  have hnext := abut_at_C5b l1 p q l2 habut
  have hp : p ∈ liveChunksC3 G jc jo := by rw [hsplit]; simp
  have hq : q ∈ liveChunksC3 G jc jo := by rw [hsplit]; simp
  obtain ⟨k1, _, _, k4, t, k5⟩ := liveChunks_recs_C3 g p hp
  obtain ⟨_, _, _, k4q, _, _⟩ := liveChunks_recs_C3 g q hq
  obtain ⟨f, hf, hfl⟩ := Fs.has_eq_true_iff.mp (hlive _ k4)
  obtain ⟨g', hg1, hg2⟩ := hc.find hf hfl
  rw [fdata_of_find_C3 hf] at k5
  have hqle : q.1.id ≤ G.openId := by
    have hs := hj.chunkIds_sorted
    rw [Store.chunkIds_eq] at hs k4q
    rcases List.mem_append.mp k4q with k | k
    · have := (List.pairwise_append.mp hs).2.2 _ k G.openId (by simp)
      omega
    · simp only [List.mem_singleton] at k; omega
  have hdur : (encAll p.2).length ≤ f.durable := by
    have := hD p hp f hf
    omega
  have hwhole := cutOf_whole_C5b k5 hdur hg2
  refine ⟨g', by rw [← hpa]; exact hg1, ?_, ?_⟩
  · rw [hwhole, parse_encAll' k1]
  · rw [hwhole, ← hpa, ← hqb, hnext]

end RaftLog
