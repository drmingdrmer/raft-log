/-
The caller's side of the flush worker. Effects only append requests to the queue, so `Worker.WF` survives them; with
a live worker they all go through (`applyEffs_live` of Proofs/CallerMoves), so coverage after them is coverage of
`effFs`/`effQ` (`applyEffs_covered`). `Worker.push` and `Worker.settle` per projection: `settle` does not change the
view (`Worker.settle_view`), so what a chain reads off the view is the same after it; the rest from `settle_cases`.
`popObsolete` pops a prefix; `drop` as a run of the worker (`Sys.dropEnd`).
-/
import RaftLogModel.Proofs.WorkerRuns
import RaftLogModel.Proofs.CallerMoves
namespace RaftLog

/-- `Covered` on the two components the caller thread touches: `Covered c` is
`CoveredFW c.fs c.w`, `SysCovered y` is `CoveredFW y.fs y.worker`. -/
def CoveredFW (fs : Fs) (w : Worker) : Prop :=
  ∀ f ∈ fs, f.durable < f.data.length → f.linked = true → Trk w f.id

theorem Covered_iff (c : WCtx) : Covered c ↔ CoveredFW c.fs c.w := Iff.rfl

/-- `w.push [r]` for the `Worker.push` of Proofs/CallerMoves. -/
def Worker.push1 (w : Worker) (r : WReq) : Worker := { w with queue := w.queue ++ [r] }

@[simp] theorem Worker.push1_pc (w : Worker) (r : WReq) : (w.push1 r).pc = w.pc := rfl
@[simp] theorem Worker.push1_files (w : Worker) (r : WReq) : (w.push1 r).files = w.files := rfl
@[simp] theorem Worker.push1_queue (w : Worker) (r : WReq) : (w.push1 r).queue = w.queue ++ [r] := rfl

theorem applyEffs_send_alive (r : WReq) (rest : List Eff) (fs : Fs) (w : Worker) (evs : List Ev)
    (h : w.pc ≠ .dead) : applyEffs (.send r :: rest) fs w evs = applyEffs rest fs (w.push1 r) evs := by
  cases hpc : w.pc <;> first | exact absurd hpc h | simp [applyEffs, hpc, Worker.push1]

theorem applyEffs_send_dead (r : WReq) (rest : List Eff) (fs : Fs) (w : Worker) (evs : List Ev)
    (h : w.pc = .dead) : (applyEffs (.send r :: rest) fs w evs).1 = false ∧
      (applyEffs (.send r :: rest) fs w evs).2.1 = fs ∧ (applyEffs (.send r :: rest) fs w evs).2.2.1 = w := by
  simp [applyEffs, h]

theorem Trk.pushes {w : Worker} {x : Nat} (q : List WReq) (h : Trk w x) : Trk (w.push q) x := by
  refine h.imp_right fun h => ?_
  simp only [pendingAppends, Worker.push, List.filterMap_append, List.mem_append] at h ⊢
  exact h.imp_right .inl

theorem Trk.pushes_append {w : Worker} {q : List WReq} {id : Nat} {p : Option LogId}
    (h : .appendFile id p ∈ q) : Trk (w.push q) id :=
  .inr (List.mem_filterMap.2 ⟨_, List.mem_append_right _ (List.mem_append_right _ h), rfl⟩)

theorem CoveredFW.pushes {fs : Fs} {w : Worker} (q : List WReq) (h : CoveredFW fs w) : CoveredFW fs (w.push q) :=
  fun g hg hu hl => (h g hg hu hl).pushes q

/-- The rotation creates the file `s.openEnd` and announces it in the same breath. -/
theorem CoveredFW.rotate {fs : Fs} {w : Worker} (s : Store) (h : CoveredFW fs w) :
    CoveredFW (effFs (rotateEffs s) fs) (w.push (effQ (rotateEffs s))) := by
  intro g hg hu hl
  have happ : Trk (w.push (effQ (rotateEffs s))) s.openEnd :=
    .pushes_append (p := s.st.last) (by rw [effQ_rotateEffs]; simp)
  rw [effFs_rotateEffs] at hg
  rcases Fs.mem_write hg with e | hg
  · exact e ▸ happ
  · rcases Fs.mem_create hg with e | hg
    · exact e ▸ happ
    · exact (h g hg hu hl).pushes _

theorem applyEffs_covered {effs : List Eff} {fs : Fs} {w : Worker} (evs : List Ev) (hp : w.pc ≠ .dead)
    (h : CoveredFW (effFs effs fs) (w.push (effQ effs))) :
    (applyEffs effs fs w evs).1 = true ∧
      CoveredFW (applyEffs effs fs w evs).2.1 (applyEffs effs fs w evs).2.2.1 := by
  obtain ⟨h1, h2, h3⟩ := applyEffs_live effs fs w evs hp
  rw [h2, h3]
  exact ⟨h1, h⟩

/-- `Worker.WF` looks at the queue only when the worker is dead. -/
theorem Worker.WF.of_queue {w : Worker} (q : List WReq) (h : w.WF) (hq : w.pc = .dead → q = w.queue) :
    ({ w with queue := q } : Worker).WF := by
  unfold Worker.WF at *
  dsimp only
  cases hpc : w.pc with
  | dead =>
    rw [hpc] at h
    rw [hq hpc]
    exact h
  | _ =>
    rw [hpc] at h
    exact h

theorem applyEffs_worker (effs : List Eff) (fs : Fs) (w : Worker) (evs : List Ev) :
    ∃ q, (applyEffs effs fs w evs).2.2.1 = { w with queue := w.queue ++ q } ∧ (w.pc = .dead → q = []) := by
  induction effs generalizing fs w evs with
  | nil => exact ⟨[], by simp [applyEffs], fun _ => rfl⟩
  | cons e rest ih =>
    cases e with
    | create id => exact ih _ _ _
    | createFailed id => exact ih _ _ _
    | writeHead id bs => exact ih _ _ _
    | send r =>
      by_cases hp : w.pc = .dead
      · exact ⟨[], by rw [(applyEffs_send_dead r rest fs w evs hp).2.2]; simp, fun _ => rfl⟩
      · obtain ⟨q, h, _⟩ := ih fs (w.push1 r) evs
        exact ⟨r :: q, by rw [applyEffs_send_alive r rest fs w evs hp, h]; simp [Worker.push1],
          fun h0 => absurd h0 hp⟩

theorem applyEffs_wf (effs : List Eff) (fs : Fs) (w : Worker) (evs : List Ev) (h : w.WF) :
    (applyEffs effs fs w evs).2.2.1.WF := by
  obtain ⟨q, e, hq⟩ := applyEffs_worker effs fs w evs
  rw [e]
  exact h.of_queue _ fun hd => by rw [hq hd, List.append_nil]

theorem Worker.settle_cases (w : Worker) :
    (∃ r q, w.pc = .idle ∧ w.queue = r :: q ∧ w.settle = { w with pc := .got r, queue := q }) ∨
    ((w.pc = .idle → w.queue = []) ∧ w.settle = w) := by
  unfold Worker.settle
  split
  · rename_i r q h1 h2; exact .inl ⟨r, q, h1, h2, rfl⟩
  · rename_i hne
    refine .inr ⟨fun hpc => ?_, rfl⟩
    cases hq : w.queue with
    | nil => rfl
    | cons r q => exact absurd hq (hne r q hpc)

theorem Worker.WF.settle {w : Worker} (h : w.WF) : w.settle.WF := by
  rcases w.settle_cases with ⟨r, q, h1, h2, he⟩ | ⟨_, he⟩ <;> rw [he]
  · simp only [Worker.WF, h1] at h
    simpa [Worker.WF] using h
  · exact h

/-! `settle` moves the head of the queue into hand, which the view does not see (`Worker.settle_view`): every function
of the view is the same after `settle`, by `congrArg`. -/

theorem Worker.push_rest (w : Worker) (q : List WReq) : (w.push q).rest = w.rest ++ q := by
  simp [Worker.rest, Worker.push]

theorem Worker.push_cur (w : Worker) (q : List WReq) : (w.push q).cur = w.cur := rfl

theorem Worker.settle_view (w : Worker) : w.settle.view = w.view := by
  rcases w.settle_cases with ⟨r, q, h1, h2, he⟩ | ⟨_, he⟩ <;> rw [he]
  simp [Worker.view, Worker.rest, h1, h2, WPc.inHand, WPc.todoBytes, WPc.batchW, WPc.unl]

theorem Worker.settle_rest (w : Worker) : w.settle.rest = w.rest := congrArg WView.rest w.settle_view
theorem Worker.settle_files (w : Worker) : w.settle.files = w.files := congrArg WView.files w.settle_view
theorem Worker.settle_cur (w : Worker) : w.settle.cur = w.cur := congrArg (fun v : WView => newestId v.files) w.settle_view
theorem Worker.settle_todoBytes (w : Worker) : w.settle.pc.todoBytes = w.pc.todoBytes :=
  congrArg WView.tb w.settle_view
theorem Worker.settle_batchW (w : Worker) : w.settle.pc.batchW = w.pc.batchW := congrArg WView.bw w.settle_view
theorem Worker.settle_lsf (w : Worker) : w.settle.lastSyncFailed = w.lastSyncFailed :=
  congrArg WView.lsf w.settle_view
theorem Worker.settle_postponed (w : Worker) : w.settle.postponed = w.postponed := congrArg WView.post w.settle_view

theorem Worker.settle_senderAlive (w : Worker) : w.settle.senderAlive = w.senderAlive := by
  rcases w.settle_cases with ⟨r, q, _, _, he⟩ | ⟨_, he⟩ <;> rw [he]

theorem Worker.settle_dead_iff (w : Worker) : w.settle.pc = .dead ↔ w.pc = .dead := by
  rcases w.settle_cases with ⟨r, q, h1, _, he⟩ | ⟨_, he⟩ <;> rw [he]
  simp [h1]

theorem Worker.settle_dead (w : Worker) (h : w.pc = .dead) : w.settle.pc = .dead :=
  w.settle_dead_iff.2 h

theorem Worker.settle_ok {w : Worker} (h : w.pc.ok w.files) : w.settle.pc.ok w.settle.files := by
  rcases w.settle_cases with ⟨r, q, _, _, he⟩ | ⟨_, he⟩ <;> rw [he]
  · trivial
  · exact h

theorem pendingAppends_settle (w : Worker) : pendingAppends w.settle = pendingAppends w := by
  rcases w.settle_cases with ⟨r, q, h1, h2, he⟩ | ⟨_, he⟩ <;> rw [he]
  simp [pendingAppends, h1, h2, WPc.held]

theorem cbQueue_settle (w : Worker) : cbQueue w.settle = cbQueue w := by
  rcases w.settle_cases with ⟨r, q, h1, h2, he⟩ | ⟨_, he⟩ <;> rw [he]
  simp [cbQueue, h1, h2, WPc.batch]

theorem CoveredFW.settle {fs : Fs} {w : Worker} (h : CoveredFW fs w) : CoveredFW fs w.settle := by
  intro f hf hu hl
  have := h f hf hu hl
  unfold Trk at *
  rw [pendingAppends_settle, Worker.settle_files]; exact this

/-- The file the rotation creates is announced (`appendFile`) before anything else can happen to it. -/
theorem tryCloseFull_covered (s : Store) (fsHas : Nat → Bool) (fs : Fs) (w : Worker) (evs : List Ev)
    (hp : w.pc ≠ .dead) (hc : CoveredFW fs w) :
    (applyEffs (s.tryCloseFull fsHas).2.2 fs w evs).1 = true ∧
    CoveredFW (applyEffs (s.tryCloseFull fsHas).2.2 fs w evs).2.1
      (applyEffs (s.tryCloseFull fsHas).2.2 fs w evs).2.2.1 := by
  rcases s.tryCloseFull_outcomes fsHas with ⟨_, h⟩ | ⟨_, _, h⟩ | ⟨_, _, h⟩ <;> rw [h]
  · exact ⟨rfl, hc⟩
  · exact ⟨rfl, hc⟩
  · exact applyEffs_covered evs hp (hc.rotate s)

theorem flush_covered (s : Store) (cb : Option Nat) (fs : Fs) (w : Worker) (evs : List Ev)
    (hp : w.pc ≠ .dead) (hc : CoveredFW fs w) :
    (applyEffs (s.flush cb).2 fs w evs).1 = true ∧
    (applyEffs (s.flush cb).2 fs w evs).2.1 = fs ∧
    CoveredFW fs (applyEffs (s.flush cb).2 fs w evs).2.2.1 := by
  obtain ⟨h1, h2, h3⟩ := applyEffs_live (s.flush cb).2 fs w evs hp
  rw [h2, h3, effFs_flush]
  exact ⟨h1, rfl, hc.pushes _⟩

theorem popObsolete_spec (upto : LogId) (l : List Closed) :
    ∃ k, (popObsolete upto l).1 = (l.take k).map Closed.id ∧ (popObsolete upto l).2 = l.drop k ∧
      (∀ c ∈ l.take k, optLt (some upto) c.state.last = false) ∧
      (∀ c, (l.drop k).head? = some c → optLt (some upto) c.state.last = true) := by
  induction l with
  | nil => exact ⟨0, by simp [popObsolete]⟩
  | cons c rest ih =>
    by_cases h : optLt (some upto) c.state.last = true
    · refine ⟨0, by simp [popObsolete, h], by simp [popObsolete, h], by simp, ?_⟩
      intro c' hc'
      simp only [List.drop_zero, List.head?_cons, Option.some.injEq] at hc'
      rw [← hc']; exact h
    · obtain ⟨k, h1, h2, h3, h4⟩ := ih
      refine ⟨k + 1, by simp [popObsolete, h, h1], by simp [popObsolete, h, h2], ?_, ?_⟩
      · intro c' hc'
        simp only [List.take_succ_cons, List.mem_cons] at hc'
        rcases hc' with rfl | hc'
        · simpa using h
        · exact h3 c' hc'
      · intro c' hc'
        exact h4 c' (by simpa using hc')

theorem popObsolete_pre (upto : LogId) (l : List Closed) :
    ∃ pre, l = pre ++ (popObsolete upto l).2 ∧ (popObsolete upto l).1 = pre.map Closed.id ∧
      ∀ c ∈ pre, optLt (some upto) c.state.last = false :=
  let ⟨k, h1, h2, h3, _⟩ := popObsolete_spec upto l
  ⟨l.take k, by rw [h2, List.take_append_drop], h1, h3⟩

/-- The worker context right after the channel was closed: a worker blocked in `recv` wakes up (`toRecv`). -/
def Sys.dropCtx (y : Sys) (s : Store) : WCtx :=
  let w0 := { y.worker with senderAlive := false }
  let c : WCtx := { w := w0, fs := y.fs, cache := s.cache }
  match w0.pc with
  | .idle => c.toRecv
  | _ => c

/-- The worker context when `drop` returns (the worker thread was joined). -/
def Sys.dropEnd (y : Sys) (s : Store) : WCtx :=
  WCtx.runQuiet (y.dropCtx s).w.fuel (y.dropCtx s)

theorem Sys.dropStore_eq (y : Sys) {s : Store} (hs : y.store = some s) :
    y.dropStore = ({ y with worker := { (y.dropEnd s).w with pc := .dead }, fs := (y.dropEnd s).fs,
                            store := none, locked := false }, (y.dropEnd s).evs) := by
  simp only [Sys.dropStore, hs]
  rfl

theorem Sys.dropCtx_cases (y : Sys) (s : Store) :
    (y.worker.pc = .idle ∧
      y.dropCtx s = (({ w := { y.worker with senderAlive := false }, fs := y.fs, cache := s.cache } : WCtx)).toRecv) ∨
    (y.worker.pc ≠ .idle ∧
      y.dropCtx s = { w := { y.worker with senderAlive := false }, fs := y.fs, cache := s.cache }) := by
  unfold Sys.dropCtx
  cases hpc : y.worker.pc <;> simp [hpc]

theorem Sys.dropCtx_closing (y : Sys) (s : Store) (hdq : y.worker.pc = .dead → y.worker.queue = []) :
    (y.dropCtx s).w.Closing := by
  rcases y.dropCtx_cases s with ⟨_, he⟩ | ⟨hn, he⟩ <;> rw [he]
  · exact WCtx.toRecv_closing _ rfl
  · exact ⟨rfl, hn, hdq⟩

theorem Sys.dropCtx_todoOK (y : Sys) (s : Store) (ht : y.worker.TodoOK) : (y.dropCtx s).w.TodoOK := by
  rcases y.dropCtx_cases s with ⟨_, he⟩ | ⟨hn, he⟩ <;> rw [he]
  · exact .of_isRest (WCtx.toRecv_pc _).isRest
  · exact ht

theorem Sys.dropCtx_files (y : Sys) (s : Store) : (y.dropCtx s).w.files = y.worker.files := by
  rcases y.dropCtx_cases s with ⟨_, he⟩ | ⟨hn, he⟩ <;> rw [he]
  simp

theorem Sys.dropCtx_postponed (y : Sys) (s : Store) : (y.dropCtx s).w.postponed = y.worker.postponed := by
  rcases y.dropCtx_cases s with ⟨_, he⟩ | ⟨hn, he⟩ <;> rw [he]
  simp

theorem Sys.dropEnd_dead (y : Sys) (s : Store) (hdq : y.worker.pc = .dead → y.worker.queue = [])
    (ht : y.worker.TodoOK) :
    (y.dropEnd s).w.pc = .dead ∧ (y.dropEnd s).w.queue = [] := by
  apply WCtx.runQuiet_closing _ _ (y.dropCtx_closing s hdq)
  have := (y.dropCtx s).w.drainCost_le_fuel (y.dropCtx_todoOK s ht)
  omega

end RaftLog
