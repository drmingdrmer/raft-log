/-
C03, the ghost store, worker side. The ids the worker still has to unlink, as a LIST (`Worker.toRemove`: postponed,
being unlinked, named by removal requests not handled yet — in this order): a worker step keeps the list, or — an
`unlink` — removes its head and unlinks exactly that file (`WCtx.VStep.toRemove` of Proofs/ReplayLinked, with nothing
postponed while unlinking); what that does to `Fs.linkedIds`.
-/
import RaftLogModel.Proofs.ReplayLinked
namespace RaftLog

def UnlPostC3b (w : Worker) : Prop := ∀ ids, w.pc = .unlinking ids → w.postponed = []

theorem WCtx.step_unl_C3b (c : WCtx) (out : Outcome) (hu : UnlPostC3b c.w) : UnlPostC3b (c.step out).w := by
  apply c.step_landed_elim (P := UnlPostC3b) out
  case stay =>
    rintro pc' (⟨rfl, _⟩ | ⟨_, _, _, rfl⟩ | ⟨i, ids, hpc, rfl⟩)
    · exact hu
    · exact fun _ h => nomatch h
    · exact fun _ _ => hu _ hpc
  case die => exact fun _ _ h => nomatch h
  case land =>
    intro w' hl _ ids hpc
    simp only [Worker.Landed, hpc] at hl
    exact hl.1

structure TStepC3b (c c' : WCtx) : Prop where
  unl : UnlPostC3b c'.w
  tr : (c'.w.toRemove = c.w.toRemove ∧ ∀ id, c'.fs.has id = c.fs.has id) ∨
       (∃ i, c.w.toRemove = i :: c'.w.toRemove ∧ (∀ id, c'.fs.has id = (c.fs.has id && id != i)) ∧
          ∃ ids, c.w.pc = .unlinking (i :: ids))

theorem WCtx.step_tstep_C3b (c : WCtx) (out : Outcome) (hok : c.w.pc.ok c.w.files)
    (hu : UnlPostC3b c.w) (hnd : (c.step out).w.pc ≠ .dead) : TStepC3b c (c.step out) := by
  refine ⟨c.step_unl_C3b out hu, ?_⟩
  rcases (c.step_view_alive out hok hnd).toRemove with h | ⟨i, rest, hpc, hT, hF⟩
  · exact .inl h
  · exact .inr ⟨i, by rw [hT, Worker.toRemove_unlinking hpc, hu _ hpc]; rfl, hF, rest, hpc⟩

theorem UnlPostC3b.push {w : Worker} (h : UnlPostC3b w) (q : List WReq) : UnlPostC3b (w.push q) := h

theorem UnlPostC3b.settle {w : Worker} (h : UnlPostC3b w) : UnlPostC3b w.settle := by
  rcases w.settle_cases with ⟨_, _, _, _, e⟩ | ⟨_, e⟩ <;> rw [e]
  · intro ids hh; cases hh
  · exact h

theorem linkedIds_of_has_eq_C8s {fs fs' : Fs} (hn : (Fs.ids fs).Nodup) (hn' : (Fs.ids fs').Nodup)
    (h : ∀ id, fs'.has id = fs.has id) : fs'.linkedIds = fs.linkedIds :=
  Fs.linkedIds_eq_of hn' (Fs.linkedIds_spec hn).1 fun x => by rw [h, (Fs.linkedIds_spec hn).2]

theorem linkedIds_of_unlink_head_C8s {fs fs' : Fs} {i : Nat} {rest : List Nat}
    (hn : (Fs.ids fs).Nodup) (hn' : (Fs.ids fs').Nodup)
    (h : ∀ id, fs'.has id = (fs.has id && id != i)) (hl : fs.linkedIds = i :: rest) :
    fs'.linkedIds = rest := by
  obtain ⟨k1, k2⟩ := Fs.linkedIds_spec hn
  rw [hl] at k1 k2
  have hp := List.pairwise_cons.mp k1
  refine Fs.linkedIds_eq_of hn' hp.2 fun x => ?_
  rw [h]
  constructor
  · intro hx
    simp only [Bool.and_eq_true, bne_iff_ne, ne_eq] at hx
    have := (k2 x).mpr hx.1
    rcases List.mem_cons.mp this with e | e
    · exact absurd e hx.2
    · exact e
  · intro hx
    have h1 := (k2 x).mp (List.mem_cons_of_mem _ hx)
    have h2 := hp.1 x hx
    have : x ≠ i := by omega
    simp [h1, this]

end RaftLog
