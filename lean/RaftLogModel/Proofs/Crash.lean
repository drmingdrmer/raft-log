/-
C03, the crash model (`CrashImage`) and what a crash leaves of one chunk file: under the journal invariant a
chunk file is a byte prefix of the encoding of its chunk's records (`JInv.file_prefix_C3`), and what is left of
it parses to a prefix of those records (`cutOf_parses_C3`) that contains every record inside the durable part
(`cutOf_parses_lo_C3`).
-/
import RaftLogModel.Proofs.Recover
import RaftLogModel.Proofs.JournalStore
namespace RaftLog

def parseBounds (data : Bytes) : List Nat := offsetsFrom 0 ((parseChunk data).1.map (·.2))

/-- What a crash may leave of the linked file `f`, each file independently: the content cut anywhere between
the durable and the written length (a process crash keeps everything written), or cut at a record boundary at
or above the durable length and followed by zero bytes within the written length. A modelling decision (crash model:
DESIGN.md §2), part of what C03 and C05 claim; the driver's `#legal` line checks the same two conditions
(`fsop cut`, `fsop zero` in `Driver/Main.lean`). -/
def CutOf (f g : File) : Prop :=
  g.id = f.id ∧ g.linked = true ∧ g.durable = g.data.length ∧
  ((∃ k, f.durable ≤ k ∧ k ≤ f.data.length ∧ g.data = f.data.take k) ∨
   (∃ b m, f.durable ≤ b ∧ b ∈ parseBounds f.data ∧ 1 ≤ m ∧ m ≤ f.data.length - b ∧
      g.data = f.data.take b ++ List.replicate m 0))

inductive PairedBy (R : File → File → Prop) : List File → List File → Prop
  | nil : PairedBy R [] []
  | cons {a b : File} {l1 l2 : List File} : R a b → PairedBy R l1 l2 → PairedBy R (a :: l1) (b :: l2)

/-- The directories a crash of the process or the machine may leave. -/
def CrashImage (fs img : Fs) : Prop :=
  PairedBy CutOf (fs.filter (fun f => f.linked)) img

/-- A process crash: everything written survives. -/
def procCrash (fs : Fs) : Fs :=
  (fs.filter (fun f => f.linked)).map (fun f => { f with durable := f.data.length })

theorem PairedBy.map {R : File → File → Prop} {g : File → File} :
    ∀ {l : List File}, (∀ f ∈ l, R f (g f)) → PairedBy R l (l.map g)
  | [], _ => PairedBy.nil
  | f :: _, h => PairedBy.cons (h f List.mem_cons_self) (PairedBy.map fun x hx => h x (List.mem_cons_of_mem _ hx))

theorem procCrash_image (fs : Fs) (h : ∀ f ∈ fs, f.durable ≤ f.data.length) :
    CrashImage fs (procCrash fs) :=
  PairedBy.map fun f hf =>
    have ⟨h1, h2⟩ := List.mem_filter.mp hf
    ⟨rfl, h2, rfl, Or.inl ⟨f.data.length, h f h1, Nat.le_refl _, (List.take_length).symm⟩⟩

/-- A power failure at the worst moment: only what is known durable survives. -/
def powerCrash (fs : Fs) : Fs :=
  (fs.filter (fun f => f.linked)).map
    (fun f => { f with data := f.data.take f.durable, durable := (f.data.take f.durable).length })

theorem powerCrash_image (fs : Fs) (h : ∀ f ∈ fs, f.durable ≤ f.data.length) :
    CrashImage fs (powerCrash fs) :=
  PairedBy.map fun f hf =>
    have ⟨h1, h2⟩ := List.mem_filter.mp hf
    ⟨rfl, h2, rfl, Or.inl ⟨f.durable, Nat.le_refl _, h f h1, rfl⟩⟩

def cutFile (f : File) (km : Nat × Nat) : File :=
  { f with data := f.data.take km.1 ++ List.replicate km.2 0,
           durable := (f.data.take km.1 ++ List.replicate km.2 0).length }

def cutCrashL : List File → List (Nat × Nat) → List File
  | f :: fs, km :: kms => cutFile f km :: cutCrashL fs kms
  | _, _ => []

def cutCrash (fs : Fs) (kms : List (Nat × Nat)) : Fs := cutCrashL (fs.filter (fun f => f.linked)) kms

def cutOKFile (f : File) (km : Nat × Nat) : Bool :=
  f.linked && decide (f.durable ≤ km.1) && decide (km.1 ≤ f.data.length) &&
    (km.2 == 0 || (decide (km.1 ∈ parseBounds f.data) && decide (km.2 ≤ f.data.length - km.1)))

def cutOKL : List File → List (Nat × Nat) → Bool
  | [], [] => true
  | f :: fs, km :: kms => cutOKFile f km && cutOKL fs kms
  | _, _ => false

def cutOK (fs : Fs) (kms : List (Nat × Nat)) : Bool := cutOKL (fs.filter (fun f => f.linked)) kms

theorem cutCrash_image (fs : Fs) (kms : List (Nat × Nat)) (h : cutOK fs kms = true) :
    CrashImage fs (cutCrash fs kms) := by
  unfold CrashImage cutCrash
  unfold cutOK at h
  generalize fs.filter (fun f => f.linked) = l at h
  induction l generalizing kms with
  | nil =>
    cases kms with
    | nil => exact PairedBy.nil
    | cons km kms => simp [cutOKL] at h
  | cons f l ih =>
    cases kms with
    | nil => simp [cutOKL] at h
    | cons km kms =>
      simp only [cutOKL, Bool.and_eq_true] at h
      refine PairedBy.cons ?_ (ih kms h.2)
      obtain ⟨k, m⟩ := km
      simp only [cutOKFile, Bool.and_eq_true, Bool.or_eq_true, decide_eq_true_eq, beq_iff_eq] at h
      obtain ⟨⟨⟨⟨h1, h2⟩, h3⟩, h4⟩, _⟩ := h
      refine ⟨rfl, h1, rfl, ?_⟩
      rcases h4 with h4 | ⟨h4, h5⟩
      · left
        refine ⟨k, h2, h3, ?_⟩
        have h4' : m = 0 := h4
        simp [cutFile, h4']
      · by_cases hm : m = 0
        · left
          exact ⟨k, h2, h3, by simp [cutFile, hm]⟩
        · right
          exact ⟨k, m, h2, h4, by omega, h5, rfl⟩

theorem forall2_find_C3 {R : File → File → Prop} (hR : ∀ a b, R a b → b.id = a.id) (id : Nat) :
    ∀ {l1 l2 : List File}, PairedBy R l1 l2 →
      (∀ f, l1.find? (fun x => x.id == id) = some f →
        ∃ g, l2.find? (fun x => x.id == id) = some g ∧ R f g) ∧
      (l1.find? (fun x => x.id == id) = none → l2.find? (fun x => x.id == id) = none) := by
  intro l1 l2 h
  induction h with
  | nil => exact ⟨fun f hf => (by cases hf), fun _ => rfl⟩
  | @cons a b l1 l2 hab _ ih =>
    have hid := hR a b hab
    simp only [List.find?_cons, hid]
    cases hc : a.id == id with
    | true =>
      refine ⟨fun f hf => ?_, fun hn => (by cases hn)⟩
      injection hf with hf; subst hf
      exact ⟨b, rfl, hab⟩
    | false => exact ih

theorem find_filter_linked_C3 (fs : Fs) (id : Nat) {f : File} (h : fs.find id = some f)
    (hl : f.linked = true) :
    (fs.filter (fun f => f.linked)).find? (fun x => x.id == id) = some f := by
  unfold Fs.find at h
  induction fs with
  | nil => cases h
  | cons a rest ih =>
    simp only [List.find?_cons] at h
    cases hc : a.id == id with
    | true =>
      rw [hc] at h
      injection h with h; subst h
      simp only [List.filter_cons, hl, if_true, List.find?_cons, hc]
    | false =>
      rw [hc] at h
      by_cases ha : a.linked = true
      · simp only [List.filter_cons, ha, if_true, List.find?_cons, hc]
        exact ih h
      · simp only [List.filter_cons, ha, Bool.false_eq_true, if_false]
        exact ih h

theorem CrashImage.find {fs img : Fs} (h : CrashImage fs img) {id : Nat} {f : File}
    (hf : fs.find id = some f) (hl : f.linked = true) :
    ∃ g, img.find id = some g ∧ CutOf f g :=
  (forall2_find_C3 (R := CutOf) (fun _ _ hab => hab.1) id h).1 f (find_filter_linked_C3 fs id hf hl)

theorem CrashImage.all_linked {fs img : Fs} (h : CrashImage fs img) : ∀ g ∈ img, g.linked = true := by
  unfold CrashImage at h
  generalize fs.filter (fun f => f.linked) = l at h
  induction h with
  | nil => intro g hg; cases hg
  | @cons a b l1 l2 hab _ ih =>
    intro g hg
    rcases List.mem_cons.mp hg with e | e
    · subst e; exact hab.2.1
    · exact ih g e

theorem CrashImage.ids {fs img : Fs} (h : CrashImage fs img) :
    img.map (·.id) = (fs.filter (fun f => f.linked)).map (·.id) := by
  unfold CrashImage at h
  generalize fs.filter (fun f => f.linked) = l at h
  induction h with
  | nil => rfl
  | @cons a b l1 l2 hab _ ih => simp only [List.map_cons, ih, hab.1]

theorem linkedIds_eq_foldl_C3 (fs : Fs) :
    fs.linkedIds = ((fs.filter (fun f => f.linked)).map (·.id)).foldl (fun acc i => insertNat i acc) [] := by
  unfold Fs.linkedIds
  rw [List.foldl_map]

theorem CrashImage.linkedIds {fs img : Fs} (h : CrashImage fs img) : img.linkedIds = fs.linkedIds := by
  rw [linkedIds_eq_foldl_C3, linkedIds_eq_foldl_C3]
  have hall : img.filter (fun f => f.linked) = img := by
    apply List.filter_eq_self.mpr
    exact h.all_linked
  rw [hall, h.ids]

theorem AllWF.take {rs : List Record} (h : AllWF rs) (j : Nat) : AllWF (rs.take j) :=
  fun r hr => h r (List.mem_of_mem_take hr)

/-- The 28: 28 zero bytes read as the frame `SaveVote (0,0)` with stored checksum 0 (`zeros28`, Proofs/Parse.lean):
fewer are a torn record (`eof`), 28 or more a frame with a wrong checksum (`invalid`). -/
def ParsesToPrefix (rs : List Record) (data : Bytes) : Prop :=
  ∃ j, j ≤ rs.length ∧ ∃ e rest, parseChunk data = (sized (rs.take j), e, rest) ∧
    data = encAll (rs.take j) ++ rest ∧
    ((e = .clean ∧ rest = []) ∨
     (e = .eof ∧ rest ≠ [] ∧ j < rs.length ∧ ∃ r t, r.WF ∧ t ≠ [] ∧ rest ++ t = encRecord r) ∨
     (∃ m, 1 ≤ m ∧ rest = List.replicate m 0 ∧ e = if m < 28 then .eof else .invalid))

theorem prefix_parse_C3 {rs : List Record} (h : AllWF rs) : ∀ (d t : Bytes), d ++ t = encAll rs →
    ∃ j rest, j ≤ rs.length ∧ d = encAll (rs.take j) ++ rest ∧
      (j < rs.length → d.length < (encAll (rs.take (j + 1))).length) ∧
      ((rest = [] ∧ parseChunk d = (sized (rs.take j), .clean, [])) ∨
       (rest ≠ [] ∧ j < rs.length ∧ (∃ r t', r.WF ∧ t' ≠ [] ∧ rest ++ t' = encRecord r) ∧
          parseChunk d = (sized (rs.take j), .eof, rest))) := by
  induction rs with
  | nil =>
    intro d t hd
    have hd' : d = [] := (List.append_eq_nil_iff.mp hd).1
    subst hd'
    exact ⟨0, [], Nat.le_refl _, rfl, fun h => absurd h (by simp), Or.inl ⟨rfl, parseChunk_nil⟩⟩
  | cons r rs ih =>
    intro d t hd
    obtain ⟨hr, hrs⟩ := h.cons
    rw [encAll_cons] at hd
    rcases (split_prefix hd).symm with ⟨c', h1, h2⟩ | ⟨a', ha, h1⟩
    · obtain ⟨j, rest, hj, hc, hlen, hparse⟩ := ih hrs c' t h2
      refine ⟨j + 1, rest, by simp only [List.length_cons]; omega, ?_, ?_, ?_⟩
      · rw [h1, hc]; simp
      · intro hlt
        have := hlen (by simp only [List.length_cons] at hlt; omega)
        rw [h1]
        simp only [List.take_succ_cons, encAll_cons, List.length_append]
        omega
      · rcases hparse with ⟨e1, e2⟩ | ⟨e1, e2, e3, e4⟩
        · refine Or.inl ⟨e1, ?_⟩
          rw [h1, parseChunk_cons hr, e2]
          simp [sized]
        · refine Or.inr ⟨e1, by simp only [List.length_cons]; omega, e3, ?_⟩
          rw [h1, parseChunk_cons hr, e4]
          simp [sized]
    · -- `d` ends inside the first record: no record is complete
      have hlen : d.length < (encRecord r).length := by
        have := congrArg List.length h1
        have hpos : 0 < a'.length := List.length_pos_iff.mpr ha
        simp only [List.length_append] at this
        omega
      refine ⟨0, d, Nat.zero_le _, by simp, fun _ => ?_, ?_⟩
      · simp only [List.take_succ_cons, List.take_zero, encAll_cons, encAll_nil, List.append_nil]
        exact hlen
      · by_cases hdn : d = []
        · subst hdn
          exact Or.inl ⟨rfl, parseChunk_nil⟩
        · refine Or.inr ⟨hdn, by simp, ⟨r, a', hr, ha, h1⟩, ?_⟩
          have := parse_cut' (rs := []) AllWF.nil hr hdn ⟨a', ha, h1⟩
          simpa using this

theorem encAll_take_drop_C3 (rs : List Record) (i : Nat) :
    encAll rs = encAll (rs.take i) ++ encAll (rs.drop i) := by
  rw [← encAll_append, List.take_append_drop]

theorem mem_offsetsFrom_sizes_C3 {rs : List Record} : ∀ {start b : Nat},
    b ∈ offsetsFrom start (sizes rs) → ∃ i, i ≤ rs.length ∧ b = start + (encAll (rs.take i)).length := by
  induction rs with
  | nil =>
    intro start b hb
    simp only [sizes, List.map_nil, offsetsFrom, List.mem_singleton] at hb
    exact ⟨0, Nat.le_refl _, by simp [hb]⟩
  | cons r rs ih =>
    intro start b hb
    simp only [sizes, List.map_cons, offsetsFrom, List.mem_cons] at hb
    rcases hb with hb | hb
    · exact ⟨0, Nat.zero_le _, by simp [hb]⟩
    · obtain ⟨i, hi, e⟩ := ih hb
      refine ⟨i + 1, by simp only [List.length_cons]; omega, ?_⟩
      simp only [List.take_succ_cons, encAll_cons, List.length_append]
      omega

theorem prefix_parse_some_C3 {rs : List Record} (h : AllWF rs) {d t : Bytes} (hd : d ++ t = encAll rs) :
    ∃ j rest e, j ≤ rs.length ∧ d = encAll (rs.take j) ++ rest ∧
      parseChunk d = (sized (rs.take j), e, rest) := by
  obtain ⟨j, rest, hj, hdata, _, hp⟩ := prefix_parse_C3 h d t hd
  rcases hp with ⟨e1, e2⟩ | ⟨_, _, _, e4⟩
  · exact ⟨j, rest, .clean, hj, hdata, by rw [e2, e1]⟩
  · exact ⟨j, rest, .eof, hj, hdata, e4⟩

theorem bound_take_C3 {rs : List Record} (h : AllWF rs) {d t : Bytes} (hd : d ++ t = encAll rs)
    {b : Nat} (hb : b ∈ parseBounds d) :
    ∃ i, i ≤ rs.length ∧ b = (encAll (rs.take i)).length ∧ d.take b = encAll (rs.take i) := by
  obtain ⟨j, rest, e, hj, hdata, hparse⟩ := prefix_parse_some_C3 h hd
  rw [parseBounds, hparse, sized_map_snd] at hb
  obtain ⟨i, hi, hbi⟩ := mem_offsetsFrom_sizes_C3 hb
  rw [List.length_take] at hi
  have htt : (rs.take j).take i = rs.take i := by
    rw [List.take_take]; congr 1; omega
  rw [htt, Nat.zero_add] at hbi
  refine ⟨i, by omega, hbi, ?_⟩
  rw [hdata, encAll_take_drop_C3 (rs.take j) i, htt, List.append_assoc, hbi]
  exact List.take_left' rfl

theorem take_parses_C3 {rs : List Record} (h : AllWF rs) {d t : Bytes} (hd : d ++ t = encAll rs)
    (k : Nat) : ParsesToPrefix rs (d.take k) := by
  have hd' : d.take k ++ (d.drop k ++ t) = encAll rs := by
    rw [← List.append_assoc, List.take_append_drop]; exact hd
  obtain ⟨j, rest, hj, hdata, _, hp⟩ := prefix_parse_C3 h _ _ hd'
  rcases hp with ⟨e1, e2⟩ | ⟨e1, e2, e3, e4⟩
  · exact ⟨j, hj, .clean, [], by rw [e2], by rw [hdata, e1], Or.inl ⟨rfl, rfl⟩⟩
  · exact ⟨j, hj, .eof, rest, e4, hdata, Or.inr (Or.inl ⟨rfl, e1, e2, e3⟩)⟩

theorem zeros_parses_C3 {rs : List Record} (h : AllWF rs) {d t : Bytes} (hd : d ++ t = encAll rs)
    {b : Nat} (hb : b ∈ parseBounds d) {m : Nat} (hm : 1 ≤ m) :
    ParsesToPrefix rs (d.take b ++ List.replicate m 0) := by
  obtain ⟨i, hi, _, htake⟩ := bound_take_C3 h hd hb
  rw [htake]
  exact ⟨i, hi, _, _, parse_zero_tail' (h.take i) hm, rfl, Or.inr (Or.inr ⟨m, hm, rfl, rfl⟩)⟩

theorem cutOf_parses_C3 {rs : List Record} (h : AllWF rs) {f g : File} {t : Bytes}
    (hf : f.data ++ t = encAll rs) (hc : CutOf f g) : ParsesToPrefix rs g.data := by
  obtain ⟨_, _, _, hcut⟩ := hc
  rcases hcut with ⟨k, _, _, hg⟩ | ⟨b, m, _, hb, hm, _, hg⟩
  · rw [hg]; exact take_parses_C3 h hf k
  · rw [hg]; exact zeros_parses_C3 h hf hb hm

theorem encAll_take_le_C3 (rs : List Record) (i : Nat) :
    (encAll (rs.take i)).length ≤ (encAll rs).length := by
  rw [encAll_take_drop_C3 rs i, List.length_append]
  omega

theorem encAll_take_mono_C3 (rs : List Record) {i j : Nat} (hij : i ≤ j) :
    (encAll (rs.take i)).length ≤ (encAll (rs.take j)).length := by
  have := encAll_take_le_C3 (rs.take j) i
  rwa [List.take_take, Nat.min_eq_left hij] at this

theorem encAll_take_lt_C3 {rs : List Record} {i j : Nat} (hi : i ≤ rs.length) (hj : j < i) :
    (encAll (rs.take j)).length < (encAll (rs.take i)).length := by
  have e := congrArg List.length (encAll_take_drop_C3 (rs.take i) j)
  rw [List.take_take, Nat.min_eq_left (Nat.le_of_lt hj), List.length_append] at e
  have := encAll_length_pos (rs := (rs.take i).drop j)
    (List.ne_nil_of_length_pos (by rw [List.length_drop, List.length_take]; omega))
  omega

def ParsesLo (rs : List Record) (lo : Nat) (data : Bytes) : Prop :=
  ∃ j, j ≤ rs.length ∧ (∃ e rest, parseChunk data = (sized (rs.take j), e, rest)) ∧
    ∀ i, i ≤ rs.length → (encAll (rs.take i)).length ≤ lo → i ≤ j

theorem cutOf_parses_lo_C3 {rs : List Record} (h : AllWF rs) {f g : File} {t : Bytes}
    (hf : f.data ++ t = encAll rs) (hc : CutOf f g) : ParsesLo rs f.durable g.data := by
  obtain ⟨_, _, _, hcut⟩ := hc
  rcases hcut with ⟨k, hk1, hk2, hg⟩ | ⟨b, m, hb1, hb, hm, _, hg⟩
  · have hd : g.data ++ (f.data.drop k ++ t) = encAll rs := by
      rw [hg, ← List.append_assoc, List.take_append_drop]; exact hf
    obtain ⟨j, rest, hj, hdata, hlen, hp⟩ := prefix_parse_C3 h _ _ hd
    have hgl : g.data.length = k := by rw [hg, List.length_take]; omega
    refine ⟨j, hj, ?_, fun i hi hle => Nat.le_of_not_lt fun hlt => ?_⟩
    · rcases hp with ⟨e1, e2⟩ | ⟨_, _, _, e4⟩
      · exact ⟨.clean, [], e2⟩
      · exact ⟨.eof, rest, e4⟩
    · -- record `j` is cut, so it ends beyond the durable length; so does every later one
      have h1 := hlen (by omega)
      have h2 := encAll_take_mono_C3 rs (show j + 1 ≤ i from hlt)
      omega
  · obtain ⟨i0, hi0, hbi, htake⟩ := bound_take_C3 h hf hb
    refine ⟨i0, hi0, ⟨_, _, by rw [hg, htake]; exact parse_zero_tail' (h.take i0) hm⟩,
      fun i hi hle => Nat.le_of_not_lt fun hlt => ?_⟩
    have := encAll_take_lt_C3 hi hlt
    omega

theorem JInv.file_prefix_C3 {s : Store} {fs : Fs} {w : Worker} (hj : JInv s fs w) :
    ∀ offs ∈ s.chunks, ∃ rs, AllWF rs ∧ (∃ st rest, rs = .state st :: rest) ∧
      offsetsFrom (offs.headD 0) (recSizes rs) = offs ∧
      ∃ t, fdata fs (offs.headD 0) ++ t = encAll rs := by
  intro offs ho
  obtain ⟨rs, h1, h2, h3, h4⟩ := (hj.chunk_ok offs ho).1
  exact ⟨rs, h1, h2, h3, _, (List.append_assoc _ _ _).symm.trans h4⟩

theorem fdata_of_find_C3 {fs : Fs} {id : Nat} {f : File} (h : fs.find id = some f) :
    fdata fs id = f.data := by
  unfold fdata; rw [h]

end RaftLog
