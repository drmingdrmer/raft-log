/-
C15 across restarts: the store-level cache invariant (`CacheInv`: byte counter
exact, keys sorted, every resident key at or below `last`) while `open` replays
the retained journal — for ANY cache limits (entries may be evicted during
replay; compare `Proofs/ReplayCache.lean`, which needs enough room). Why it holds is said at
`CacheInv.replayStep` there.
-/
import RaftLogModel.Proofs.ReplayRestart
namespace RaftLog

theorem openStore_cacheInv (cfg : Cfg) {s : Store} {fs : Fs} {w : Worker} {r : RefLog}
    (h : RInv s fs w r) (hinf : ∀ id, w.inflight id = []) (hp : s.pending = [])
    (hlinked : fs.linkedIds = s.chunkIds) :
    ∃ s', openStore cfg fs = (.ok (s', { files := [⟨s.openId, prevLastOf s.closed⟩] }),
        fs.syncAll s.chunkIds, syncEvs s.chunkIds) ∧
      CacheInv s' := by
  obtain ⟨jc, jo, g, _, gr⟩ := h.rep
  obtain ⟨s', k0, _, hci, _⟩ :=
    openStore_inv_sm (P := fun ops sm => CacheInv sm ∧ HOK ops sm)
      (fun _ _ _ _ _ hP ha hi => ⟨hP.1.replayStep ha hi hP.2.head, hP.2.tail ha hi⟩)
      (fun _ _ _ h1 h2 h3 h4 _ _ hP => ⟨hP.1.of_fields h1 h3 h4, hP.2.of_fields h1 h2 h3⟩)
      cfg g h.j hinf hp hlinked
      ⟨emptyStore_cacheInv cfg, g.hok_empty gr cfg⟩
  exact ⟨s', k0, hci⟩

theorem restart_cacheInv {y : Sys} {r : RefLog} (h : CSys y r) (hc : y.Clean) (cfg' : Cfg) :
    ∀ s', ((y.step .drop).step (.openWith cfg')).store = some s' → CacheInv s' := by
  obtain ⟨s, c⟩ := h.quiescent hc
  obtain ⟨s2, ho, hci⟩ := openStore_cacheInv cfg' c.rinv c.inflight c.pending c.linked
  intro s' hs'
  rw [show (y.step .drop).step (.openWith cfg') = _ from congrArg (·.2.1) (c.open_eq ho)] at hs'
  cases hs'
  exact hci

end RaftLog
