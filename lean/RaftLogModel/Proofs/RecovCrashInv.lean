/-
C05: the crash invariant `CrashInvC5b y r W A E K` bundles what the crash theorems (C03 and C05) need of a
system state. It holds for a freshly opened store, is kept by every legal history, and holds again for the
system `open` builds on a crash image without torn predecessor (`recovered_CrashInv_C5b`) — so the theorems
apply along histories with any number of crash + recovery rounds.
-/
import RaftLogModel.Proofs.RecovSteps
import RaftLogModel.Proofs.RecovPayloadSys
namespace RaftLog

theorem cntW_head_C5b (st : RState) (n : Nat) : cntW [headOpC5b st n] = 0 := by
  simp [cntW, headOpC5b, JOp.isHead]

theorem mirrors_head_C5b {P : List JOp} {W' : List Op} {r' : RefLog} {st : RState} {l : Log} (n : Nat)
    (hrun : RefLog.run {} W' = some r') (hst : stRunO P {} = some st) (hl : idxRun P [] = some l)
    (h1 : st = r'.state) (h2 : logKeys l = entKeys r'.entries) :
    Mirrors (P ++ [headOpC5b st n]) W' := by
  refine ⟨r', hrun, ?_, l, ?_, h2⟩
  · rw [stRunO_append, hst]
    simp only [Option.bind_some, stRunO, headOpC5b, List.map_cons, List.map_nil, stRun, RState.apply, h1]
  · rw [idxRun_append, hl]
    simp only [Option.bind_some, idxRun, headOpC5b, idxLogO]

/-! `L'` is the replayed prefix `P` of the journal `L`, possibly followed by the head record of a fresh chunk; the
first `N0 + cntW P` writes survive. -/

theorem kept_cntW_C5b {P L' : List JOp} {st : RState} {oid : Nat}
    (hL' : KeptC5b P L' st oid) : cntW L' = cntW P := by
  rcases hL' with k | k
  · rw [k]
  · rw [k, cntW_append, cntW_head_C5b]; rfl

theorem kept_prefix_C5b {P L' P' : List JOp} {st : RState} {oid : Nat}
    (hL' : KeptC5b P L' st oid) (hP' : P' <+: L') :
    P' <+: P ∨ P' = P ++ [headOpC5b st oid] := by
  rcases hL' with k | k
  · rw [k] at hP'; exact Or.inl hP'
  · rw [k] at hP'; exact (List.prefix_concat_iff.mp hP').symm

theorem kept_take_C5b {L P L' : List JOp} {W : List Op} {N0 oid : Nat} {st : RState}
    (hP : P <+: L) (hL' : KeptC5b P L' st oid) (hN : W.length = N0 + cntW L) :
    (W.take (N0 + cntW P)).length = N0 + cntW L' ∧
    ∀ P', P' <+: P → (W.take (N0 + cntW P)).take (N0 + cntW P') = W.take (N0 + cntW P') := by
  refine ⟨?_, fun P' hP' => ?_⟩
  · rw [List.length_take, kept_cntW_C5b hL', hN]
    exact Nat.min_eq_left (Nat.add_le_add_left (cntW_prefix_le hP) N0)
  · rw [List.take_take, Nat.min_eq_left (Nat.add_le_add_left (cntW_prefix_le hP') N0)]

theorem HistG.recovered_C5b {L P L' : List JOp} {start : Nat} {W : List Op} {B E K N0 oid : Nat}
    {st : RState} (hh : HistG L start W B E K) (hpos : ∀ op ∈ L, 0 < op.seg.size) (hP : P <+: L)
    (hN : W.length = N0 + cntW L) (hB : B ≤ start + sizeSum P)
    (hL' : KeptC5b P L' st oid)
    (hhead : Mirrors (P ++ [headOpC5b st oid]) (W.take (N0 + cntW P))) :
    HistG L' start (W.take (N0 + cntW P)) B (start + sizeSum L') (N0 + cntW P) := by
  obtain ⟨N0', hN', hmir, hbd, _⟩ := hh
  obtain rfl : N0' = N0 := Nat.add_right_cancel (hN'.symm.trans hN)
  obtain ⟨hlen, htake⟩ := kept_take_C5b hP hL' hN
  have hPL : P <+: L' := by
    rcases hL' with k | k
    · rw [k]; exact List.prefix_refl _
    · rw [k]; exact List.prefix_append _ _
  refine ⟨N0', hlen, ?_, ?_, Or.inl ⟨L', List.prefix_refl _, rfl, by rw [kept_cntW_C5b hL']⟩⟩
  · intro P' hP' hB'
    rcases kept_prefix_C5b hL' hP' with e | e
    · rw [htake P' e]
      exact hmir P' (e.trans hP) hB'
    · rw [e, cntW_append, cntW_head_C5b, Nat.add_zero, htake P (List.prefix_refl _)]
      exact hhead
  · rcases hbd with e0 | ⟨Q, hQ, e0⟩
    · exact Or.inl e0
    · exact Or.inr ⟨Q, (prefix_of_sizeSum_le_C3b hQ hP hpos
        (Nat.le_of_add_le_add_left (e0 ▸ hB))).trans hPL, e0⟩

theorem LPayC5b.recovered {L P L' : List JOp} {W : List Op} {N0 oid : Nat} {st : RState}
    (h : LPayC5b L W N0) (hP : P <+: L) (hL' : KeptC5b P L' st oid) :
    LPayC5b L' (W.take (N0 + cntW P)) N0 := by
  obtain ⟨hN, hp⟩ := h
  obtain ⟨hlen, htake⟩ := kept_take_C5b hP hL' hN
  refine ⟨hlen, ?_⟩
  intro P' hP' r' l hr' hl e he p hop
  rcases kept_prefix_C5b hL' hP' with e0 | e0
  · rw [htake P' e0] at hr'
    exact hp P' (e0.trans hP) r' l hr' hl e he p hop
  · subst e0
    rw [cntW_append, cntW_head_C5b, Nat.add_zero, htake P (List.prefix_refl _)] at hr'
    -- the head record leaves the index map as it is
    obtain ⟨l1, k1, k2⟩ := idxRun_prefix hl
    simp only [idxRun, headOpC5b, idxLogO, Option.some.injEq] at k2
    subst k2
    rcases List.mem_append.mp hop with k3 | k3
    · exact hp P hP r' l1 hr' k1 e he p k3
    · simp only [List.mem_singleton, opAt, headOpC5b, JOp.mk.injEq] at k3
      cases k3.1

/-- The store `open` built on a crash image of a (ghost) store with write history `W` and marker `Bh`, seen at
store level: the first `n` writes reach `r'` and are its history, `A'` is its acknowledged position. -/
structure GhostRecoveredC5b (cfg' : Cfg) (W : List Op) (Bh : Nat) (s' : Store) (w' : Worker) (fs' : Fs) (n : Nat)
    (r' : RefLog) (A' : Nat) : Prop extends LimitsOf cfg' s' where
  run : RefLog.run {} (W.take n) = some r'
  hinv : HInv s' fs' w' r' (W.take n) Bh A' s'.openEnd n
  ack : Bh ≤ A'
  pinv : PInvC5b s' fs' w' r' (W.take n)
  linv : LInv s' fs' w'
  small : SmallJ s' fs' w'
  recov : ∃ jc' jo', RecovC5b s' w' fs' jc' jo'

/-- The store `open` returned on the prepared image (`PrepC5b`, `OpenedC5b`) of a ghost store: it keeps the marker and
has the first `n` writes as its history; its acknowledged position `A'` is at or beyond the marker. -/
theorem GhostRecoveredC5b.of_opened {G : Store} {fs : Fs} {w : Worker} {r : RefLog} {W : List Op}
    {Bh A E K : Nat} (hi : HInv G fs w r W Bh A E K) (hS : SmallJ G fs w) (hpay : JPayC5b G fs w W)
    {jc : List (Closed × List Record)} {jo : List Record} (g : RepG G fs w jc jo) {img : Fs} {stC : RState}
    {lC : Log} {g0 : File} {j : Nat} {rest : Bytes} {n : Nat} {r' : RefLog} {l : Log} {N0 : Nat}
    (hpp : PrepC5b G img jc jo W Bh A E K stC lC g0 j rest n r' l N0) {cfg' : Cfg} {s' : Store} {w' : Worker}
    {fs' : Fs} {jc' : List (Closed × List Record)} {jo' : List Record}
    (ho : OpenedC5b cfg' ((jc.map (·.1.id) ++ [G.openId]).headD 0)
      (flatOps jc ++ chunkOps G.openId (jo.take j)) r'.state l s' w' fs' jc' jo') :
    ∃ A', GhostRecoveredC5b cfg' W Bh s' w' fs' n r' A' := by
  have hhist := hpp.hist
  have hstP := hpp.parsed.stRunO
  have hidxP := hpp.parsed.idxRun
  have hrec := ho.recov
  have hst := ho.st
  have hkept := ho.kept
  have hkept' := ho.keptC5b
  have hP := hpp.isPrefix
  have hN := hpp.histLen
  have hn0 := hpp.n_eq
  have hrun := hpp.run
  have hkeys := hpp.keys
  have hB := hpp.marker
  have hjs : s'.jstart = G.jstart := by
    rw [ho.jstart, jstart_eq_headD_C5b G, ← g.closedEq, List.map_map]; rfl
  rw [← ho.st] at hstP
  rw [← ho.log] at hidxP hkeys
  -- `P`: the journal prefix `open` replayed
  generalize flatOps jc ++ chunkOps G.openId (jo.take j) = P at hP hn0 hB hstP hidxP hkept hkept'
  subst hn0
  have hpayG := hpay jc jo N0 g hN
  obtain ⟨hrinv, hsmall⟩ := hrec.rinv_of_prefix g hi.inv hS hP hstP hidxP hkept' hpp.wf hst hkeys
    (hpayG P hP r' s'.log hrun hidxP)
  have hg' := hrec.repG
  have hend' := hg'.journal_end_C3 hrinv.j
  have hh' := hhist.recovered_C5b (allOps_size_pos_C3 G jc jo) hP hN hB hkept'
    (mirrors_head_C5b s'.openId hrun hstP hidxP hst hkeys)
  rw [← hjs, hend'] at hh'
  -- the acknowledged position of the recovered store: the end of the replayed prefix
  have hsP : G.jstart + sizeSum P ≤ s'.openEnd ∧
      ((∀ f, fs'.find s'.openId = some f → f.durable = f.data.length) ∨
        G.jstart + sizeSum P ≤ s'.openId) := by
    rw [← hjs, ← hend']
    rcases hkept with ⟨k, hdur⟩ | ⟨k, hjo⟩
    · rw [k]; exact ⟨Nat.le_refl _, Or.inl hdur⟩
    · obtain ⟨f, _, F⟩ := hrec.openChunkFile
      have hl : s'.openEnd = s'.openId + (encAll jo').length := F.recs.lastOff_eq
      have hsz : sizeSum (allOps s' jc' jo') = sizeSum P + (encAll jo').length := by
        rw [k, sizeSum_append, hjo]
        simp [sizeSum, headOpC5b, sumNat]
      rw [← hend', hsz, ← Nat.add_assoc] at hl
      rw [hsz, ← Nat.add_assoc]
      exact ⟨Nat.le_add_right _ _, Or.inr (Nat.le_of_eq (Nat.add_right_cancel hl))⟩
  exact ⟨G.jstart + sizeSum P,
    { run := hrun
      hinv := ⟨hrinv, hrun, ⟨jc', jo', hg', hh'⟩, by rw [hjs]; exact hi.mark, Nat.le_trans hB hsP.1,
        hrec.dinv hsP.1 hsP.2⟩
      ack := hB
      pinv := ⟨hrinv, hrun, ⟨jc', jo', N0, hg', LPayC5b.recovered ⟨hN, hpayG⟩ hP hkept'⟩⟩
      linv := hrec.linv, small := hsmall, toLimitsOf := ho.toLimitsOf, recov := ⟨jc', jo', hrec⟩ }⟩

/-- `W`: the entry-level writes issued so far, reaching `r`. `A`: the acknowledged journal position (every byte
below it is durable). `(E, K)`: a tracked point of the history — journal end `E` when `K` writes had been issued;
if `E ≤ A`, recovery keeps at least `K` writes. The hidden `B` is the marker of `HSys`: the journal end after the
last purge that dropped chunks. -/
def CrashInvC5b (y : Sys) (r : RefLog) (W : List Op) (A E K : Nat) : Prop :=
  ∃ B, HSys y r W B A E K ∧ GSysC3b y r W A E K ∧ SmallSys y ∧ TSysC5b y r W

theorem CrashInvC5b.of_parts_LIFT {y y' : Sys} {r : RefLog} {W : List Op} {A E K : Nat}
    (h : CrashInvC5b y r W A E K) (hs : y'.store = y.store) (hf : y'.fs = y.fs)
    (hw : y'.worker = y.worker) : CrashInvC5b y' r W A E K := by
  simp only [CrashInvC5b, HSys, HCore, LSys, SysCovered, SysWF, GSysC3b, SmallSys, TSysC5b, hs, hf,
    hw] at h ⊢
  exact h

/-- The parts of the crash invariant, stated on the one live store `s`: outside this file the invariant is read through
these fields (`CrashInvC5b.store_LIFT`), not by opening its four conjuncts. -/
structure CrashPartsLIFT (y : Sys) (r : RefLog) (W : List Op) (A E K : Nat) (s : Store) : Prop where
  store : y.store = some s
  alive : y.worker.pc ≠ .dead
  hist : ∃ B, HInv s y.fs y.worker r W B A E K
  linked : LInv s y.fs y.worker
  covered : SysCovered y
  wf : y.worker.WF
  todo : y.worker.TodoOK
  ghost : ∃ Bh gs, GInvC3b s y.fs y.worker r W A E K Bh gs
  small : SmallJ s y.fs y.worker
  pay : ∃ T, TInvC5b s y.fs y.worker r W T

theorem CrashInvC5b.store_LIFT {y : Sys} {r : RefLog} {W : List Op} {A E K : Nat}
    (h : CrashInvC5b y r W A E K) : ∃ s, CrashPartsLIFT y r W A E K s := by
  obtain ⟨B, ⟨⟨s, hs, hd, hi⟩, ⟨s1, hs1, hli⟩, hcov, hswf⟩, ⟨s2, Bh, gs, hs2, hg⟩, hS, s3, T, hs3, hT⟩ := h
  rw [hs] at hs1 hs2 hs3
  cases hs1; cases hs2; cases hs3
  obtain ⟨hw, ht⟩ := hswf (by rw [hs]; exact Option.some_ne_none s)
  exact ⟨s, hs, hd, ⟨B, hi⟩, hli, hcov, hw, ht, ⟨Bh, gs, hg⟩, hS s hs, ⟨T, hT⟩⟩

theorem CrashPartsLIFT.inv {y : Sys} {r : RefLog} {W : List Op} {A E K : Nat} {s : Store}
    (p : CrashPartsLIFT y r W A E K s) : CrashInvC5b y r W A E K := by
  obtain ⟨B, hi⟩ := p.hist
  obtain ⟨Bh, gs, hg⟩ := p.ghost
  obtain ⟨T, hT⟩ := p.pay
  refine ⟨B, ⟨⟨s, p.store, p.alive, hi⟩, ⟨s, p.store, p.linked⟩, p.covered, fun _ => ⟨p.wf, p.todo⟩⟩,
    ⟨s, Bh, gs, p.store, hg⟩, fun s' hs' => ?_, ⟨s, T, p.store, hT⟩⟩
  cases p.store.symm.trans hs'
  exact p.small

theorem CrashInvC5b.alive_LIFT {y : Sys} {r : RefLog} {W : List Op} {A E K : Nat}
    (h : CrashInvC5b y r W A E K) : y.worker.pc ≠ .dead :=
  let ⟨_, p⟩ := h.store_LIFT; p.alive

theorem CrashInvC5b.covered_LIFT {y : Sys} {r : RefLog} {W : List Op} {A E K : Nat}
    (h : CrashInvC5b y r W A E K) : SysCovered y :=
  let ⟨_, p⟩ := h.store_LIFT; p.covered

theorem fresh_CrashInv_C5b (cfg : Cfg) : CrashInvC5b (Sys.fresh cfg) {} [] 0 0 0 :=
  ⟨0, fresh_HSys cfg, fresh_GSys_C3b cfg, fresh_SmallSys cfg, fresh_TSys_C5b cfg⟩

theorem run_CrashInv_C5b (steps : List Step) (y : Sys) (r r' : RefLog) (W : List Op) (A E K : Nat)
    (h : CrashInvC5b y r W A E K) (hsteps : ∀ st ∈ steps, st.journal = true)
    (hr : r.run (stepOps steps) = some r') (hwf : ∀ op ∈ stepOps steps, op.WF ∧ op.small)
    (hnd : (y.run steps).worker.pc ≠ .dead) :
    CrashInvC5b (y.run steps) r' (W ++ expandOps r (stepOps steps)) (y.ackRun steps A) E K := by
  obtain ⟨B, hh, hg, hS, hT⟩ := h
  exact ⟨y.markRun steps B, run_HSys steps y r r' W B A E K hh hsteps hr hwf hnd,
    run_GSys_C3b steps y r r' W B A E K hh hg hsteps hr hwf hnd,
    run_SmallSys_D12 steps y hh.rsys.J hh.rsys.pf hS hsteps (fun op hop => (hwf op hop).1) hnd,
    run_TSys_C5b steps y r r' W hT hsteps hr hwf hnd⟩

theorem CrashInvC5b.retarget {y : Sys} {r : RefLog} {W : List Op} {A E K : Nat}
    (h : CrashInvC5b y r W A E K) : ∃ s, y.store = some s ∧ CrashInvC5b y r W A s.openEnd W.length := by
  obtain ⟨B, hh, hg, hS, hT⟩ := h
  obtain ⟨s, hs, hh'⟩ := hh.retarget
  obtain ⟨s0, Bh, gs, hs0, hgi⟩ := hg
  rw [hs] at hs0; cases hs0
  exact ⟨s, hs, B, hh', ⟨s, Bh, gs, hs, hgi.retarget⟩, hS, hT⟩

theorem CrashInvC5b.csys {y : Sys} {r : RefLog} {W : List Op} {A E K : Nat}
    (h : CrashInvC5b y r W A E K) : CSys y r := by
  obtain ⟨s, p⟩ := h.store_LIFT
  obtain ⟨B, hi⟩ := p.hist
  exact ⟨⟨s, p.store, p.alive, hi.inv⟩, ⟨s, p.store, p.linked⟩⟩

theorem CrashInvC5b.smallSys {y : Sys} {r : RefLog} {W : List Op} {A E K : Nat}
    (h : CrashInvC5b y r W A E K) : SmallSys y := by
  obtain ⟨s, p⟩ := h.store_LIFT
  intro s' hs'
  cases p.store.symm.trans hs'
  exact p.small

/-- What the crash theorems use of a state with the crash invariant: the ghost store `G` (the
live store with the dropped chunks whose files are still linked put back) satisfies the history
and durability invariant with a marker at or below the acknowledged position; its files hold
small journals; payload mirroring; the linked files are exactly its chunks. -/
structure CrashGhostC5b (y : Sys) (r : RefLog) (W : List Op) (A E K : Nat) (s : Store) (cs : List Closed)
    (Bh : Nat) : Prop where
  store : y.store = some s
  hinv : HInv (s.liftC3b cs) y.fs y.worker r W Bh A E K
  ack : Bh ≤ A
  small : SmallJ (s.liftC3b cs) y.fs y.worker
  pay : JPayC5b (s.liftC3b cs) y.fs y.worker W
  live : ∀ id ∈ (s.liftC3b cs).chunkIds, y.fs.has id = true
  linked : y.fs.linkedIds = (s.liftC3b cs).chunkIds
  nodup : (Fs.ids y.fs).Nodup
  /-- the ids still to unlink, in the order they will be unlinked, are the ghost chunks (`GInvC3b.order`) -/
  order : y.worker.toRemove ++ s.removed = cs.map Closed.id

theorem CrashInvC5b.ghost {y : Sys} {r : RefLog} {W : List Op} {A E K : Nat}
    (h : CrashInvC5b y r W A E K) : ∃ s cs Bh, CrashGhostC5b y r W A E K s cs Bh := by
  obtain ⟨s, p⟩ := h.store_LIFT
  obtain ⟨Bh, gs, hgi⟩ := p.ghost
  obtain ⟨T, hT⟩ := p.pay
  exact ⟨s, ghostClosedC3b gs, Bh,
    { store := p.store, hinv := hgi.base, ack := hgi.ack, small := smallJ_lift_C5b p.small _
      pay := gpay_of_tsys_C5b ⟨s, T, p.store, hT⟩ s r A E K Bh gs p.store hgi
      live := hgi.live p.linked
      linked := by rw [liftC3b_chunkIds]; exact hgi.linkedIds p.linked
      nodup := p.linked.nodup, order := hgi.order }⟩

/-- The system `open` built on a crash image without torn predecessor of a system with the crash invariant and
write history `W`: the first `n` writes reach `r'` and are its history; it satisfies the crash invariant again
(acknowledged position `A'`, tracked position: its journal end and `n`) and is clean. -/
structure RecoveredC5b (cfg' : Cfg) (W : List Op) (s' : Store) (w' : Worker) (fs' : Fs) (n : Nat) (r' : RefLog)
    (A' : Nat) : Prop extends LimitsOf cfg' s' where
  run : RefLog.run {} (W.take n) = some r'
  inv : CrashInvC5b (recoveredSysC5b cfg' s' w' fs') r' (W.take n) A' s'.openEnd n
  wf : SysWF (recoveredSysC5b cfg' s' w' fs')
  covered : SysCovered (recoveredSysC5b cfg' s' w' fs')
  clean : (recoveredSysC5b cfg' s' w' fs').Clean
  tinv : TInvC5b s' fs' w' r' (W.take n) []
  worker : ∃ pl, w' = { files := [⟨s'.openId, pl⟩] }

theorem GhostRecoveredC5b.recovered {cfg' : Cfg} {W : List Op} {Bh : Nat} {s' : Store} {w' : Worker} {fs' : Fs}
    {n : Nat} {r' : RefLog} {A' : Nat} (R : GhostRecoveredC5b cfg' W Bh s' w' fs' n r' A') :
    RecoveredC5b cfg' W s' w' fs' n r' A' := by
  obtain ⟨jc', jo', hrec⟩ := R.recov
  have htr := hrec.toRemove
  have hpc := hrec.idle
  obtain ⟨pl, hw⟩ := hrec.worker
  have hnd : w'.pc ≠ .dead := by rw [hpc]; intro e; cases e
  have hwfS : SysWF (recoveredSysC5b cfg' s' w' fs') := by
    intro _
    constructor
    · show Worker.WF w'
      rw [hw]; simp [Worker.WF]
    · exact .of_not_writing (by intro todo b t e; rw [hw] at e; cases e)
  have hunl : UnlPostC3b w' := by
    intro ids hu; rw [hpc] at hu; cases hu
  have hq : w'.queue = [] := by rw [hw]
  have hrm : w'.toRemove ++ s'.removed = [] := by rw [htr, hrec.removed]; rfl
  have hT : TInvC5b s' fs' w' r' (W.take n) [] :=
    ⟨by rw [Store.liftC3b_nil]; exact R.pinv, ⟨[], hrm.symm⟩, hunl⟩
  have hH : HSys (recoveredSysC5b cfg' s' w' fs') r' (W.take n) Bh A' s'.openEnd n :=
    ⟨⟨s', rfl, hnd, R.hinv⟩, ⟨s', rfl, R.linv⟩, hrec.covered, hwfS⟩
  have hG : GSysC3b (recoveredSysC5b cfg' s' w' fs') r' (W.take n) A' s'.openEnd n :=
    ⟨s', Bh, [], rfl, R.hinv, (fun p hp => by cases hp), hrm, R.ack, List.Pairwise.nil,
      (fun p hp => by cases hp), hunl⟩
  have hS : SmallSys (recoveredSysC5b cfg' s' w' fs') := by
    intro s2 hs2
    have : s2 = s' := by
      simp only [recoveredSysC5b, Option.some.injEq] at hs2; exact hs2.symm
    subst this; exact R.small
  have hclean : (recoveredSysC5b cfg' s' w' fs').Clean :=
    ⟨s', rfl, by simp [recoveredSysC5b, Worker.quiet, hpc, hq], hrec.pending, hrec.removed,
      by simp [recoveredSysC5b, hw]⟩
  exact
    { run := R.run, inv := ⟨Bh, hH, hG, hS, ⟨s', [], rfl, hT⟩⟩, wf := hwfS, covered := hrec.covered
      clean := hclean, toLimitsOf := R.toLimitsOf, tinv := hT
      worker := hrec.worker }

/-- The ghost store of a system with the crash invariant, its journal, and what `open` will replay of a crash image
without torn predecessor. -/
theorem CrashInvC5b.prep {y : Sys} {r : RefLog} {W : List Op} {A E K : Nat}
    (h : CrashInvC5b y r W A E K) {img : Fs} (hc : CrashImage y.fs img) (hnt : NoTornPredecessor img) :
    ∃ s cs Bh jc jo stC lC g0 j rest n r' l N0, CrashGhostC5b y r W A E K s cs Bh ∧
      RepG (s.liftC3b cs) y.fs y.worker jc jo ∧
      PrepC5b (s.liftC3b cs) img jc jo W Bh A E K stC lC g0 j rest n r' l N0 := by
  obtain ⟨s, cs, Bh, G⟩ := h.ghost
  obtain ⟨jc, jo, g, hhist⟩ := G.hinv.hist
  obtain ⟨stC, lC, g0, j, rest, n, r', l, N0, hpp⟩ :=
    ghost_prep_C5b g G.hinv.inv.j hhist G.ack (G.hinv.dur.live_durable_C3 g) G.live G.linked G.nodup hc hnt
  exact ⟨s, cs, Bh, jc, jo, stC, lC, g0, j, rest, n, r', l, N0, G, g, hpp⟩

/-- The crash invariant holds again after crash + recovery. -/
theorem recovered_CrashInv_C5b {y : Sys} {r : RefLog} {W : List Op} {A E K : Nat}
    (h : CrashInvC5b y r W A E K) {img : Fs} (hc : CrashImage y.fs img) (hnt : NoTornPredecessor img)
    (cfg' : Cfg) (ht : cfg'.truncate = true) :
    ∃ s' w' fs' evs n r' A', openStore cfg' img = (.ok (s', w'), fs', evs) ∧ (E ≤ A → K ≤ n) ∧
      RecoveredC5b cfg' W s' w' fs' n r' A' := by
  obtain ⟨s, cs, Bh, jc, jo, stC, lC, g0, j, rest, n, r', l, N0, G, g, hpp⟩ := h.prep hc hnt
  obtain ⟨s', w', fs', evs, jc', jo', hopen, ho⟩ := openStore_image_C5b cfg' ht hpp.parsed
  obtain ⟨A', R⟩ := GhostRecoveredC5b.of_opened G.hinv G.small G.pay g hpp ho
  exact ⟨s', w', fs', evs, n, r', A', hopen, hpp.covers, R.recovered⟩

/-- C03 from the crash invariant: whenever `open` (any configuration) succeeds on a crash
image, the recovered state and index keys are those of a prefix of the writes. -/
theorem crash_prefix_of_CrashInv_C5b {y : Sys} {r : RefLog} {W : List Op} {A E K : Nat}
    (h : CrashInvC5b y r W A E K) {img : Fs} (hc : CrashImage y.fs img) (cfg' : Cfg)
    {s' : Store} {w' : Worker} {fs' : Fs} {evs : List Ev}
    (hopen : openStore cfg' img = (.ok (s', w'), fs', evs)) :
    ∃ n r', RefLog.run {} (W.take n) = some r' ∧ s'.st = r'.state ∧
      logKeys s'.log = entKeys r'.entries ∧ (E ≤ A → K ≤ n) := by
  obtain ⟨B, hh, hg, _, _⟩ := h
  exact crash_prefix_ghost_C3b hh hg hc cfg' hopen

theorem noTorn_of_CrashInv_C5b {y : Sys} {r : RefLog} {W : List Op} {A E K : Nat}
    (h : CrashInvC5b y r W A E K) {s : Store} (hs : y.store = some s) (hA : s.openId ≤ A)
    {img : Fs} (hc : CrashImage y.fs img) : NoTornPredecessor img := by
  obtain ⟨s0, cs, Bh, G⟩ := h.ghost
  obtain rfl : s0 = s := Option.some.inj (G.store.symm.trans hs)
  obtain ⟨jc, jo, g, _⟩ := G.hinv.hist
  exact noTorn_of_acked_C5b g G.hinv.inv.j (G.hinv.dur.live_durable_C3 g) G.live G.linked (by simpa using hA) hc

theorem recovery_steps_of_CrashInv_C5b {y : Sys} {r : RefLog} {W : List Op} {A E K : Nat}
    (h : CrashInvC5b y r W A E K) {img : Fs} (hc : CrashImage y.fs img) (hnt : NoTornPredecessor img)
    (cfg' cfg'' : Cfg) (ht : cfg'.truncate = true) (ht'' : cfg''.truncate = true) :
    ∃ s' w' fs' evs, openStore cfg' img = (.ok (s', w'), fs', evs) ∧ openEffsC5b evs img = fs' ∧
      ∀ k X', CrashImage (openEffsC5b (evs.take k) img) X' →
        ∃ s'' w'' fs'' evs'', openStore cfg'' X' = (.ok (s'', w''), fs'', evs'') ∧
          s''.st = s'.st ∧ s''.log = s'.log := by
  obtain ⟨s, cs, Bh, G⟩ := h.ghost
  obtain ⟨jc, jo, g, hhist⟩ := G.hinv.hist
  obtain ⟨stC, lC, g0, j, rest, n, r', l, N0, hpp⟩ :=
    ghost_prep_C5b g G.hinv.inv.j hhist G.ack (G.hinv.dur.live_durable_C3 g) G.live G.linked G.nodup hc hnt
  obtain ⟨s', w', fs', evs, q1, q2, q3, q4, q5⟩ := openStore_image_steps_C5b cfg' cfg'' ht ht'' hpp.parsed
  refine ⟨s', w', fs', evs, q1, q4, ?_⟩
  intro k X' hcx
  obtain ⟨s'', w'', fs'', evs'', r1, r2, r3⟩ := q5 k X' hcx
  exact ⟨s'', w'', fs'', evs'', r1, by rw [r2, q2], by rw [r3, q3]⟩

theorem reach_CrashInv_C5b (cfg : Cfg) (steps : List Step) (r : RefLog)
    (hsteps : ∀ st ∈ steps, st.journal = true)
    (hlegal : RefLog.run {} (stepOps steps) = some r)
    (hwf : ∀ op ∈ stepOps steps, op.WF ∧ op.small)
    (halive : ((Sys.fresh cfg).run steps).worker.pc ≠ .dead) :
    CrashInvC5b ((Sys.fresh cfg).run steps) r (expandOps {} (stepOps steps))
      ((Sys.fresh cfg).ackRun steps 0) 0 0 := by
  simpa using run_CrashInv_C5b steps (Sys.fresh cfg) {} r [] 0 0 0 (fresh_CrashInv_C5b cfg) hsteps
    hlegal hwf halive

theorem reach_CrashInv_at_C5b (cfg : Cfg) (pre post : List Step) (r : RefLog)
    (hsteps : ∀ st ∈ pre ++ post, st.journal = true)
    (hlegal : RefLog.run {} (stepOps (pre ++ post)) = some r)
    (hwf : ∀ op ∈ stepOps (pre ++ post), op.WF ∧ op.small)
    (halive : ((Sys.fresh cfg).run (pre ++ post)).worker.pc ≠ .dead) :
    ∃ s1, ((Sys.fresh cfg).run pre).store = some s1 ∧
      CrashInvC5b ((Sys.fresh cfg).run (pre ++ post)) r (expandOps {} (stepOps (pre ++ post)))
        ((Sys.fresh cfg).ackRun (pre ++ post) 0) s1.openEnd (expandOps {} (stepOps pre)).length := by
  obtain ⟨s1, hs1, hh, hg⟩ := reach_ghost_at_C3b cfg pre post r hsteps hlegal hwf halive
  obtain ⟨_, _, _, hS, hT⟩ := reach_CrashInv_C5b cfg (pre ++ post) r hsteps hlegal hwf halive
  exact ⟨s1, hs1, _, hh, hg, hS, hT⟩

theorem crash_image_fsSmall_C5b {y : Sys} {r : RefLog} {W : List Op} {A E K : Nat}
    (h : CrashInvC5b y r W A E K) {img : Fs} (hc : CrashImage y.fs img) : FsSmall img := by
  exact h.smallSys.crash_fsSmall h.csys.1.J h.csys.2 hc

theorem crash_open_no_panic_C5b {y : Sys} {r : RefLog} {W : List Op} {A E K : Nat}
    (h : CrashInvC5b y r W A E K) {img : Fs} (hc : CrashImage y.fs img) (cfg' : Cfg) :
    ∀ m, (openStore cfg' img).1 ≠ .panic m :=
  openStore_no_panic cfg' img (crash_image_fsSmall_C5b h hc)

end RaftLog
