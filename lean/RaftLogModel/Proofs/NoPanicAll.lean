/-
C16 for every well-formed argument (D12): `append` (per entry) and `purge` refuse a log id whose index is
u64::MAX with `InvalidInput`, so no argument the Rust types admit (u64 ids, u32 payload lengths) reaches a
panic branch. No reference log, no `Op.small`: `call_ok_D12` at store level, `PFSys_D12` along every history
(`PanicFree` is an invariant of the store alone: `Sys.step_store`); for the chains that carry `PanicFree`
beside the journal invariant, `PanicFree.frame` and `PanicFree.callerInv`.
-/
import RaftLogModel.Proofs.ReplaySys
import RaftLogModel.Proofs.StoreSys
namespace RaftLog

theorem Op.WF.indexU64 {op : Op} (h : op.WF) : op.indexU64 := by
  cases op with
  | append es => exact fun e he => (h e he).1.2
  | purge id => exact h.2
  | _ => trivial

theorem call_ok_D12 {s : Store} (fsHas : Nat → Bool) (op : Op) (hp : PanicFree s) (hop : op.WF) :
    (∀ m, (s.call fsHas op).1 ≠ .panic m) ∧ PanicFree (s.call fsHas op).2.1 :=
  call_no_panic fsHas op hp hop.indexU64

def PFSys_D12 (y : Sys) : Prop := ∀ s, y.store = some s → PanicFree s

theorem RSys.pf {y : Sys} {r : RefLog} (h : RSys y r) : PFSys_D12 y :=
  fun _ hs => (Sys.Live.of_store (I := fun s fs w => RInv s fs w r) h hs).2.abs.pf

theorem fresh_PFSys_D12 (cfg : Cfg) : PFSys_D12 (Sys.fresh cfg) := by
  rw [Sys.fresh_eq]
  intro s hs
  cases hs
  exact .fresh cfg

theorem Sys.call_panic_D12 (y : Sys) (op : Op) (m : String) (h : (y.call op).1 = .panic m) :
    ∃ s, y.store = some s ∧ (s.call y.fs.has op).1 = .panic m := by
  cases hs : y.store with
  | none => simp only [Sys.call, hs] at h; cases h
  | some s =>
    refine ⟨s, rfl, ?_⟩
    rw [y.call_result op hs] at h
    split at h
    · exact h
    · split at h
      · rename_i m' hm'
        rw [hm']; exact h
      · cases h

/-- No hypothesis on the worker: it may die. -/
theorem PFSys_D12.step {y : Sys} (h : PFSys_D12 y) (st : Step) (hst : st.journal = true)
    (hwf : ∀ op, st = .call op → op.WF) : PFSys_D12 (y.step st) :=
  Sys.step_store (I := PanicFree) (fun _ op hop hp => (call_ok_D12 _ op hp hop).2)
    (fun _ _ _ _ _ _ _ hp => hp.of_fields rfl rfl rfl) h
    (Step.live_of_journal hst) hwf

theorem PFSys_D12.call {y : Sys} (h : PFSys_D12 y) (op : Op) (hop : op.WF) :
    PFSys_D12 (y.call op).2.1 ∧ ∀ m, (y.call op).1 ≠ .panic m :=
  ⟨h.step (.call op) rfl fun _ e => Step.call.inj e ▸ hop, fun m hm =>
    (Sys.call_panic_D12 y op m hm).elim fun s hs => (call_ok_D12 y.fs.has op (h s hs.1) hop).1 m hs.2⟩

theorem PFSys_D12.worker {y : Sys} (h : PFSys_D12 y) (out : Outcome) :
    PFSys_D12 (y.workerStep out).1 :=
  h.step (.worker out) rfl fun _ e => nomatch e

theorem PFSys_D12.workerIdle {y : Sys} (h : PFSys_D12 y) : PFSys_D12 y.workerIdle.1 :=
  h.step .workerIdle rfl fun _ e => nomatch e

theorem run_PFSys_D12 (steps : List Step) (y : Sys) (h : PFSys_D12 y)
    (hst : ∀ st ∈ steps, st.journal = true) (hwf : ∀ op ∈ stepOps steps, op.WF) :
    PFSys_D12 (y.run steps) :=
  Sys.run_induct (C := fun st => st ∈ steps) (fun _ st hm h =>
    h.step st (hst st hm) (fun op e => hwf op (mem_stepOps.2 (e ▸ hm)))) h (fun _ hm => hm)

theorem PanicFree.frame : SysFrame fun s fs w => JInv s fs w ∧ PanicFree s :=
  JInv.frame.and (K := fun s _ _ => PanicFree s) (fun _ _ hp => hp.of_fields rfl rfl rfl)
    (fun _ hp => hp) (fun _ _ hp _ _ => hp.of_fields rfl rfl rfl) (fun _ hp => hp.of_fields rfl rfl rfl)

theorem PanicFree.callerInv :
    CallerInv (fun s fs w => JInv s fs w ∧ PanicFree s) fun _ r => r.WF ∧ RecSmall r :=
  (JInv.callerInv.mono And.left).and (K := fun s _ _ => PanicFree s)
    (fun _ hp hg hst => hp.applied hg.2 hst) (fun _ hp _ => hp.rotated)
    (fun _ _ hg hn => absurd hn (applyIndex_ne_none hg.2.1 _ _))
    (fun _ _ hp => hp.of_fields rfl rfl rfl)

theorem history_no_panic_D12 (steps : List Step) (y : Sys) (hp : PFSys_D12 y)
    (hsteps : ∀ st ∈ steps, st.journal = true) (hwf : ∀ op ∈ stepOps steps, op.WF) :
    ∀ pre op post, steps = pre ++ .call op :: post →
      (∀ m, ((y.run pre).call op).1 ≠ .panic m) ∧ PFSys_D12 (y.run pre) := by
  intro pre op post hsplit
  subst hsplit
  have hpre : PFSys_D12 (y.run pre) :=
    run_PFSys_D12 pre y hp (fun st hst => hsteps st (List.mem_append_left _ hst))
      (fun o ho => hwf o (mem_stepOps.2 (List.mem_append_left _ (mem_stepOps.1 ho))))
  exact ⟨(hpre.call op (hwf op (mem_stepOps.2 (by simp)))).2, hpre⟩

end RaftLog
