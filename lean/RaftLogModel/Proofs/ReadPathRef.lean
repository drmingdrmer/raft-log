/-
`RefinesNoCache`: `Refines` without "every live entry is resident" and "the cache is within its limits" (C07):
`Abs` plus the cache invariant. It is kept by every legal, accepted, small call for ANY cache limits
(`call_refinesNC`, by `call_accepted` of Proofs/CallRef.lean).
-/
import RaftLogModel.Proofs.CallRef
namespace RaftLog

/-- `Refines` without residency and without the no-pressure clause. -/
structure RefinesNoCache (s : Store) (r : RefLog) : Prop where
  st : s.st = r.state
  log : s.log.map (fun e => (e.1, e.2.id)) = r.entries.map (fun e => (e.1.index, e.1))
  wf : r.WF
  cinv : CacheInv s
  pf : PanicFree s

theorem Refines.noCache {s : Store} {r : RefLog} (h : Refines s r) : RefinesNoCache s r :=
  ⟨h.st, h.log, h.wf, h.cinv, h.pf⟩
theorem RefinesNoCache.abs {s : Store} {r : RefLog} (h : RefinesNoCache s r) : Abs s r :=
  ⟨h.st, h.log, h.wf, h.pf⟩

theorem RefLog.WF.payload_unique {r : RefLog} (h : r.WF) {id : LogId} {p q : Bytes}
    (hp : (id, p) ∈ r.entries) (hq : (id, q) ∈ r.entries) : p = q := by
  rcases pairwise_mem_cases h.mono hp hq with h1 | h1 | h1
  · injection h1
  · have := h1.1; simp [LogId.lt_irrefl] at this
  · have := h1.1; simp [LogId.lt_irrefl] at this

theorem RefinesNoCache.of_abs {s : Store} {r : RefLog} (h : Abs s r) (hc : CacheInv s) : RefinesNoCache s r :=
  ⟨h.st, h.log, h.wf, hc, h.pf⟩

theorem RefinesNoCache.applied {s : Store} {r r' : RefLog} {rec : Record} (h : RefinesNoCache s r)
    (ok : StepOK s r r' rec) : RefinesNoCache (s.applied rec r'.state) r' :=
  .of_abs (h.abs.applied ok) (h.cinv.applied ok.hst fun x hx => by subst hx; exact ok.check)

theorem RefinesNoCache.rotated {s : Store} {r : RefLog} (h : RefinesNoCache s r) :
    RefinesNoCache s.rotated r :=
  .of_abs h.abs.rotated (h.cinv.of_fields rfl rfl rfl)

theorem RefinesNoCache.of_fields {s s2 : Store} {r : RefLog} (h : RefinesNoCache s r)
    (h1 : s2.st = s.st) (h2 : s2.log = s.log) (h3 : s2.cache = s.cache)
    (h4 : s2.openOffsets = s.openOffsets) : RefinesNoCache s2 r :=
  .of_abs (h.abs.of_fields h1 h2 h4) (h.cinv.of_fields h1 (by rw [h3]) (by rw [h3]))

theorem RefinesNoCache.of_same {s : Store} {r : RefLog} {c : Cache} (h : RefinesNoCache s r)
    (hs : SameItems c s.cache) : RefinesNoCache { s with cache := c } r :=
  .of_abs (h.abs.of_fields rfl rfl rfl) (h.cinv.of_fields rfl hs.1 hs.2.1)

theorem RefinesNoCache.drain {s : Store} {r : RefLog} (h : RefinesNoCache s r) :
    RefinesNoCache { s with cache := s.cache.drainEvictable } r :=
  .of_abs (h.abs.of_fields rfl rfl rfl) h.cinv.drain

theorem call_refinesNC {s : Store} {r r' : RefLog} (fsHas : Nat → Bool) {op : Op}
    (h : RefinesNoCache s r) (hfs : ∀ i, s.openEnd ≤ i → fsHas i = false)
    (hl : r.legal op = true) (hc : r.call op = .ok r') (hsm : op.small) :
    ∃ seg s' effs, s.call fsHas op = (.ok seg, s', effs) ∧ RefinesNoCache s' r' ∧
      Growth0 s s' effs :=
  call_accepted (I := fun r s _ _ => RefinesNoCache s r) (fs := []) (w := { files := [], pc := .dead })
    fsHas RefinesNoCache.abs (fun h ok _ => h.applied ok) (fun h _ => h.rotated)
    (fun _ h _ => h.of_fields rfl rfl rfl rfl) h hfs hl hc hsm

end RaftLog
