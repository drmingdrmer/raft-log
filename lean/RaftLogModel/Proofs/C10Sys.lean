/-
C10 at the system level. The newest linked chunk file of a clean system is replaced by `encAll rs1 ++ tail`,
where `rs1` is a non-empty prefix of its record list and `tail` is a torn tail: what `open` does for both
settings of `truncate`, and what it does on the undamaged shorter file `encAll rs1`: `NewestSplitC10S` (the newest
chunk split at a record boundary), `sys_torn_newestC10S`. Also `Abs.call_accepted`, nothing of C10 in it:
`call_accepted` (Proofs/CallRef.lean) for the invariant `Abs` alone.
-/
import RaftLogModel.Proofs.C09Sys
import RaftLogModel.Proofs.CallRef
namespace RaftLog

/-- File `c` is cut to `k` bytes (`fs.truncate c k`, which is also what the Driver's
`fsop cut c k` calls). -/
def Fs.cutC10S (fs : Fs) (c k : Nat) : Fs := fs.truncate c k

/-- The bytes of file `c` from position `b` on are replaced by `m` zero bytes; the Driver's
`fsop zero c b m` has its own copy of this update. -/
def Fs.zeroC10S (fs : Fs) (c b m : Nat) : Fs :=
  fs.update c fun f =>
    { f with data := f.data.take b ++ List.replicate m 0, durable := min f.durable b }

/-- What `Fs.cutC10S` and `Fs.zeroC10S` do to the one file they touch. -/
def File.cutC10S (k : Nat) (x : File) : File :=
  { x with data := x.data.take k, durable := min x.durable k }

def File.zeroC10S (b m : Nat) (x : File) : File :=
  { x with data := x.data.take b ++ List.replicate m 0, durable := min x.durable b }

theorem encAll_take_boundaryC10S (rs : List Record) (j : Nat) :
    (encAll rs).take (encAll (rs.take j)).length = encAll (rs.take j) := by
  have e : encAll rs = encAll (rs.take j) ++ encAll (rs.drop j) := by
    rw [← encAll_append, List.take_append_drop]
  rw [e]
  exact List.take_left' rfl

theorem take_insideC10S (rs : List Record) (hwf : AllWF rs) (j k : Nat)
    (h1 : (encAll (rs.take j)).length < k) (h2 : k < (encAll (rs.take (j + 1))).length) :
    ∃ r pfx, r ∈ rs ∧ r.WF ∧ (encAll rs).take k = encAll (rs.take j) ++ pfx ∧
      (pfx ≠ [] ∧ ∃ t, t ≠ [] ∧ pfx ++ t = encRecord r) ∧
      pfx.length = k - (encAll (rs.take j)).length := by
  have hj : j < rs.length := Nat.lt_of_not_le fun hn => by
    rw [List.take_of_length_le hn] at h1
    rw [List.take_of_length_le (by omega)] at h2
    omega
  have hrs : rs = rs.take j ++ rs[j] :: rs.drop (j + 1) := by
    rw [← List.drop_eq_getElem_cons hj, List.take_append_drop]
  rw [List.take_succ_eq_append_getElem hj, encAll_append, encAll_cons, encAll_nil,
    List.append_nil, List.length_append] at h2
  have hk : k = (encAll (rs.take j)).length + (k - (encAll (rs.take j)).length) := by omega
  have hmem : rs[j] ∈ rs := List.getElem_mem hj
  refine ⟨rs[j], (encRecord rs[j]).take (k - (encAll (rs.take j)).length), hmem, hwf _ hmem, ?_,
    strict_prefix_take (by omega) (by omega), by rw [List.length_take]; omega⟩
  conv => lhs; rw [hrs, hk]
  exact encAll_take_inside _ _ _ (by omega)

theorem take_ne_nil_of_headC10S {rs : List Record} (h : ∃ st tl, rs = .state st :: tl) {j : Nat}
    (hj : 1 ≤ j) : rs.take j ≠ [] := by
  obtain ⟨st, tl, rfl⟩ := h
  cases j with
  | zero => omega
  | succ j' => simp

theorem Abs.call_accepted {s : Store} {r r' : RefLog} (fsHas : Nat → Bool) {op : Op} (h : Abs s r)
    (hfs : ∀ i, s.openEnd ≤ i → fsHas i = false) (hl : r.legal op = true) (hc : r.call op = .ok r')
    (hsm : op.small) : ∃ seg s' effs, s.call fsHas op = (.ok seg, s', effs) ∧ Abs s' r' :=
  let ⟨seg, s', effs, e, h', _⟩ :=
    RaftLog.call_accepted (I := fun r s _ _ => Abs s r) (fs := []) (w := { files := [], pc := .dead })
      fsHas id (fun h ok _ => h.applied ok) (fun h _ => h.rotated)
      (fun _ h _ => h.of_fields rfl rfl rfl) h hfs hl hc hsm
  ⟨seg, s', effs, e, h'⟩

/-- What "every other file is as before, up to the sync marks" means below. -/
def sameBytesC10S (a b : Option File) : Prop :=
  a.map (fun g => (g.id, g.data, g.linked)) = b.map (fun g => (g.id, g.data, g.linked))

theorem sameBytes_syncAllC10S (fs : Fs) (ids : List Nat) (id : Nat) :
    sameBytesC10S ((fs.syncAll ids).find id) (fs.find id) :=
  Fs.find_syncAll_map _ (fun _ => rfl) fs ids id

theorem sameBytes_hasC10S {fs1 fs2 : Fs} {i : Nat} (h : sameBytesC10S (fs1.find i) (fs2.find i)) :
    fs1.has i = fs2.has i := by
  unfold sameBytesC10S at h
  unfold Fs.has
  cases h1 : fs1.find i with
  | none =>
    cases h2 : fs2.find i with
    | none => rfl
    | some b => rw [h1, h2] at h; cases h
  | some a =>
    cases h2 : fs2.find i with
    | none => rw [h1, h2] at h; cases h
    | some b =>
      rw [h1, h2] at h
      simp only [Option.map_some, Option.some.injEq, Prod.mk.injEq] at h
      exact h.2.2

/-- The newest chunk `c` of a clean system, split at a record boundary: `jc` are the closed chunks with their
record lists (they replay to `st1`, `l1`), `rs1 ++ rs2` the records of `c`, `stJ`, `lJ` the state and index map
after `rs1`. -/
structure NewestSplitC10S (y : Sys) (s : Store) (c : Nat) (f : File) (jc : List (Closed × List Record))
    (rs1 rs2 : List Record) (st1 : RState) (l1 : Log) (stJ : RState) (lJ : Log) : Prop where
  closedEq : jc.map (·.1) = s.closed
  linked : y.fs.linkedIds = jc.map (·.1.id) ++ [c]
  find : y.fs.find c = some f
  files : ∀ p ∈ jc, HoldsChunk y.fs p
  before : ∀ p ∈ jc, p.1.id ≠ c
  rep : RepC jc {} [] st1 l1
  repAll : RepC (jc ++ [((⟨s.openOffsets, s.st⟩ : Closed), rs1 ++ rs2)]) {} [] s.st s.log
  chained : Chained (jc.map (·.1.offsets) ++ [s.openOffsets])
  openId : s.openOffsets.headD 0 = c
  wf1 : AllWF rs1
  ne1 : rs1 ≠ []
  st : stRun rs1 st1 = some stJ
  log : idxRun (chunkOps c rs1) l1 = some lJ
  nofile : ∀ n, c < n → y.fs.has n = false

section
variable {y : Sys} {s : Store} {c : Nat} {f : File} {jc : List (Closed × List Record)}
  {rs1 rs2 : List Record} {st1 stJ : RState} {l1 lJ : Log} {g : File → File}

theorem NewestSplitC10S.find_upd (N : NewestSplitC10S y s c f jc rs1 rs2 st1 l1 stJ lJ)
    (hgid : ∀ x, (g x).id = x.id) : (y.fs.update c g).find c = some (g f) :=
  Fs.find_update_self N.find g hgid

theorem NewestSplitC10S.linked_upd (N : NewestSplitC10S y s c f jc rs1 rs2 st1 l1 stJ lJ)
    (hgid : ∀ x, (g x).id = x.id) (hglk : ∀ x, (g x).linked = x.linked) :
    (y.fs.update c g).linkedIds = jc.map (·.1.id) ++ [c] := by
  rw [Fs.linkedIds_update _ _ _ hgid hglk, N.linked]

theorem NewestSplitC10S.files_upd (N : NewestSplitC10S y s c f jc rs1 rs2 st1 l1 stJ lJ)
    (hgid : ∀ x, (g x).id = x.id) : ∀ p ∈ jc, HoldsChunk (y.fs.update c g) p :=
  fun p hp => (N.files p hp).of_find (Fs.find_update_other _ (N.before p hp) g hgid)

theorem NewestSplitC10S.walk (N : NewestSplitC10S y s c f jc rs1 rs2 st1 l1 stJ lJ)
    (hgid : ∀ x, (g x).id = x.id) (hglk : ∀ x, (g x).linked = x.linked) (cfg' : Cfg) {tr : Option Nat}
    (hoc : openChunk cfg' c (g f).data = .ok ⟨rs1, offsetsFrom c (sizes rs1), tr⟩) :
    ∃ a1 sm2, ImageLoop cfg' (y.fs.update c g) jc c rs1 tr st1 l1 stJ lJ a1 sm2 :=
  let ⟨a1, sm2, L, _, _⟩ := openLoop_image_inv .trivial cfg' [] (N.linked_upd hgid hglk) (N.files_upd hgid)
    N.rep N.chained N.openId (N.find_upd hgid) hoc N.st N.log True.intro
  ⟨a1, sm2, L⟩

theorem NewestSplitC10S.clean (N : NewestSplitC10S y s c f jc rs1 rs2 st1 l1 stJ lJ)
    (hgid : ∀ x, (g x).id = x.id) (hglk : ∀ x, (g x).linked = x.linked)
    (hdata : (g f).data = encAll rs1) (cfg' : Cfg) :
    ∃ s0 w0, openStore cfg' (y.fs.update c g)
        = (.ok (s0, w0), (y.fs.update c g).syncAll (jc.map (·.1.id) ++ [c]),
          syncEvs (jc.map (·.1.id) ++ [c])) ∧
      s0.st = stJ ∧ s0.log = lJ ∧ s0.closed = s.closed ∧ s0.pending = [] ∧
      s0.openOffsets = offsetsFrom c (sizes rs1) ∧ w0.files = [⟨c, prevLastOf s.closed⟩] := by
  obtain ⟨a', sm2, L⟩ := N.walk hgid hglk cfg' (hdata ▸ openChunk_clean cfg' c N.wf1)
  exact ⟨_, _, openStore_clean_newest (N.linked_upd hgid hglk) L.loads L.gap (N.find_upd hgid) hdata N.wf1
      N.ne1 L.replay, L.st, L.log, L.same.closed.trans (L.closed.trans N.closedEq), rfl, rfl,
    by rw [L.same.closed, show a'.pre.sm.closed = _ from L.closed, N.closedEq]⟩

theorem NewestSplitC10S.torn (N : NewestSplitC10S y s c f jc rs1 rs2 st1 l1 stJ lJ)
    (hgid : ∀ x, (g x).id = x.id) (hglk : ∀ x, (g x).linked = x.linked) {tail : Bytes}
    (hdata : (g f).data = encAll rs1 ++ tail) (htail : TornTail tail) (cfg' : Cfg)
    (htr' : cfg'.truncate = true) :
    ∃ s' w' fs'',
      openStore cfg' (y.fs.update c g) = (.ok (s', w'), fs'',
        syncEvs (jc.map (·.1.id)) ++ [.trunc "o" c (encAll rs1).length, .sync "o" c true, .sync "o" c true,
          .create "o" (c + (encAll rs1).length) true,
          .write "o" (c + (encAll rs1).length) (encRecord (.state stJ)) true]) ∧
      s'.st = stJ ∧ s'.log = lJ ∧
      s'.closed = s.closed ++ [⟨offsetsFrom c (sizes rs1), stJ⟩] ∧ s'.pending = [] ∧
      s'.openOffsets = [c + (encAll rs1).length,
        c + (encAll rs1).length + (encRecord (.state stJ)).length] ∧
      w'.files = [⟨c + (encAll rs1).length, stJ.last⟩] ∧
      fs''.find c = some { g f with data := encAll rs1, durable := (encAll rs1).length } ∧
      fs''.find (c + (encAll rs1).length)
        = some { id := c + (encAll rs1).length, data := encRecord (.state stJ), durable := 0,
                 linked := true } ∧
      ∀ id, id ≠ c → id ≠ c + (encAll rs1).length →
        sameBytesC10S (fs''.find id) (y.fs.find id) := by
  obtain ⟨a', sm2, L⟩ := N.walk hgid hglk cfg' (hdata ▸ openChunk_tail N.wf1 (.inr ⟨htr', htail⟩) c)
  have hfind0 := N.find_upd (g := g) hgid
  have hfree : (y.fs.update c g).has (c + (encAll rs1).length) = false := by
    rw [Fs.has_update _ _ _ g hgid hglk]
    have := encAll_length_pos N.ne1
    exact N.nofile _ (by omega)
  obtain ⟨f1, hfind1, hd1, hid1, hlk1⟩ := Fs.find_syncAll_some (jc.map (·.1.id)) hfind0
  obtain ⟨e8, e9, e10⟩ :=
    find_torn_newest hfind1 (encAll_length_pos N.ne1) (encRecord (.state stJ))
  have e1 := openStore_torn_newest htr' (N.linked_upd hgid hglk) L.loads L.gap hfind0 hdata N.wf1 N.ne1 htail
    L.replay rfl rfl rfl hfree
  rw [L.st] at e1
  refine ⟨_, _, _, e1, rfl, L.log, congrArg (· ++ [_]) (L.same.closed.trans (L.closed.trans N.closedEq)), rfl,
    rfl, rfl, ?_, e9, ?_⟩
  · rw [e8, hd1, hdata, List.take_left' rfl, hid1, hlk1]
  · intro id h1 h2
    have := sameBytes_syncAllC10S (y.fs.update c g) (jc.map (·.1.id)) id
    rw [Fs.find_update_other _ h1 g hgid] at this
    rw [e10 id h1 h2]
    exact this

theorem NewestSplitC10S.err (N : NewestSplitC10S y s c f jc rs1 rs2 st1 l1 stJ lJ)
    (hgid : ∀ x, (g x).id = x.id) (hglk : ∀ x, (g x).linked = x.linked) {tail : Bytes} {k : ErrKind}
    (cfg' : Cfg) (hdata : (g f).data = encAll rs1 ++ tail)
    (hoc : openChunk cfg' c (encAll rs1 ++ tail) = .error k) :
    openStore cfg' (y.fs.update c g)
      = (.err k, (y.fs.update c g).syncAll (jc.map (·.1.id)), syncEvs (jc.map (·.1.id))) :=
  openStore_err_of_chunksC9S cfg' (y.fs.update c g) jc (⟨s.openOffsets, s.st⟩, rs1 ++ rs2) [] s.st s.log
    N.repAll (N.files_upd hgid)
    (by simpa [List.map_append] using N.chained)
    (by rw [N.linked_upd hgid hglk]; show _ = _ ++ [s.openOffsets.headD 0]; rw [N.openId])
    (g f) (by show _ = _; rw [show ((⟨s.openOffsets, s.st⟩ : Closed), rs1 ++ rs2).1.id = c from N.openId];
              exact N.find_upd hgid) k
    (by rw [show ((⟨s.openOffsets, s.st⟩ : Closed), rs1 ++ rs2).1.id = c from N.openId, hdata]; exact hoc)

end

/-- For every split `rs = rs1 ++ rs2` of the newest chunk's records (`rs1 ≠ []`) there are `stJ`, `lJ` (those of
the store itself when `rs2 = []`) such that for every rewrite `g` of its file: contents `encAll rs1` ⇒ `open`
reuses `c`; `encAll rs1 ++ tail` with a torn tail and `truncate` ⇒ `open` cuts `c` and creates the chunk
`c + |encAll rs1|`; `Chunk::open` reports `k` ⇒ so does `open`, after syncing the earlier chunks only. The three
cases are `NewestSplitC10S.clean`, `.torn`, `.err`, written out here in full. -/
theorem sys_torn_newestC10S {y : Sys} {rl : RefLog} (h : CSys y rl) (hc : y.Clean)
    {pre : List Nat} {c : Nat} (hsplit : y.fs.linkedIds = pre ++ [c]) :
    ∃ f rs s, y.store = some s ∧ s.st = rl.state ∧ y.fs.find c = some f ∧ f.linked = true ∧
      f.data = encAll rs ∧ AllWF rs ∧ (∃ st tl, rs = .state st :: tl) ∧
      (offsetsFrom c (sizes rs) = s.openOffsets ∧ Abs s rl ∧ ∀ n, c < n → y.fs.has n = false) ∧
      ∀ rs1 rs2, rs = rs1 ++ rs2 → rs1 ≠ [] →
      ∃ stJ lJ, (rs2 = [] → stJ = s.st ∧ lJ = s.log) ∧
        ∀ (g : File → File), (∀ x, (g x).id = x.id) → (∀ x, (g x).linked = x.linked) →
        ((g f).data = encAll rs1 → ∀ cfg', ∃ s0 w0,
          openStore cfg' (y.fs.update c g)
            = (.ok (s0, w0), (y.fs.update c g).syncAll (pre ++ [c]), syncEvs (pre ++ [c])) ∧
          s0.st = stJ ∧ s0.log = lJ ∧ s0.closed = s.closed ∧ s0.pending = [] ∧
          s0.openOffsets = offsetsFrom c (sizes rs1) ∧ w0.files = [⟨c, prevLastOf s.closed⟩]) ∧
        (∀ tail, (g f).data = encAll rs1 ++ tail → TornTail tail → ∀ cfg', cfg'.truncate = true →
          ∃ s' w' fs'',
            openStore cfg' (y.fs.update c g) = (.ok (s', w'), fs'',
              syncEvs pre ++ [.trunc "o" c (encAll rs1).length, .sync "o" c true, .sync "o" c true,
                .create "o" (c + (encAll rs1).length) true,
                .write "o" (c + (encAll rs1).length) (encRecord (.state stJ)) true]) ∧
            s'.st = stJ ∧ s'.log = lJ ∧
            s'.closed = s.closed ++ [⟨offsetsFrom c (sizes rs1), stJ⟩] ∧ s'.pending = [] ∧
            s'.openOffsets = [c + (encAll rs1).length,
              c + (encAll rs1).length + (encRecord (.state stJ)).length] ∧
            w'.files = [⟨c + (encAll rs1).length, stJ.last⟩] ∧
            fs''.find c = some { g f with data := encAll rs1, durable := (encAll rs1).length } ∧
            fs''.find (c + (encAll rs1).length)
              = some { id := c + (encAll rs1).length, data := encRecord (.state stJ), durable := 0,
                       linked := true } ∧
            ∀ id, id ≠ c → id ≠ c + (encAll rs1).length →
              sameBytesC10S (fs''.find id) (y.fs.find id)) ∧
        (∀ tail k cfg', (g f).data = encAll rs1 ++ tail →
          openChunk cfg' c (encAll rs1 ++ tail) = .error k →
          openStore cfg' (y.fs.update c g)
            = (.err k, (y.fs.update c g).syncAll pre, syncEvs pre)) := by
  obtain ⟨s, jc, jo, j1, pc, j2, C⟩ := h.chunks_atC9S hc hsplit
  obtain rfl := C.pre
  -- `c` is the id of the open chunk, `pre` are the ids of the closed chunks
  cases List.map_eq_nil_iff.mp C.post
  obtain ⟨rfl, hpc⟩ := List.append_inj' C.split rfl
  obtain rfl : pc = ((⟨s.openOffsets, s.st⟩ : Closed), jo) := (List.cons.inj hpc).1.symm
  have hpcid : s.openOffsets.headD 0 = c := C.mid
  have hn := C.nodup
  obtain ⟨f, hf, F⟩ := C.files _ (List.mem_append_right _ List.mem_cons_self)
  change y.fs.find (s.openOffsets.headD 0) = some f at hf
  rw [hpcid] at hf
  have hoffs : offsetsFrom (s.openOffsets.headD 0) (sizes jo) = s.openOffsets := F.offsets
  rw [hpcid] at hoffs
  have hsorted := (Fs.linkedIds_spec hn).1
  have hmem := (Fs.linkedIds_spec hn).2
  have hflinked : f.linked = true := by
    obtain ⟨f', e1, e2⟩ := Fs.has_eq_true_iff.mp ((hmem c).mp (by rw [hsplit]; simp))
    cases hf.symm.trans e1; exact e2
  have hnofile : ∀ n, c < n → y.fs.has n = false := by
    intro n hlt
    cases hh : y.fs.has n with
    | false => rfl
    | true =>
      exfalso
      have hm := (hmem n).mpr hh
      rw [hsplit] at hm hsorted
      rw [List.pairwise_append] at hsorted
      rcases List.mem_append.mp hm with h1 | h1
      · have := hsorted.2.2 n h1 c (by simp); omega
      · simp only [List.mem_singleton] at h1; omega
  obtain ⟨st1, l1, hr1, hsrun, hirun, _⟩ := RepC.unsnoc C.rep
  simp only [Closed.id, hpcid] at hirun
  refine ⟨f, jo, s, C.store, C.abs.st, hf, hflinked, F.data, F.wf, C.head, ⟨hoffs, C.abs, hnofile⟩, ?_⟩
  intro rs1 rs2 hrs hne1
  subst hrs
  obtain ⟨stJ, hsJ, hsJ2⟩ := Option.bind_eq_some_iff.1 (stRun_append rs1 rs2 st1 ▸ hsrun)
  have hirun' : idxRun (opsFrom c c rs1 ++ opsFrom c (c + (encAll rs1).length) rs2) l1
      = some s.log := by
    rw [← opsFrom_append]; exact hirun
  obtain ⟨lJ, hiJ, hiJ2⟩ := idxRun_prefix hirun'
  refine ⟨stJ, lJ, ?_, ?_⟩
  · intro e
    subst e
    simp only [stRun, Option.some.injEq] at hsJ2
    simp only [opsFrom, idxRun, Option.some.injEq] at hiJ2
    exact ⟨hsJ2, hiJ2⟩
  have hch1 := C.chained
  rw [List.map_append, List.map_cons, List.map_nil] at hch1
  have N : NewestSplitC10S y s c f jc rs1 rs2 st1 l1 stJ lJ :=
    { closedEq := C.closedEq, linked := hsplit, find := hf
      files := fun p hp => C.files p (List.mem_append_left _ hp)
      before := C.before, rep := hr1, repAll := C.rep, chained := hch1, openId := hpcid
      wf1 := fun x hx => F.wf x (by simp [hx])
      ne1 := hne1, st := hsJ, log := hiJ, nofile := hnofile }
  exact fun g hgid hglk => ⟨fun hdata cfg' => N.clean hgid hglk hdata cfg',
    fun tail hdata htail cfg' htr' => N.torn hgid hglk hdata htail cfg' htr',
    fun tail k cfg' hdata hoc => N.err hgid hglk cfg' hdata hoc⟩

end RaftLog
