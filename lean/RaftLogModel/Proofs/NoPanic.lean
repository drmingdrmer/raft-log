/-
C16, write path: the panic branches of the checked-arithmetic model are unreachable as long as no log index
in the store equals u64::MAX (`PanicFree`). `call_no_panic`: on a `PanicFree` store a call whose log indexes are
u64 (`Op.indexU64`, which `Op.small` and `Op.WF` both imply: an index u64::MAX is refused up front, D12)
does not panic and keeps `PanicFree`. The invariance half is `PanicFree.moves`.
-/
import RaftLogModel.Proofs.CallerMoves
import RaftLogModel.Proofs.SysBasic
namespace RaftLog

/-- `next_log_index(id)` does not overflow. -/
def smallId (id : LogId) : Prop := id.index + 1 < U64

def optSmall : Option LogId → Prop
  | none => True
  | some id => smallId id

/-- No panic site of the write path is reachable from `s`: the open chunk has a record (`last_segment` does
not panic) and `next_log_index` does not overflow on `purged`, `last` or an indexed id. -/
structure PanicFree (s : Store) : Prop where
  open2 : 2 ≤ s.openOffsets.length
  purged : optSmall s.st.purged
  last : optSmall s.st.last
  log : ∀ e ∈ s.log, smallId e.2.id

def Op.small : Op → Prop
  | .saveVote _ => True
  | .append es => ∀ e ∈ es, smallId e.1
  | .truncate _ => True
  | .purge id => smallId id
  | .commit _ => True
  | .saveUserData _ => True

/-- Every log index the op hands to `append` or `purge` is a u64. -/
def Op.indexU64 : Op → Prop
  | .append es => ∀ e ∈ es, e.1.index < U64
  | .purge id => id.index < U64
  | _ => True

theorem smallId_of_lt {id : LogId} (h : id.index < U64) (hU : id.index + 1 ≠ U64) : smallId id := by
  show id.index + 1 < U64
  omega

theorem Op.small.indexU64 {op : Op} (h : op.small) : op.indexU64 := by
  cases op with
  | append es => exact fun e he => Nat.lt_of_succ_lt (h e he)
  | purge id => exact Nat.lt_of_succ_lt h
  | _ => trivial

theorem nextIndexChecked_some {o : Option LogId} (h : optSmall o) : ∃ n, nextIndexChecked o = some n := by
  cases o with
  | none => exact ⟨0, rfl⟩
  | some id =>
    simp only [optSmall, smallId] at h
    exact ⟨id.index + 1, by simp [nextIndexChecked, h]⟩

theorem lastSegment_some {offs : List Nat} (h : 2 ≤ offs.length) : ∃ seg, lastSegment offs = some seg := by
  unfold lastSegment
  have : 2 ≤ offs.reverse.length := by simpa using h
  match hr : offs.reverse, this with
  | e :: b :: _, _ => exact ⟨_, rfl⟩
  | [_], h2 => simp at h2
  | [], h2 => simp at h2

/-- What `applyIndex` needs not to overflow. -/
def Record.small : Record → Prop
  | .append id _ => smallId id
  | .truncateAfter o => optSmall o
  | .purgeUpto id => smallId id
  | _ => True

/-- A record whose log ids can be incremented without overflowing a u64; a
`State` record must carry small `purged` / `last` ids. -/
def RecSmall (r : Record) : Prop :=
  r.small ∧ ∀ x, r = .state x → optSmall x.purged ∧ optSmall x.last

def StSmall (st : RState) : Prop := optSmall st.purged ∧ optSmall st.last

theorem PanicFree.st {s : Store} (h : PanicFree s) : StSmall s.st := ⟨h.purged, h.last⟩

theorem PanicFree.fresh (cfg : Cfg) : PanicFree (Store.fresh cfg) :=
  ⟨Nat.le_refl 2, trivial, trivial, nofun⟩

theorem PanicFree.of_fields {s s' : Store} (h : PanicFree s) (ho : s'.openOffsets = s.openOffsets)
    (hst : s'.st = s.st) (hl : s'.log = s.log) : PanicFree s' :=
  ⟨ho ▸ h.open2, hst ▸ h.purged, hst ▸ h.last, hl ▸ h.log⟩

theorem RecSmall.append {id : LogId} (p : Bytes) (h : smallId id) : RecSmall (.append id p) :=
  ⟨h, fun _ e => nomatch e⟩

theorem apply_not_panic {st : RState} {r : Record} (hl : optSmall st.last) :
    ∀ m, st.apply r ≠ .panic m := by
  intro m h
  rcases st.apply_cases r with h1 | ⟨k, h1, _⟩ | ⟨_, l, _, h2, h3⟩
  · rw [h1] at h; cases h
  · rw [h1] at h; cases h
  · rw [h2] at hl
    obtain ⟨n, hn⟩ := nextIndexChecked_some (o := some l) hl
    rw [hn] at h3; cases h3

theorem applyIndex_ne_none {s : Store} {r : Record} (hr : r.small) (chunk : Nat) (seg : Seg) :
    s.applyIndex r chunk seg ≠ none := by
  cases r with
  | saveVote v => simp [Store.applyIndex]
  | commit id => simp [Store.applyIndex]
  | state x => simp [Store.applyIndex]
  | append id p => simp [Store.applyIndex]
  | truncateAfter o =>
    obtain ⟨n, hn⟩ := nextIndexChecked_some (o := o) hr
    simp [Store.applyIndex, hn]
  | purgeUpto id =>
    obtain ⟨n, hn⟩ := nextIndexChecked_some (o := some id) hr
    simp [Store.applyIndex, hn]

theorem appendAndApply_not_panic {s : Store} (fsHas : Nat → Bool) {r : Record}
    (hp : PanicFree s) (hr : RecSmall r) : ∀ m, (s.appendAndApply fsHas r).1 ≠ .panic m := by
  intro m
  refine Store.appendAndApply_elim (s.appendAndApply fsHas r) rfl ?_ ?_ ?_ ?_
  · exact fun _ _ h => nomatch h
  · exact fun m' hm _ => apply_not_panic hp.last m' hm
  · exact fun _ _ hnone _ => applyIndex_ne_none hr.1 _ _ hnone
  · exact fun _ _ _ _ _ _ => ⟨(fun _ h => nomatch h), (fun _ _ h => nomatch h), (fun _ _ h => nomatch h)⟩

theorem apply_small {st st' : RState} {r : Record} (hr : RecSmall r) (hs : StSmall st)
    (h : st.apply r = .ok st') : StSmall st' := by
  rw [apply_eq_applied h]
  cases r with
  | state x => exact hr.2 x rfl
  | truncateAfter o =>
    simp only [RState.applied, RState.truncateAfter]
    split
    · exact ⟨hs.1, hr.1⟩
    · exact hs
  | purgeUpto id =>
    simp only [RState.applied, RState.purge]
    split
    · split
      · exact ⟨hr.1, hr.1⟩
      · exact ⟨hr.1, hs.2⟩
    · split
      · exact ⟨hs.1, hr.1⟩
      · exact hs
  | append id p => exact ⟨hs.1, hr.1⟩
  | _ => exact hs

theorem PanicFree.applied {s : Store} {r : Record} {st' : RState} (hp : PanicFree s) (hr : RecSmall r)
    (hst : s.st.apply r = .ok st') : PanicFree (s.applied r st') := by
  obtain ⟨hpu, hla⟩ := apply_small hr hp.st hst
  refine ⟨by simp [Store.applied]; have := hp.open2; omega, hpu, hla, fun e he => ?_⟩
  refine (mem_idxLog he).elim (hp.log e) ?_
  rintro ⟨id, p, rfl, he'⟩
  exact he' ▸ hr.1

theorem PanicFree.rotated {s : Store} (hp : PanicFree s) : PanicFree s.rotated :=
  ⟨by simp, hp.purged, hp.last, hp.log⟩

theorem PanicFree.ne_nil {s : Store} (hp : PanicFree s) : s.openOffsets ≠ [] :=
  fun e => by have := hp.open2; rw [e] at this; cases this

theorem PanicFree.moves : Moves (fun s _ => PanicFree s) fun _ r => RecSmall r :=
  .of_store PanicFree.ne_nil PanicFree.applied PanicFree.rotated
    (fun _ hr hn => absurd hn (applyIndex_ne_none hr.1 _ _))

theorem appendAndApply_panicFree {s : Store} (fsHas : Nat → Bool) {r : Record}
    (hp : PanicFree s) (hr : RecSmall r) : PanicFree (s.appendAndApply fsHas r).2.1 :=
  PanicFree.moves.appendAndApply (e := []) fsHas hp hr

/-- The record of a single-record call on a `PanicFree` store is safe to apply: a truncate takes its id
from the store, a purge at u64::MAX never gets here. -/
theorem CallRec.small {s : Store} {op : Op} {r : Record} (hr : CallRec s op r) (hp : PanicFree s)
    (hop : op.indexU64) : RecSmall r := by
  cases hr with
  | userData d => exact ⟨trivial, fun x hx => by cases hx; exact ⟨hp.purged, hp.last⟩⟩
  | truncPurged idx _ => exact ⟨hp.purged, fun _ hx => nomatch hx⟩
  | truncAt idx nxt e he => exact ⟨hp.log e he, fun _ hx => nomatch hx⟩
  | purge upto nxt hU => exact ⟨smallId_of_lt hop hU, fun _ hx => nomatch hx⟩
  | _ => exact ⟨trivial, fun _ hx => nomatch hx⟩

theorem call_no_panic {s : Store} (fsHas : Nat → Bool) (op : Op) (hp : PanicFree s) (hop : op.indexU64) :
    (∀ m, (s.call fsHas op).1 ≠ .panic m) ∧ PanicFree (s.call fsHas op).2.1 := by
  refine ⟨fun m => ?_, PanicFree.moves.call fsHas op (fun hp hr => hr.small hp hop)
    (fun es e _ x hx hU => .append _ (smallId_of_lt ((e ▸ hop : (Op.append es).indexU64) x hx) hU))
    (fun _ _ hp => hp.of_fields rfl rfl rfl) hp⟩
  rcases s.call_cases fsHas op with ⟨x, e, hx⟩ | ⟨es, seg0, rfl, e⟩ | ⟨r, hr, e⟩ |
    ⟨upto, seg, s', effs, hr, ha, e⟩ <;> rw [e]
  · intro hm
    obtain ⟨n, hn⟩ := nextIndexChecked_some hp.purged
    obtain ⟨sg, hsg⟩ := lastSegment_some hp.open2
    cases x <;> cases hm
    rcases hx with h | h
    · rw [hn] at h; cases h
    · rw [hsg] at h; cases h
  · -- along a batch: `PanicFree` at every entry, so no entry panics
    refine Store.appendBatch_elim (P := fun _ s _ => PanicFree s) (R := fun x => x.1 ≠ .panic m) es
      (fun _ _ _ _ hx _ _ => hx m) (fun fsHas s effs id p hm hU hp res s' e' hres => ?_) fsHas s seg0 [] hp
    have hr := RecSmall.append p (smallId_of_lt (hop _ hm) hU)
    have h1 := appendAndApply_not_panic fsHas hp hr
    have h2 := appendAndApply_panicFree fsHas hp hr
    rw [hres] at h1 h2
    cases res with
    | ok _ => exact h2
    | err k => exact fun h => nomatch h
    | panic m' => exact absurd rfl (h1 m')
  · exact appendAndApply_not_panic fsHas hp (hr.small hp hop) m
  · exact fun h => nomatch h

theorem history_no_panic_of {C : Op → Prop} (fsHas : Nat → Bool)
    (hcall : ∀ (s : Store) (op : Op), PanicFree s → C op →
      (∀ m, (s.call fsHas op).1 ≠ .panic m) ∧ PanicFree (s.call fsHas op).2.1)
    (ops : List Op) (s : Store) (hp : PanicFree s) (hops : ∀ op ∈ ops, C op) :
    ∀ pre op post, ops = pre ++ op :: post →
      ∀ m, ((pre.foldl (fun s o => (s.call fsHas o).2.1) s).call fsHas op).1 ≠ .panic m := by
  intro pre op post hsplit
  have hpre : PanicFree (pre.foldl (fun s o => (s.call fsHas o).2.1) s) := by
    have hC : ∀ o ∈ pre, C o := fun o ho => hops o (by rw [hsplit]; exact List.mem_append_left _ ho)
    clear hsplit
    induction pre generalizing s with
    | nil => exact hp
    | cons o rest ih =>
      exact ih _ (hcall s o hp (hC o List.mem_cons_self)).2
        (fun o' ho' => hC o' (List.mem_cons_of_mem _ ho'))
  exact (hcall _ op hpre (hops op (by rw [hsplit]; simp))).1

end RaftLog
