/-
C03: the ghost invariant `GInvC3b`. `gs` lists the chunks that a purge dropped from the chunk table and whose
files are still linked (oldest first), each with the journal end `m` right after that purge and the number `k` of
entry-level writes journalled below `m`. `HInv` holds for the ghost store (`s` with those chunks put back) with a
marker `Bh ≤ A`, the `m` of the last chunk whose file was unlinked: a file is unlinked only after the purge
record that made it obsolete is acknowledged. A ghost entry is what `HInv.pop_one_C3b` asks for when its file goes.
-/
import RaftLogModel.Proofs.GhostStore
import RaftLogModel.Proofs.GhostWorker
import RaftLogModel.Proofs.CrashQSys
namespace RaftLog

/-- A dropped chunk whose file is still linked. -/
structure GhostC3b where
  c : Closed
  /-- the journal end right after the purge call that dropped the chunk -/
  m : Nat
  /-- the number of entry-level writes journalled below `m` -/
  k : Nat

def ghostClosedC3b (gs : List GhostC3b) : List Closed := gs.map (·.c)

structure GEntC3b (s : Store) (fs : Fs) (w : Worker) (r : RefLog) (W : List Op) (Bh A : Nat)
    (cs : List Closed) (p : GhostC3b) : Prop where
  /-- the invariant of the ghost store, tracking the pair `(m, k)` -/
  hinv : HInv (s.liftC3b cs) fs w r W Bh A p.m p.k
  /-- every prefix of the writes of length `≥ k` has purged the chunk's entries -/
  cov : CovC3b W p.k p.c.state.last
  mlo : lastOff p.c.offsets < p.m
  mhi : p.m ≤ s.openEnd
  linked : fs.has p.c.id = true
  /-- it cannot be unlinked before `m` is acknowledged -/
  guard : p.m ≤ A ∨ p.c.id ∈ s.removed ∨ WGuardAtC3b p.m p.c.id w

structure GInvC3b (s : Store) (fs : Fs) (w : Worker) (r : RefLog) (W : List Op) (A E K Bh : Nat)
    (gs : List GhostC3b) : Prop where
  base : HInv (s.liftC3b (ghostClosedC3b gs)) fs w r W Bh A E K
  ents : ∀ p ∈ gs, GEntC3b s fs w r W Bh A (ghostClosedC3b gs) p
  /-- the ids still to unlink, in the order they will be unlinked, are the ghost chunks -/
  order : w.toRemove ++ s.removed = (ghostClosedC3b gs).map Closed.id
  ack : Bh ≤ A
  /-- markers grow along the list, and start at `Bh`: popping the oldest ghost makes its `m` the marker
  of the ghost store, which must stay at or below the markers of the ghosts left (`HInv.pop_one_C3b`) -/
  mono : gs.Pairwise (fun a b => a.m ≤ b.m)
  lo : ∀ p ∈ gs, Bh ≤ p.m
  /-- so that the head of `toRemove` is the id being unlinked (`head_acked_C8s`) -/
  unl : UnlPostC3b w

/-- The marker of the REAL store: the `m` of the newest ghost chunk, `Bh` when there is none.
Popping the oldest ghost (`Bh, p :: gs ↦ p.m, gs`) does not change it. -/
def lastM : List GhostC3b → Nat → Nat
  | [], Bh => Bh
  | p :: gs, _ => lastM gs p.m

theorem lastM_append (a b : List GhostC3b) : ∀ Bh, lastM (a ++ b) Bh = lastM b (lastM a Bh) := by
  induction a with
  | nil => intro Bh; rfl
  | cons p a ih => intro Bh; exact ih p.m

theorem lastM_cases (gs : List GhostC3b) : ∀ Bh, (gs = [] ∧ lastM gs Bh = Bh) ∨ ∃ p ∈ gs, lastM gs Bh = p.m := by
  induction gs with
  | nil => intro Bh; exact .inl ⟨rfl, rfl⟩
  | cons p gs ih =>
    intro Bh
    rcases ih p.m with ⟨_, e⟩ | ⟨q, hq, e⟩
    · exact .inr ⟨p, List.mem_cons_self, e⟩
    · exact .inr ⟨q, List.mem_cons_of_mem _ hq, e⟩

theorem lastM_of_all {gs : List GhostC3b} {m : Nat} (hne : gs ≠ []) (h : ∀ p ∈ gs, p.m = m) (Bh : Nat) :
    lastM gs Bh = m := by
  rcases lastM_cases gs Bh with ⟨e, _⟩ | ⟨p, hp, e⟩
  · exact absurd e hne
  · rw [e, h p hp]

/-- The marker invariant: the newest ghost chunk's guard, read for the marker of the real store. -/
theorem GInvC3b.marker {s : Store} {fs : Fs} {w : Worker} {r : RefLog} {W : List Op} {A E K Bh : Nat}
    {gs : List GhostC3b} (h : GInvC3b s fs w r W A E K Bh gs) :
    lastM gs Bh ≤ A ∨ s.removed ≠ [] ∨ WGuardC3b (lastM gs Bh) w := by
  rcases lastM_cases gs Bh with ⟨_, e⟩ | ⟨p, hp, e⟩ <;> rw [e]
  · exact .inl h.ack
  · exact (h.ents p hp).guard.imp_right (Or.imp List.ne_nil_of_mem fun k => WGuardC3b_iff.mpr ⟨_, k⟩)

theorem GEntC3b.count_le {s : Store} {fs : Fs} {w : Worker} {r : RefLog} {W : List Op} {Bh A : Nat}
    {cs : List Closed} {p : GhostC3b} (h : GEntC3b s fs w r W Bh A cs p) : p.k ≤ W.length := by
  obtain ⟨_, _, _, hg⟩ := h.hinv.hist
  exact hg.count_le_C3b

theorem ghost_ids_lt_C3b {s : Store} {fs : Fs} {w : Worker} {p0 : GhostC3b} {gs : List GhostC3b}
    (hj : JInv (s.liftC3b (ghostClosedC3b (p0 :: gs))) fs w) :
    ∀ x ∈ (ghostClosedC3b gs).map Closed.id ++ s.chunkIds, p0.c.id < x := by
  have := hj.chunkIds_sorted
  rw [liftC3b_chunkIds] at this
  simp only [ghostClosedC3b, List.map_cons, List.cons_append, List.pairwise_cons] at this
  exact this.1

theorem GInvC3b.live {s : Store} {fs : Fs} {w : Worker} {r : RefLog} {W : List Op} {A E K Bh : Nat}
    {gs : List GhostC3b} (h : GInvC3b s fs w r W A E K Bh gs) (hl : LInv s fs w) :
    ∀ id ∈ (s.liftC3b (ghostClosedC3b gs)).chunkIds, fs.has id = true := by
  intro id hid
  rw [liftC3b_chunkIds] at hid
  rcases List.mem_append.mp hid with k | k
  · simp only [ghostClosedC3b, List.map_map, List.mem_map] at k
    obtain ⟨p, hp, hpid⟩ := k
    rw [← hpid]; exact (h.ents p hp).linked
  · exact hl.live id k

theorem GInvC3b.head_acked_C8s {s : Store} {fs : Fs} {w : Worker} {r : RefLog} {W : List Op}
    {A E K Bh : Nat} {gs : List GhostC3b} (h : GInvC3b s fs w r W A E K Bh gs) {i : Nat} {ids : List Nat}
    (hpc : w.pc = .unlinking (i :: ids)) :
    ∃ p0 gs', gs = p0 :: gs' ∧ p0.c.id = i ∧ p0.m ≤ A := by
  have hj := h.base.inv.j
  have hpost : w.postponed = [] := h.unl _ hpc
  have htr : w.toRemove = (i :: ids) ++ rmIds w.rest := by
    simp [Worker.toRemove, hpc, WPc.unl, WPc.inHand, hpost, Worker.rest]
  have hord := h.order
  rw [htr, List.cons_append, List.cons_append] at hord
  cases gs with
  | nil => simp [ghostClosedC3b] at hord
  | cons p0 gs' =>
    simp only [ghostClosedC3b, List.map_cons, List.cons.injEq] at hord
    obtain ⟨hi0, hord'⟩ := hord
    have hlt := ghost_ids_lt_C3b hj
    have hp0 := h.ents p0 List.mem_cons_self
    have hnotin : i ∉ ids ++ rmIds w.rest ++ s.removed := by
      intro hm
      rw [hord'] at hm
      have := hlt i (List.mem_append_left _ hm)
      omega
    refine ⟨p0, gs', rfl, hi0.symm, ?_⟩
    rcases hp0.guard with k | k | k
    · exact k
    · exact absurd (List.mem_append_right _ (hi0 ▸ k)) hnotin
    · rcases k.mem with k' | k'
      · rw [hpost] at k'; cases k'
      · exact absurd (List.mem_append_left _ (List.mem_append_right _ (hi0 ▸ k'))) hnotin

theorem GInvC3b.step {s : Store} {c : WCtx} {r : RefLog} {W : List Op} {A E K Bh : Nat}
    {gs : List GhostC3b} (out : Outcome) (h : GInvC3b s c.fs c.w r W A E K Bh gs)
    (hl : LInv s c.fs c.w) (hcov : Covered c) (hwf : c.w.WF) (hnd : (c.step out).w.pc ≠ .dead) :
    ∃ Bh' gs', GInvC3b s (c.step out).fs (c.step out).w r W (c.ackStep out A) E K Bh' gs' ∧
      lastM gs' Bh' = lastM gs Bh := by
  have hj := h.base.inv.j
  have hcur : c.w.cur ∈ Fs.ids c.fs := hj.annFs _ (by simp [Worker.announced])
  have g := WCtx.step_good c out hj.wok hcur hnd
  have hids := WCtx.step_ids c out
  have hstepH : ∀ {E' K' : Nat}, HInv (s.liftC3b (ghostClosedC3b gs)) c.fs c.w r W Bh A E' K' →
      HInv (s.liftC3b (ghostClosedC3b gs)) (c.step out).fs (c.step out).w r W Bh (c.ackStep out A) E' K' :=
    fun hi => HInv.worker hi g hids (hi.dur.step_of_live out hi.inv.j (h.live hl) hcov hwf hnd)
  have ts := WCtx.step_tstep_C3b c out hj.wok h.unl hnd
  have hguard : ∀ p ∈ gs, p.m ≤ c.ackStep out A ∨ p.c.id ∈ s.removed ∨
      WGuardAtC3b p.m p.c.id (c.step out).w := by
    intro p hp
    rcases (h.ents p hp).guard with k | k | k
    · exact Or.inl (Nat.le_trans k (c.le_ackStep out A))
    · exact Or.inr (Or.inl k)
    · exact (WGuardAtC3b.step c out A hwf hj.wok k hnd).imp id Or.inr
  rcases ts.tr with ⟨e1, e2⟩ | ⟨i, e1, e2, ids, hpc⟩
  · -- nothing unlinked
    exact ⟨Bh, gs, { h with
      base := hstepH h.base
      ents := fun p hp => { h.ents p hp with
        hinv := hstepH (h.ents p hp).hinv
        linked := by rw [e2]; exact (h.ents p hp).linked
        guard := hguard p hp }
      order := by rw [e1]; exact h.order
      ack := Nat.le_trans h.ack (c.le_ackStep out A)
      unl := ts.unl }, rfl⟩
  · -- the file of the oldest ghost chunk is unlinked; its marker becomes the marker of the ghost store
    obtain ⟨p0, gs', rfl, hi0, hm0⟩ := h.head_acked_C8s hpc
    have hord := h.order
    rw [e1, List.cons_append] at hord
    have hp0 := h.ents p0 List.mem_cons_self
    have hpop : ∀ {E' K' : Nat}, HInv (s.liftC3b (ghostClosedC3b (p0 :: gs'))) c.fs c.w r W Bh A E' K' →
        HInv (s.liftC3b (ghostClosedC3b gs')) (c.step out).fs (c.step out).w r W p0.m
          (c.ackStep out A) E' K' :=
      fun hi => (hstepH hi).pop_one_C3b (hstepH hp0.hinv) rfl rfl rfl rfl rfl
        (h.lo p0 List.mem_cons_self) hp0.mlo hp0.mhi hp0.cov
    have hmono := List.pairwise_cons.mp h.mono
    refine ⟨p0.m, gs', ⟨{
      base := hpop h.base
      ents := fun p hp => ?_
      order := (List.cons.inj hord).2
      ack := Nat.le_trans hm0 (c.le_ackStep out A)
      mono := hmono.2
      lo := fun p hp => hmono.1 p hp
      unl := ts.unl }, rfl⟩⟩
    have hpe := h.ents p (List.mem_cons_of_mem _ hp)
    refine { hpe with hinv := hpop hpe.hinv, linked := ?_, guard := hguard p (List.mem_cons_of_mem _ hp) }
    have hlt := ghost_ids_lt_C3b hj p.c.id (List.mem_append_left _ (List.mem_map.mpr
      ⟨p.c, List.mem_map.mpr ⟨p, hp, rfl⟩, rfl⟩))
    rw [e2, hpe.linked, ← hi0, Bool.true_and, bne_iff_ne]
    exact Nat.ne_of_gt hlt

theorem GInvC3b.of_cache {s : Store} {fs : Fs} {w : Worker} {r : RefLog} {W : List Op} {A E K Bh : Nat}
    {gs : List GhostC3b} (h : GInvC3b s fs w r W A E K Bh gs) (c : Cache) :
    GInvC3b { s with cache := c } fs w r W A E K Bh gs :=
  { h with
    base := h.base.of_cache c
    ents := fun p hp => { h.ents p hp with hinv := (h.ents p hp).hinv.of_cache c } }

theorem GInvC3b.retarget {s : Store} {fs : Fs} {w : Worker} {r : RefLog} {W : List Op} {A E K Bh : Nat}
    {gs : List GhostC3b} (h : GInvC3b s fs w r W A E K Bh gs) :
    GInvC3b s fs w r W A s.openEnd W.length Bh gs :=
  { h with base := h.base.retarget_C3b }

theorem GEntC3b.caller_step {s s' : Store} {fs fs' : Fs} {w : Worker} {q : List WReq} {r r' : RefLog}
    {W W' : List Op} {Bh A : Nat} {cs cs' : List Closed} {p : GhostC3b}
    (hpe : GEntC3b s fs w r W Bh A cs p)
    (hinv : HInv (s'.liftC3b cs') fs' (w.push q).settle r' W' Bh A p.m p.k)
    (hcov : CovC3b W' p.k p.c.state.last) (hoe : s.openEnd ≤ s'.openEnd)
    (hfs : fs.has p.c.id = true → fs'.has p.c.id = true) (hge : AllGeC3b s.openEnd q)
    (hrem : p.m ≤ s.openEnd → p.c.id ∈ s.removed →
      p.c.id ∈ s'.removed ∨ WGuardAtC3b p.m p.c.id (w.push q).settle) :
    GEntC3b s' fs' (w.push q).settle r' W' Bh A cs' p := by
  refine {
    hinv := hinv
    cov := hcov
    mlo := hpe.mlo
    mhi := Nat.le_trans hpe.mhi hoe
    linked := hfs hpe.linked
    guard := ?_ }
  rcases hpe.guard with k | k | k
  · exact Or.inl k
  · exact Or.inr (hrem hpe.mhi k)
  · exact Or.inr (Or.inr (k.push _ (hge.mono hpe.mhi)).settle)

theorem GInvC3b.flush {s : Store} {fs : Fs} {w : Worker} {r : RefLog} {W : List Op} {A E K Bh : Nat}
    {gs : List GhostC3b} (h : GInvC3b s fs w r W A E K Bh gs) (cb : Option Nat) :
    GInvC3b (s.flush cb).1 (effFs (s.flush cb).2 fs) (w.push (effQ (s.flush cb).2)).settle r W A E K Bh gs := by
  have hstepH : ∀ {E' K' : Nat}, HInv (s.liftC3b (ghostClosedC3b gs)) fs w r W Bh A E' K' →
      HInv ((s.flush cb).1.liftC3b (ghostClosedC3b gs)) (effFs (s.flush cb).2 fs)
        (w.push (effQ (s.flush cb).2)).settle r W Bh A E' K' :=
    fun hi => (flush_H hi cb).settle
  refine { h with base := hstepH h.base, ents := fun p hp => ?_, order := ?_, unl := (h.unl.push _).settle }
  · have hpe := h.ents p hp
    exact hpe.caller_step (hstepH hpe.hinv) hpe.cov (Nat.le_refl _) (fun k => by rw [effFs_flush]; exact k)
      (flush_allGe_C3b s cb (Nat.le_refl _)) (fun hm hx => Or.inr (flush_guardAt_C3b s w cb hm hx))
  · rw [Worker.toRemove_settle, toRemove_push_C3b, flush_rmIds_C3b]
    have : (s.flush cb).1.removed = [] := rfl
    rw [this, List.append_nil]
    exact h.order

/-- A record's `StepOK` looks at the state and the index map only. -/
theorem StepOK.lift {s : Store} {r r' : RefLog} {rec : Record} (ok : StepOK s r r' rec) (cs : List Closed) :
    StepOK (s.liftC3b cs) r r' rec :=
  ⟨ok.hst, ok.small, ok.hstate, ok.wf, ok.hlog, ok.pay, ok.newEntry, ok.check⟩

/-- `call_ghost` on the REAL store, with the invariant of the ghost store as `I`: the caller's moves do not look
at the closed chunks, so the ghost store follows them; the chunks a purge drops after journalling its record stay
in the ghost store — they join the ghost list with the journal end as their `m` and all of the writes as their
`k`. -/
theorem GInvC3b.call {s : Store} {fs : Fs} {w : Worker} {r r' : RefLog} {W : List Op}
    {A E K Bh : Nat} {gs : List GhostC3b} (fsHas : Nat → Bool) {op : Op}
    (h : GInvC3b s fs w r W A E K Bh gs) (hli : LInv s fs w) (hjr : JInv s fs w)
    (hfs : ∀ i, s.openEnd ≤ i → fsHas i = false)
    (hl : r.legal op = true) (hc : r.call op = .ok r') (hsm : op.small) (hwf : op.WF) :
    ∃ gs', GInvC3b (s.call fsHas op).2.1 (effFs (s.call fsHas op).2.2 fs)
      (w.push (effQ (s.call fsHas op).2.2)).settle r' (W ++ op.expand1 r) A E K Bh gs' ∧
      lastM gs' Bh = markAfter s (s.call fsHas op).2.1 (lastM gs Bh) := by
  -- the pairs the invariant of the ghost store is tracked for
  let P : Nat → Nat → Prop := fun E' K' => (E' = E ∧ K' = K) ∨ ∃ p ∈ gs, E' = p.m ∧ K' = p.k
  have hP : ∀ E' K', P E' K' → HInv (s.liftC3b (ghostClosedC3b gs)) fs w r W Bh A E' K' := by
    rintro E' K' (⟨rfl, rfl⟩ | ⟨p, hp, rfl, rfl⟩)
    · exact h.base
    · exact (h.ents p hp).hinv
  obtain ⟨seg, s1, effs, ⟨hH, hj1, hl1, hrm⟩, hgr, heq⟩ :=
    call_ghost CallGhost.writes (I := fun W r s1 fs w =>
        (∀ E' K', P E' K' → HInv (s1.liftC3b (ghostClosedC3b gs)) fs w r W Bh A E' K') ∧
        JInv s1 fs w ∧ LInv s1 fs w ∧ s1.removed = s.removed) fsHas
      (abs := fun q => (q.1 E K (.inl ⟨rfl, rfl⟩)).inv.abs.of_fields rfl rfl rfl)
      (applied := fun ⟨qH, qj, ql, qr⟩ ok hw ⟨Wn, e, hrun, hlen⟩ =>
        have hrw := hw hwf qj.stWF qj.logWF
        have hjl := LInv.callerInv.applied ⟨qj, ql⟩ hrw ok.hst
        ⟨fun E' K' hp => e ▸ Store.liftC3b_applied _ _ _ _ ▸ (qH E' K' hp).applied (ok.lift _) hrw hrun hlen,
          hjl.1, hjl.2, qr⟩)
      (rotated := fun ⟨qH, qj, ql, qr⟩ hf =>
        have hjl := LInv.callerInv.rotated ⟨qj, ql⟩ hf
        ⟨fun E' K' hp => Store.liftC3b_rotated _ _ ▸ (qH E' K' hp).rotated, hjl.1, hjl.2, qr⟩)
      ⟨hP, hjr, hli, rfl⟩ hfs hl hc hsm rfl
  have hge := call_allGe_C3b s fsHas op
  have hnr : rmIds (effQ (s.call fsHas op).2.2) = [] := NoRmC3b.call s fsHas op
  have hrun' := (hH E K (.inl ⟨rfl, rfl⟩)).run
  -- the store the call returns is `s1` without an obsolete prefix `pre` of its closed chunks: the two outcomes of
  -- `call_ghost` are `s2 = s1`, `pre = []` and `s2 = s1.popped upto`, `pre` = what `popObsolete` took
  have fin : ∀ (s2 : Store) (pre : List Closed), s.call fsHas op = (.ok seg, s2, effs) →
      s1.closed = pre ++ s2.closed → s2.st = s1.st → s2.log = s1.log → s2.openOffsets = s1.openOffsets →
      s2.pending = s1.pending → s2.removed = s.removed ++ pre.map Closed.id →
      (∀ c ∈ pre, optLe c.state.last r'.purged = true) →
      ∃ gs', GInvC3b s2 (effFs effs fs) (w.push (effQ effs)).settle r' (W ++ op.expand1 r) A E K Bh gs' ∧
        lastM gs' Bh = markAfter s s2 (lastM gs Bh) := by
    intro s2 pre heq2 hcl k1 k2 k3 k4 k6 hobs
    rw [heq2] at hge hnr
    have e3 : s2.openEnd = s1.openEnd := by rw [Store.openEnd, k3]; rfl
    let gs' := gs ++ pre.map (fun c => (⟨c, s1.openEnd, (W ++ op.expand1 r).length⟩ : GhostC3b))
    have hcs' : ghostClosedC3b gs' = ghostClosedC3b gs ++ pre := by
      simp [gs', ghostClosedC3b, List.map_map, Function.comp_def]
    have hfin : ∀ E' K', P E' K' → HInv (s2.liftC3b (ghostClosedC3b gs')) (effFs effs fs)
        (w.push (effQ effs)).settle r' (W ++ op.expand1 r) Bh A E' K' := fun E' K' hp =>
      (hH E' K' hp).settle.congr_C3b k1 k2 k3 k4
        (by rw [Store.liftC3b_closed, Store.liftC3b_closed, hcs', List.append_assoc, hcl])
    refine ⟨gs', ⟨hfin E K (.inl ⟨rfl, rfl⟩), ?_, ?_, h.ack, ?_, ?_, (h.unl.push _).settle⟩, ?_⟩
    · intro p hp
      rcases List.mem_append.mp hp with hp | hp
      · -- an older ghost chunk
        have hpe := h.ents p hp
        exact hpe.caller_step (hfin p.m p.k (.inr ⟨p, hp, rfl, rfl⟩))
          (hpe.cov.extend _ hpe.count_le h.base.run) (e3 ▸ hgr.openEnd) (effFs_has_mono_C3b _ _ _) hge
          (fun _ hx => Or.inl (by rw [k6]; exact List.mem_append_left _ hx))
      · -- a chunk dropped by this purge
        obtain ⟨c, hcm, rfl⟩ := List.mem_map.mp hp
        have hc1 : c ∈ s1.closed := by rw [hcl]; exact List.mem_append_left _ hcm
        have hret := (hfin E K (.inl ⟨rfl, rfl⟩)).retarget_C3b
        rw [Store.liftC3b_openEnd, e3] at hret
        refine ⟨hret, .of_end hrun' (hobs c hcm),
          Nat.lt_of_le_of_lt (hj1.closedLe c hc1) hj1.openId_lt, Nat.le_of_eq e3.symm, ?_, ?_⟩
        · exact hl1.live _ (by rw [Store.chunkIds_eq]; exact List.mem_append_left _ (List.mem_map.mpr ⟨c, hc1, rfl⟩))
        · exact Or.inr (Or.inl (by rw [k6]; exact List.mem_append_right _ (List.mem_map.mpr ⟨c, hcm, rfl⟩)))
    · rw [Worker.toRemove_settle, toRemove_push_C3b, hnr, List.append_nil, k6, hcs', List.map_append,
        ← List.append_assoc, h.order]
    · rw [List.pairwise_append]
      refine ⟨h.mono, ?_, ?_⟩
      · rw [List.pairwise_map]
        exact List.pairwise_of_forall (fun _ _ => Nat.le_refl _)
      · intro a ha b hb
        obtain ⟨c, _, rfl⟩ := List.mem_map.mp hb
        exact Nat.le_trans (h.ents a ha).mhi hgr.openEnd
    · intro p hp
      rcases List.mem_append.mp hp with hp | hp
      · exact h.lo p hp
      · obtain ⟨c, _, rfl⟩ := List.mem_map.mp hp
        exact Nat.le_trans h.base.markLe hgr.openEnd
    · -- the marker of the real store moves to the journal end iff chunks were dropped
      rw [lastM_append, markAfter, k6, e3]
      cases pre with
      | nil => simp [lastM]
      | cons c pre => exact (lastM_of_all (m := s1.openEnd) (by simp) (by simp) _).trans (by simp)
  rcases heq with heq | ⟨upto, rfl, hnn, _, heq⟩
  · rw [heq]
    exact fin s1 [] heq rfl rfl rfl rfl rfl (by rw [hrm]; simp) nofun
  · rw [heq]
    obtain ⟨pre, hpre, hids, hall⟩ := popObsolete_pre upto s1.closed
    exact fin (s1.popped upto) pre heq hpre rfl rfl rfl rfl
      (by show s1.removed ++ _ = _; rw [hids, hrm])
      (fun c hm => optLe_trans (optLe_of_not_lt (hall c hm)) (RefLog.purge_le_purged hc hnn))

end RaftLog
