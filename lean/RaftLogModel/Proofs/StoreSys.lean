/-
The store of a system along a history, seen by itself. A call replaces it by the result of `Store.call`;
every other step that keeps it changes only the cache (entries, counter and limits stay, or it is drained), the
pending buffer and the removal list (each stays or is emptied): `Sys.step_store_between`. So an invariant of the
store alone that calls keep and that survives those changes is kept by every live step — with or without a
store, whether or not the worker survives (`Sys.step_store`, `Sys.run_store`). The worker's side of the same
statement is `Sys.step_worker`.
-/
import RaftLogModel.Proofs.SysBasic
import RaftLogModel.Proofs.WorkerBlocks
namespace RaftLog

/-- The cache keeps entries, counter and limits (`SameItems`: a worker step may publish the eviction
boundary) or is drained; the pending buffer and the removal list stay or are emptied (a flush hands them on). -/
theorem Sys.step_store_between (y : Sys) {st : Step} (hl : st.live = true) (hnc : ∀ op, st ≠ .call op) :
    ∃ f : Store → Store, (y.step st).store = y.store.map f ∧
      ∀ s, ∃ c p rm, f s = { s with cache := c, pending := p, removed := rm } ∧
        (SameItems c s.cache ∨ c = s.cache.drainEvictable) ∧ (p = s.pending ∨ p = []) ∧
        (rm = s.removed ∨ rm = []) := by
  cases st with
  | call op => exact absurd rfl (hnc op)
  | drop => cases hl
  | openWith c => cases hl
  | flush cb =>
    refine ⟨fun s => if (applyEffs (s.flush cb).2 y.fs y.worker []).1 then (s.flush cb).1
      else { (s.flush cb).1 with removed := s.removed }, ?_, fun s => ?_⟩
    · cases hs : y.store <;> simp only [Sys.step, Sys.flush, hs, Option.map]
    · dsimp only
      split
      · exact ⟨s.cache, [], [], rfl, .inl (.refl _), .inr rfl, .inr rfl⟩
      · exact ⟨s.cache, [], s.removed, rfl, .inl (.refl _), .inr rfl, .inl rfl⟩
  | worker out =>
    refine ⟨fun s => { s with cache :=
      (WCtx.step { w := y.worker, fs := y.fs, cache := s.cache } out).cache }, ?_,
      fun s => ⟨_, s.pending, s.removed, rfl, .inl (WCtx.step_same _ out), .inl rfl, .inl rfl⟩⟩
    cases hs : y.store <;> simp only [Sys.step, Sys.workerStep, hs, Option.map]
  | workerIdle =>
    refine ⟨fun s => { s with cache :=
      (WCtx.runQuiet y.worker.fuel { w := y.worker, fs := y.fs, cache := s.cache }).cache }, ?_,
      fun s => ⟨_, s.pending, s.removed, rfl, .inl (WCtx.runQuiet_same _ _), .inl rfl, .inl rfl⟩⟩
    cases hs : y.store <;> simp only [Sys.step, Sys.workerIdle, hs, Option.map]
  | drain =>
    refine ⟨fun s => { s with cache := s.cache.drainEvictable }, ?_,
      fun s => ⟨_, s.pending, s.removed, rfl, .inr rfl, .inl rfl, .inl rfl⟩⟩
    cases hs : y.store <;> simp only [Sys.step, Sys.drain, hs, Option.map]

theorem Sys.step_store {I : Store → Prop} {C : Op → Prop} {y : Sys}
    (hcall : ∀ s op, C op → I s → I (s.call y.fs.has op).2.1)
    (hkeep : ∀ (s : Store) c p rm, (SameItems c s.cache ∨ c = s.cache.drainEvictable) →
      (p = s.pending ∨ p = []) → (rm = s.removed ∨ rm = []) → I s →
      I { s with cache := c, pending := p, removed := rm })
    (h : ∀ s, y.store = some s → I s) {st : Step} (hl : st.live = true)
    (hC : ∀ op, st = .call op → C op) : ∀ s', (y.step st).store = some s' → I s' := by
  intro s' hs'
  by_cases hc : ∃ op, st = .call op
  · obtain ⟨op, rfl⟩ := hc
    rw [show (y.step (.call op)).store = _ from y.call_store op] at hs'
    obtain ⟨s, hs, rfl⟩ := Option.map_eq_some_iff.mp hs'
    exact hcall s op (hC op rfl) (h s hs)
  · obtain ⟨f, hf, hb⟩ := y.step_store_between hl fun op e => hc ⟨op, e⟩
    rw [hf] at hs'
    obtain ⟨s, hs, rfl⟩ := Option.map_eq_some_iff.mp hs'
    obtain ⟨c, p, rm, e, hcache, hp, hrm⟩ := hb s
    rw [e]
    exact hkeep s c p rm hcache hp hrm (h s hs)

theorem Sys.run_store {I : Store → Prop} {C : Op → Prop}
    (hcall : ∀ (fsHas : Nat → Bool) s op, C op → I s → I (s.call fsHas op).2.1)
    (hkeep : ∀ (s : Store) c p rm, (SameItems c s.cache ∨ c = s.cache.drainEvictable) →
      (p = s.pending ∨ p = []) → (rm = s.removed ∨ rm = []) → I s →
      I { s with cache := c, pending := p, removed := rm })
    {y : Sys} (h : ∀ s, y.store = some s → I s) {steps : List Step} (hl : ∀ st ∈ steps, st.live = true)
    (hC : ∀ st ∈ steps, ∀ op, st = .call op → C op) : ∀ s', (y.run steps).store = some s' → I s' :=
  Sys.run_induct (P := fun y => ∀ s, y.store = some s → I s) (C := fun st => st ∈ steps)
    (fun y st hm h => Sys.step_store (hcall y.fs.has) hkeep h (hl st hm) (hC st hm)) h fun _ hm => hm

end RaftLog
