/-
Step-level facts of the flush worker machine, each proved once: well-formedness, the events of a step (`StepTrace`),
coverage of unsynced files, the callback queue, the dying step, and how `lastSyncFailed`, `postponed` and the start
of a removal move (`RemovalStep`).
-/
import RaftLogModel.Proofs.WorkerView
namespace RaftLog

/-- Well-formed = parked as the fall-through parks, with a file to write to. -/
theorem Worker.WF.of_landed {w : Worker} (hl : w.Landed) (hf : w.files ≠ []) : w.WF := by
  unfold Worker.WF
  unfold Worker.Landed at hl
  cases h : w.pc <;> simp only [h] at hl ⊢
  case dead => exact hl.1
  case unlinking => exact ⟨hf, hl.2⟩
  case syncOld | syncNew => exact hl
  all_goals exact hf

theorem Worker.WF.files_ne {w : Worker} (h : w.WF) (hp : w.pc ≠ .dead) : w.files ≠ [] := by
  unfold Worker.WF at h
  cases hpc : w.pc <;> simp only [hpc] at h
  case dead => exact absurd hpc hp
  case unlinking => exact h.1
  case syncOld | syncNew => intro h0; simp [h0] at h
  all_goals exact h

theorem Worker.WF.dead_queue {w : Worker} (hw : w.WF) (hpc : w.pc = .dead) : w.queue = [] := by
  simpa only [Worker.WF, hpc] using hw

theorem Worker.WF.syncOld_files {w : Worker} {b : List WReq} {t : Option WReq} (hw : w.WF)
    (hpc : w.pc = .syncOld b t) : ∃ f g rest, w.files = f :: g :: rest := by
  simp only [Worker.WF, hpc] at hw
  match hf : w.files, hw with
  | f :: g :: rest, _ => exact ⟨f, g, rest, rfl⟩

theorem Worker.WF.syncNew_files {w : Worker} {b : List WReq} {t : Option WReq} (hw : w.WF)
    (hpc : w.pc = .syncNew b t) : ∃ f, w.files = [f] := by
  simp only [Worker.WF, hpc] at hw
  match hf : w.files, hw with
  | [f], _ => exact ⟨f, rfl⟩

theorem Worker.WF.unlinking_lsf {w : Worker} {ids : List Nat} (hw : w.WF) (hpc : w.pc = .unlinking ids) :
    w.lastSyncFailed = false := by
  simp only [Worker.WF, hpc] at hw
  exact hw.2

theorem WCtx.toRecv_wf (c : WCtx) (hf : c.w.files ≠ []) : c.toRecv.w.WF :=
  .of_landed c.toRecv_landed (by simpa using hf)

theorem WCtx.startSync_files_ne (c : WCtx) (b : List WReq) (t : Option WReq) (hf : c.w.files ≠ []) :
    (c.startSync b t).w.files ≠ [] := by
  rcases c.startSync_cases b t with ⟨h, _⟩ | ⟨f, _, he⟩ | ⟨_, he⟩
  · exact absurd h hf
  · rw [he]; exact hf
  · rw [he]; exact hf

theorem WCtx.startWrites_files_ne (c : WCtx) (b : List WReq) (t : Option WReq) (hf : c.w.files ≠ []) :
    (c.startWrites b t).w.files ≠ [] := by
  rcases c.startWrites_cases b t with ⟨_, he⟩ | ⟨_, he⟩ <;> rw [he]
  · exact c.startSync_files_ne b t hf
  · exact hf

theorem WCtx.step_wf (c : WCtx) (out : Outcome) (h : c.w.WF) : (c.step out).w.WF := by
  have hf : c.w.pc ≠ .dead → c.w.files ≠ [] := h.files_ne
  apply c.step_w_elim (P := Worker.WF) out
  case dead => exact fun _ => h
  case recv =>
    intro c0 e hp
    refine c0.toRecv_wf (e ▸ hf ?_)
    rcases hp with hp | hp | ⟨i, hp, _⟩ <;> simp [hp]
  case gotW =>
    intro r hpc _
    exact .of_landed (WCtx.startWrites_landed _ _ _) (WCtx.startWrites_files_ne _ _ _ (hf (by simp [hpc])))
  case gotN => intro r hpc _; exact .of_landed (c.nonFlush_landed r) (by simp [hf (by simp [hpc])])
  case sync =>
    intro c0 todo b t e hpc _
    exact .of_landed (c0.startSync_landed b t) (c0.startSync_files_ne b t (e ▸ hf (by simp [hpc])))
  case write => intro d rest todo' b t hpc _ _; exact hf (by simp [hpc])
  case die => intro _; simp [Worker.WF]
  case finish =>
    intro c0 b t ok e hpc _ _
    refine .of_landed (c0.finishBatch_landed b t ok) ?_
    have := hf (by rcases hpc with hpc | hpc <;> simp [hpc])
    simp [e, this]
  case soOk =>
    intro c0 b t f rest hpc hf' _ e
    exact .of_landed (c0.startSync_landed b t) (c0.startSync_files_ne b t (e ▸ h.syncOld_rest hpc hf'))
  case ulMore =>
    intro i j rest hpc _
    simp only [Worker.WF, hpc] at h
    exact h

theorem WCtx.runQuiet_induct_wf {P : WCtx → Prop} (hstep : ∀ c : WCtx, c.w.WF → P c → P (c.step .ok))
    (n : Nat) (c : WCtx) (hw : c.w.WF) (h : P c) : (WCtx.runQuiet n c).w.WF ∧ P (WCtx.runQuiet n c) :=
  WCtx.runQuiet_induct (P := fun c => c.w.WF ∧ P c)
    (fun c hc => ⟨c.step_wf .ok hc.1, hstep c hc.1 hc.2⟩) n c ⟨hw, h⟩

theorem WCtx.startSync_evs (c : WCtx) (b : List WReq) (t : Option WReq) :
    ∃ cbs rest, (c.startSync b t).evs = c.evs ++ cbEvs cbs ++ rest ∧ (∀ e ∈ rest, e.isCtl = true) ∧
      (c.w.files ≠ [] → cbs = []) := by
  rcases c.startSync_cases b t with ⟨h, he⟩ | ⟨f, h, he⟩ | ⟨h, he⟩
  · obtain ⟨rest, h1, h2⟩ := c.finishBatch_evs b t true
    exact ⟨_, rest, by rw [he, h1], h2, fun hf => absurd h hf⟩
  · rw [he]; exact ⟨[], [.boundary f.prevLast], by simp [cbEvs], by simp [Ev.isCtl], fun _ => rfl⟩
  · rw [he]; exact ⟨[], [], by simp [cbEvs], Ev.allCtl_nil, fun _ => rfl⟩

theorem WCtx.startWrites_evs (c : WCtx) (b : List WReq) (t : Option WReq) :
    ∃ cbs rest, (c.startWrites b t).evs = c.evs ++ cbEvs cbs ++ rest ∧ (∀ e ∈ rest, e.isCtl = true) ∧
      (c.w.files ≠ [] → cbs = []) := by
  rcases c.startWrites_cases b t with ⟨_, he⟩ | ⟨_, he⟩
  · rw [he]; exact c.startSync_evs b t
  · rw [he]; exact ⟨[], [], by simp [cbEvs], Ev.allCtl_nil, fun _ => rfl⟩

/-- What one step appends to the event list: its system-call event, then acknowledgements, then bookkeeping
events (`isMisc`), among which only a step that kills the worker has dropped callbacks (`isCtl` otherwise). -/
def StepTrace (c : WCtx) (out : Outcome) (c' : WCtx) : Prop :=
  ∃ cbs rest, c'.evs = c.evs ++ stepSys c out ++ cbEvs cbs ++ rest ∧ (∀ e ∈ rest, e.isMisc = true) ∧
    (c.dies out = false → ∀ e ∈ rest, e.isCtl = true) ∧ (c.w.WF → cbs = stepCbs c out)

/-- The step made its system call (`c0`), then a block that acknowledges `cbs`. -/
theorem StepTrace.of_cbs {c c0 c' : WCtx} {out : Outcome} {sys : List Ev} (hsys : stepSys c out = sys)
    (h0 : c0.evs = c.evs ++ sys) {cbs : List (Nat × Bool)}
    (h : ∃ rest, c'.evs = c0.evs ++ cbEvs cbs ++ rest ∧ ∀ e ∈ rest, e.isCtl = true)
    (hc : c.w.WF → cbs = stepCbs c out) : StepTrace c out c' := by
  obtain ⟨rest, h1, h2⟩ := h
  exact ⟨cbs, rest, by rw [hsys, h1, h0], fun e he => Ev.isMisc_of_isCtl (h2 e he), fun _ => h2, hc⟩

theorem StepTrace.of_ctl {c c0 c' : WCtx} {out : Outcome} {sys : List Ev} (hsys : stepSys c out = sys)
    (h0 : c0.evs = c.evs ++ sys)
    (h : ∃ rest, c'.evs = c0.evs ++ rest ∧ ∀ e ∈ rest, e.isCtl = true)
    (hc : stepCbs c out = []) : StepTrace c out c' := by
  obtain ⟨rest, h1, h2⟩ := h
  exact .of_cbs hsys h0 ⟨rest, by simpa [cbEvs] using h1, h2⟩ fun _ => hc.symm

theorem StepTrace.of_sync {c c0 c' : WCtx} {out : Outcome} {sys : List Ev} (hsys : stepSys c out = sys)
    (h0 : c0.evs = c.evs ++ sys)
    (h : ∃ cbs rest, c'.evs = c0.evs ++ cbEvs cbs ++ rest ∧ (∀ e ∈ rest, e.isCtl = true) ∧
      (c0.w.files ≠ [] → cbs = []))
    (hf : c.w.WF → c0.w.files ≠ []) (hc : stepCbs c out = []) : StepTrace c out c' := by
  obtain ⟨cbs, rest, h1, h2, h3⟩ := h
  exact .of_cbs hsys h0 ⟨rest, h1, h2⟩ fun hw => by rw [hc]; exact h3 (hf hw)

theorem StepTrace.of_die {c c0 : WCtx} {out : Outcome} {sys : List Ev} {inHand : List WReq}
    (hsys : stepSys c out = sys) (h0 : c0.evs = c.evs ++ sys) (hd : c.dies out = true)
    (hc : stepCbs c out = []) : StepTrace c out (c0.die inHand) := by
  obtain ⟨rest, h1, h2⟩ := c0.die_evs_misc inHand
  exact ⟨[], rest, by rw [hsys, h1, h0]; simp [cbEvs], h2, fun h => absurd (hd.symm.trans h) (by simp),
    fun _ => hc.symm⟩

theorem WCtx.step_trace (c : WCtx) (out : Outcome) : StepTrace c out (c.step out) := by
  have park : ∀ c0 : WCtx, ∃ rest, c0.evs = c0.evs ++ rest ∧ ∀ e ∈ rest, e.isCtl = true :=
    fun _ => ⟨[], by simp, Ev.allCtl_nil⟩
  apply c.step_elim (P := fun c' => StepTrace c out c') out
  case dead => intro hpc hs; exact .of_ctl hs (by simp) (park c) (by simp [stepCbs, hpc])
  case idle => intro hpc hs; exact .of_ctl hs (by simp) c.toRecv_evs (by simp [stepCbs, hpc])
  case gotW =>
    intro r hpc _ hs
    exact .of_sync hs (c0 := c.setQueue _) (by simp) (WCtx.startWrites_evs _ _ _)
      (fun hw => hw.files_ne (by simp [hpc])) (by simp [stepCbs, hpc])
  case gotN => intro r hpc _ hs; exact .of_ctl hs (by simp) (c.nonFlush_evs r) (by simp [stepCbs, hpc])
  case wrNil =>
    intro b t hpc hs
    exact .of_sync hs (by simp) (c.startSync_evs b t) (fun hw => hw.files_ne (by simp [hpc]))
      (by simp [stepCbs, hpc])
  case wrEio =>
    intro d rest b t hpc ho hs
    exact .of_die hs rfl (by simp [WCtx.dies, hpc, ho]) (by simp [stepCbs, hpc])
  case wrPart =>
    intro d rest b t k hpc _ _ _ hs
    exact .of_ctl hs (c0 := c.wrote _ _) rfl (park _) (by simp [stepCbs, hpc])
  case wrLast =>
    intro d b t hpc _ hs
    exact .of_sync hs (c0 := c.wrote _ _) rfl (WCtx.startSync_evs _ _ _)
      (fun hw => hw.files_ne (by simp [hpc])) (by simp [stepCbs, hpc])
  case wrMore =>
    intro d d' rest b t hpc _ hs
    exact .of_ctl hs (c0 := c.wrote _ _) rfl (park _) (by simp [stepCbs, hpc])
  case soNil =>
    intro b t hpc hf hs
    exact .of_cbs hs (by simp) (c.finishBatch_evs b t true)
      fun hw => absurd hf (hw.files_ne (by simp [hpc]))
  case soEio =>
    intro b t f rest hpc hf ho hs
    exact .of_cbs hs rfl (WCtx.finishBatch_evs _ b t false) fun _ => by simp [stepCbs, hpc, ho]
  case soOk =>
    intro b t f rest hpc hf ho hs
    exact .of_sync hs (c0 := (c.setFiles rest).synced f.id) rfl (WCtx.startSync_evs _ _ _)
      (fun hw => hw.syncOld_rest hpc hf) (by simp [stepCbs, hpc, ho])
  case snNil =>
    intro b t hpc hf hs
    exact .of_cbs hs (by simp) (c.finishBatch_evs b t true)
      fun hw => absurd hf (hw.files_ne (by simp [hpc]))
  case snEio =>
    intro b t f rest hpc hf ho hs
    exact .of_cbs hs rfl (WCtx.finishBatch_evs _ b t false) fun _ => by simp [stepCbs, hpc, ho]
  case snOk =>
    intro b t f rest hpc hf ho hs
    have ho' : (out != Outcome.eio) = true := by simpa using ho
    exact .of_cbs hs (c0 := c.synced f.id) rfl (WCtx.finishBatch_evs _ b t true)
      fun _ => by simp [stepCbs, hpc, ho']
  case ulNil => intro hpc hs; exact .of_ctl hs (by simp) c.toRecv_evs (by simp [stepCbs, hpc])
  case ulEio =>
    intro i rest hpc ho hs
    exact .of_die hs rfl (by simp [WCtx.dies, hpc, ho]) (by simp [stepCbs, hpc])
  case ulLast =>
    intro i hpc _ hs
    exact .of_ctl hs (c0 := c.unlinked i) rfl (WCtx.toRecv_evs _) (by simp [stepCbs, hpc])
  case ulMore =>
    intro i j rest hpc _ hs
    exact .of_ctl hs (c0 := c.unlinked i) rfl (park _) (by simp [stepCbs, hpc])

/-- `Trk` with file list and requests as parameters, for the points inside a step where the program counter is
stale: `Trk w x` is `TrkPre w.files (w.pc.held ++ w.queue) x` by `Iff.rfl`. -/
def TrkPre (files : List FileEnt) (reqs : List WReq) (x : Nat) : Prop :=
  x ∈ files.map FileEnt.id ∨ x ∈ reqs.filterMap WReq.appendId

theorem ents_ids (r : WReq) : r.ents.map FileEnt.id = [r].filterMap WReq.appendId := by
  cases r <;> simp [WReq.ents, WReq.appendId]

theorem tailEnts_ids (t : Option WReq) : (tailEnts t).map FileEnt.id = t.toList.filterMap WReq.appendId := by
  cases t with
  | none => rfl
  | some r => exact ents_ids r

theorem Trk.of_block {w w' : Worker} {reqs : List WReq} {ents : List FileEnt} {x : Nat}
    (hf : w'.files = w.files ++ ents) (hq : w'.pc.held ++ w'.queue = w.queue)
    (he : ents.map FileEnt.id = reqs.filterMap WReq.appendId)
    (h : TrkPre w.files (reqs ++ w.queue) x) : Trk w' x := by
  show TrkPre w'.files (w'.pc.held ++ w'.queue) x
  rw [hf, hq]
  unfold TrkPre at *
  rw [List.map_append, he, List.mem_append]
  rw [List.filterMap_append, List.mem_append] at h
  rcases h with h | h | h
  · exact .inl (.inl h)
  · exact .inl (.inr h)
  · exact .inr h

theorem WCtx.toRecv_trk (c : WCtx) (x : Nat) (h : TrkPre c.w.files c.w.queue x) : Trk c.toRecv.w x :=
  .of_block (reqs := []) (ents := []) (by simp) c.toRecv_held rfl h

theorem WCtx.nonFlush_trk (c : WCtx) (r : WReq) (x : Nat) (h : TrkPre c.w.files (r :: c.w.queue) x) :
    Trk (c.nonFlush r).w x :=
  .of_block (reqs := [r]) (c.nonFlush_files r) (c.nonFlush_held r) (ents_ids r) h

theorem WCtx.finishBatch_trk (c : WCtx) (b : List WReq) (t : Option WReq) (ok : Bool) (x : Nat)
    (h : TrkPre c.w.files (t.toList ++ c.w.queue) x) : Trk (c.finishBatch b t ok).w x :=
  .of_block (c.finishBatch_files b t ok) (c.finishBatch_held b t ok) (tailEnts_ids t) h

theorem WCtx.startSync_trk (c : WCtx) (b : List WReq) (t : Option WReq) (x : Nat)
    (h : TrkPre c.w.files (t.toList ++ c.w.queue) x) : Trk (c.startSync b t).w x := by
  rcases c.startSync_cases b t with ⟨_, he⟩ | ⟨f, _, he⟩ | ⟨_, he⟩ <;> rw [he]
  · exact c.finishBatch_trk b t true x h
  · exact h
  · exact h

theorem WCtx.startWrites_trk (c : WCtx) (b : List WReq) (t : Option WReq) (x : Nat)
    (h : TrkPre c.w.files (t.toList ++ c.w.queue) x) : Trk (c.startWrites b t).w x := by
  rcases c.startWrites_cases b t with ⟨_, he⟩ | ⟨_, he⟩ <;> rw [he]
  · exact c.startSync_trk b t x h
  · exact h

def File.unsynced (f : File) : Prop := f.durable < f.data.length

theorem Covered.of {c c' : WCtx}
    (h : ∀ g' ∈ c'.fs, g'.durable < g'.data.length → g'.linked = true →
      Trk c'.w g'.id ∨ (g' ∈ c.fs ∧ (Trk c.w g'.id → Trk c'.w g'.id)))
    (hc : Covered c) : Covered c' := by
  intro g' hg' hu hl
  rcases h g' hg' hu hl with h1 | ⟨h1, h2⟩
  · exact h1
  · exact h2 (hc g' h1 hu hl)

theorem Covered.of_fs_eq {c c' : WCtx} (hfs : c'.fs = c.fs) (hT : ∀ x, Trk c.w x → Trk c'.w x)
    (hc : Covered c) : Covered c' :=
  hc.of fun _ hg' _ _ => .inr ⟨hfs ▸ hg', hT _⟩

theorem newestId_mem {files : List FileEnt} (h : files ≠ []) : newestId files ∈ files.map FileEnt.id := by
  unfold newestId
  cases hl : files.getLast? with
  | none => simp [List.getLast?_eq_none_iff] at hl; exact absurd hl h
  | some f =>
    simp only [List.mem_map]
    exact ⟨f, List.mem_of_getLast? hl, rfl⟩

theorem Trk.of_pc {w : Worker} {x : Nat} {pc : WPc} (h : Trk w x) (hh : w.pc = pc) :
    TrkPre w.files (pc.held ++ w.queue) x := by
  have h : TrkPre w.files (w.pc.held ++ w.queue) x := h
  rw [hh] at h
  exact h

theorem Covered.wrote {c c' : WCtx} {bs : Bytes} (hc : Covered c) (hne : c.w.files ≠ [])
    (hfs : c'.fs = c.fs.write (newestId c.w.files) bs) (hT : ∀ x, Trk c.w x → Trk c'.w x) : Covered c' := by
  refine hc.of fun g' hg' _ _ => ?_
  rcases Fs.mem_write (hfs ▸ hg') with h | h
  · exact .inl (h ▸ hT _ (.inl (newestId_mem hne)))
  · exact .inr ⟨h, hT _⟩

theorem Covered.synced {c c' : WCtx} {id : Nat} (hc : Covered c) (hfs : c'.fs = c.fs.sync id)
    (hT : ∀ x, x ≠ id → Trk c.w x → Trk c'.w x) : Covered c' := by
  refine hc.of fun g' hg' hu _ => ?_
  rcases Fs.mem_sync (hfs ▸ hg') with ⟨_, h⟩ | ⟨hne, h⟩
  · omega
  · exact .inr ⟨h, hT _ hne⟩

theorem Covered.unlinked {c c' : WCtx} {i : Nat} (hc : Covered c) (hfs : c'.fs = c.fs.unlink i)
    (hT : ∀ x, Trk c.w x → Trk c'.w x) : Covered c' := by
  refine hc.of fun g' hg' _ hl => ?_
  rcases Fs.mem_unlink (hfs ▸ hg') with h | h
  · rw [h] at hl; cases hl
  · exact .inr ⟨h, hT _⟩

theorem TrkPre.collect {files : List FileEnt} {r : WReq} {q : List WReq} {x : Nat} (hr : r.isWrite = true)
    (h : TrkPre files ([r] ++ q) x) :
    TrkPre files ((collectBatch 1024 q).2.1.toList ++ (collectBatch 1024 q).2.2) x := by
  obtain ⟨h1, h2, _⟩ := collectBatch_specW 1024 q
  unfold TrkPre at *
  rcases h with h | h
  · exact .inl h
  · right
    rw [List.filterMap_append, List.mem_append] at h
    rcases h with h | h
    · simp [isWrite_appendId hr] at h
    · rw [h1, List.append_assoc, List.filterMap_append, List.mem_append] at h
      rcases h with h | h
      · rw [filterMap_eq_nil_of_forall _ _ (fun a ha => isWrite_appendId (h2 a ha))] at h
        cases h
      · exact h

/- Why it holds: a file gets unsynced bytes only by a write, and writes go to the newest file, which is in `files`;
`files` loses an entry only in `soOk`, right after that file was synced; a request only moves from the queue into
hand and an `appendFile` from there into `files`, so what was tracked stays tracked (`Trk.of_block`). -/
theorem WCtx.step_covered (c : WCtx) (out : Outcome) (hw : c.w.WF) (hd : c.dies out = false)
    (hc : Covered c) : Covered (c.step out) := by
  have hf : c.w.pc ≠ .dead → c.w.files ≠ [] := hw.files_ne
  apply c.step_elim (P := fun c' => Covered c') out
  case dead => intro _ _; exact hc
  case idle =>
    intro hpc _
    exact hc.of_fs_eq (by simp) fun x hx => c.toRecv_trk x (hx.of_pc hpc)
  case gotW =>
    intro r hpc hr _
    exact hc.of_fs_eq (by simp) fun x hx =>
      WCtx.startWrites_trk _ _ _ x (TrkPre.collect hr (hx.of_pc hpc))
  case gotN =>
    intro r hpc _ _
    exact hc.of_fs_eq (by simp) fun x hx => c.nonFlush_trk r x (hx.of_pc hpc)
  case wrNil =>
    intro b t hpc _
    exact hc.of_fs_eq (by simp) fun x hx => c.startSync_trk b t x (hx.of_pc hpc)
  case wrEio =>
    intro d rest b t hpc ho _
    simp [WCtx.dies, hpc, ho] at hd
  case wrPart =>
    intro d rest b t k hpc _ _ _ _
    exact hc.wrote (hf (by simp [hpc])) rfl fun x hx => (hx.of_pc hpc :)
  case wrLast =>
    intro d b t hpc _ _
    exact hc.wrote (bs := d) (hf (by simp [hpc])) (by simp) fun x hx => WCtx.startSync_trk _ b t x (hx.of_pc hpc)
  case wrMore =>
    intro d d' rest b t hpc _ _
    exact hc.wrote (hf (by simp [hpc])) rfl fun x hx => (hx.of_pc hpc :)
  case soNil =>
    intro b t hpc _ _
    exact hc.of_fs_eq (by simp) fun x hx => c.finishBatch_trk b t true x (hx.of_pc hpc)
  case soEio =>
    intro b t f rest hpc _ _ _
    exact hc.of_fs_eq (by simp) fun x hx => WCtx.finishBatch_trk _ b t false x (hx.of_pc hpc)
  case soOk =>
    intro b t f rest hpc hf' _ _
    refine hc.synced (id := f.id) (by simp) fun x hne hx => WCtx.startSync_trk _ b t x ?_
    rcases hx.of_pc hpc with h1 | h1
    · rw [hf'] at h1
      exact .inl ((List.mem_cons.mp h1).resolve_left hne)
    · exact .inr h1
  case snNil =>
    intro b t hpc _ _
    exact hc.of_fs_eq (by simp) fun x hx => c.finishBatch_trk b t true x (hx.of_pc hpc)
  case snEio =>
    intro b t f rest hpc _ _ _
    exact hc.of_fs_eq (by simp) fun x hx => WCtx.finishBatch_trk _ b t false x (hx.of_pc hpc)
  case snOk =>
    intro b t f rest hpc hf' _ _
    exact hc.synced (id := f.id) (by simp) fun x _ hx => WCtx.finishBatch_trk _ b t true x (hx.of_pc hpc)
  case ulNil =>
    intro hpc _
    exact hc.of_fs_eq (by simp) fun x hx => c.toRecv_trk x (hx.of_pc hpc)
  case ulEio =>
    intro i rest hpc ho _
    simp [WCtx.dies, hpc, ho] at hd
  case ulLast =>
    intro i hpc _ _
    exact hc.unlinked (i := i) (by simp) fun x hx => WCtx.toRecv_trk _ x (hx.of_pc hpc)
  case ulMore =>
    intro i j rest hpc _ _
    exact hc.unlinked (i := i) rfl fun x hx => (hx.of_pc hpc :)

theorem cbQueue_eq (w : Worker) {pc : WPc} (h : w.pc = pc) :
    cbQueue w = (pc.batch ++ w.queue).filterMap WReq.cbId := by
  rw [cbQueue, h]

@[simp] theorem batchCbs_fst (b : List WReq) (ok : Bool) :
    (batchCbs b ok).map Prod.fst = b.filterMap WReq.cbId := by
  simp [batchCbs, List.map_map, Function.comp_def]

theorem WCtx.toRecv_cbQueue (c : WCtx) : cbQueue c.toRecv.w = c.w.queue.filterMap WReq.cbId := by
  simp [cbQueue]
theorem WCtx.nonFlush_cbQueue (c : WCtx) (r : WReq) :
    cbQueue (c.nonFlush r).w = c.w.queue.filterMap WReq.cbId := by
  simp [cbQueue]
theorem WCtx.finishBatch_cbQueue (c : WCtx) (b : List WReq) (t : Option WReq) (ok : Bool) :
    cbQueue (c.finishBatch b t ok).w = c.w.queue.filterMap WReq.cbId := by
  simp [cbQueue]
theorem WCtx.startSync_cbQueue (c : WCtx) (b : List WReq) (t : Option WReq) (hf : c.w.files ≠ []) :
    cbQueue (c.startSync b t).w = (b ++ c.w.queue).filterMap WReq.cbId := by
  rcases c.startSync_cases b t with ⟨h, _⟩ | ⟨f, _, he⟩ | ⟨_, he⟩
  · exact absurd h hf
  · rw [he]; rfl
  · rw [he]; rfl
theorem WCtx.startWrites_cbQueue (c : WCtx) (b : List WReq) (t : Option WReq) (hf : c.w.files ≠ []) :
    cbQueue (c.startWrites b t).w = (b ++ c.w.queue).filterMap WReq.cbId := by
  rcases c.startWrites_cases b t with ⟨_, he⟩ | ⟨_, he⟩ <;> rw [he]
  · exact c.startSync_cbQueue b t hf
  · rfl

theorem collectBatch_cbs (q : List WReq) :
    q.filterMap WReq.cbId =
      ((collectBatch 1024 q).1 ++ (collectBatch 1024 q).2.2).filterMap WReq.cbId := by
  obtain ⟨h1, _, h3⟩ := collectBatch_specW 1024 q
  conv => lhs; rw [h1]
  simp only [List.filterMap_append]
  rw [filterMap_eq_nil_of_forall WReq.cbId (collectBatch 1024 q).2.1.toList]
  · simp
  · intro a ha
    exact not_isWrite_cbId (h3 a (by simpa using ha))

theorem WCtx.step_cbQueue (c : WCtx) (out : Outcome) (hw : c.w.WF) (hd : c.dies out = false) :
    cbQueue c.w = (stepCbs c out).map Prod.fst ++ cbQueue (c.step out).w := by
  have hf : c.w.pc ≠ .dead → c.w.files ≠ [] := hw.files_ne
  apply c.step_w_elim (P := fun w' => cbQueue c.w = (stepCbs c out).map Prod.fst ++ cbQueue w') out
  case dead => intro hpc; simp [stepCbs, hpc]
  case recv =>
    intro c0 e hp
    rw [c0.toRecv_cbQueue, e]
    rcases hp with hp | hp | ⟨i, hp, _⟩ <;> rw [cbQueue_eq _ hp] <;> simp [stepCbs, hp, WPc.batch]
  case gotW =>
    intro r hpc hr
    have hq : ∀ q, (c.setQueue q).w.files ≠ [] := fun _ => hf (by simp [hpc])
    rw [WCtx.startWrites_cbQueue _ _ _ (hq _), cbQueue_eq _ hpc]
    simp only [stepCbs, hpc, List.map_nil, List.nil_append, WPc.batch, WCtx.setQueue_w]
    rw [List.filterMap_append, collectBatch_cbs c.w.queue, ← List.filterMap_append]
    rfl
  case gotN =>
    intro r hpc hr
    rw [c.nonFlush_cbQueue, cbQueue_eq _ hpc]
    simp [stepCbs, hpc, WPc.batch, not_isWrite_cbId hr]
  case sync =>
    intro c0 todo b t e hpc _
    rw [c0.startSync_cbQueue _ _ (e ▸ hf (by simp [hpc])), e, cbQueue_eq _ hpc]
    simp [stepCbs, hpc, WPc.batch]
  case write =>
    intro d rest todo' b t hpc _ _
    rw [cbQueue_eq _ hpc]; simp [stepCbs, hpc, WPc.batch, cbQueue]
  case die => intro h; rw [hd] at h; cases h
  case finish =>
    intro c0 b t ok e hpc hno hyes
    rw [c0.finishBatch_cbQueue, e]
    rcases hpc with hpc | hpc
    · cases ok with
      | false => rw [cbQueue_eq _ hpc]; simp [stepCbs, hpc, WPc.batch, hno rfl]
      | true => have := (hyes rfl (hf (by simp [hpc]))).1; rw [hpc] at this; cases this
    · rw [cbQueue_eq _ hpc]; simp [stepCbs, hpc, WPc.batch]
  case soOk =>
    intro c0 b t f rest hpc hf' ho e
    rw [c0.startSync_cbQueue _ _ (e ▸ hw.syncOld_rest hpc hf'), e, cbQueue_eq _ hpc]
    simp [stepCbs, hpc, WPc.batch, ho]
  case ulMore =>
    intro i j rest hpc _
    rw [cbQueue_eq _ hpc]; simp [stepCbs, hpc, WPc.batch, cbQueue]

theorem WCtx.dies_cases {c : WCtx} {out : Outcome} (h : c.dies out = true) :
    out = .eio ∧ ((∃ d rest b t, c.w.pc = .writing (d :: rest) b t) ∨ (∃ i rest, c.w.pc = .unlinking (i :: rest))) := by
  unfold WCtx.dies at h
  cases hpc : c.w.pc with
  | writing todo b t =>
    cases todo with
    | nil => simp [hpc] at h
    | cons d rest =>
      cases out with
      | eio => exact ⟨rfl, .inl ⟨d, rest, b, t, rfl⟩⟩
      | ok => simp [hpc] at h
      | short k => simp [hpc] at h
  | unlinking ids =>
    cases ids with
    | nil => simp [hpc] at h
    | cons d rest =>
      cases out with
      | eio => exact ⟨rfl, .inr ⟨d, rest, rfl⟩⟩
      | ok => simp [hpc] at h
      | short k => simp [hpc] at h
  | _ => simp [hpc] at h

/-- Requests in hand whose callbacks `die` drops: the batch and its trailing request while
writing (not `WPc.held`, which is the trailing request alone). -/
def WPc.inHandW : WPc → List WReq
  | .writing _ b t => b ++ t.toList
  | _ => []

theorem WCtx.step_dies (c : WCtx) (out : Outcome) (h : c.dies out = true) :
    (c.step out).w = { c.w with pc := .dead, queue := [] } ∧ (c.step out).fs = c.fs ∧
    (c.step out).evs = c.evs ++ stepSys c out ++
      ((droppedIds c c.w.pc.inHandW).map Ev.cbDropped ++ [.workerExit false]) := by
  obtain ⟨ho, ⟨d, rest, b, t, hpc⟩ | ⟨i, rest, hpc⟩⟩ := WCtx.dies_cases h
  · subst ho
    rw [WCtx.step_wrEio hpc, WCtx.die_evs]
    simp [stepSys, hpc, WPc.inHandW, droppedIds]
  · subst ho
    rw [WCtx.step_ulEio hpc, WCtx.die_evs]
    simp [stepSys, hpc, WPc.inHandW, droppedIds]

theorem WCtx.dies_of_alive {c : WCtx} {out : Outcome} (h : (c.step out).w.pc ≠ .dead) : c.dies out = false :=
  Bool.eq_false_iff.2 fun hd => h (by rw [(c.step_dies out hd).1])

theorem WCtx.step_view_alive (c : WCtx) (out : Outcome) (hok : c.w.pc.ok c.w.files)
    (hnd : (c.step out).w.pc ≠ .dead) : c.VStep (c.step out) :=
  (c.step_view out hok).resolve_left fun hd => by rw [WCtx.dies_of_alive hnd] at hd; cases hd

theorem WCtx.step_dies_dropped (c : WCtx) (out : Outcome) (h : c.dies out = true) :
    ∀ i ∈ cbQueue c.w, Ev.cbDropped i ∈ (c.step out).evs := by
  intro i hi
  rw [(c.step_dies out h).2.2]
  simp only [List.mem_append, List.mem_map]
  refine .inr (.inl ⟨i, ?_, rfl⟩)
  rw [mem_droppedIds]
  obtain ⟨_, ⟨d, rest, b, t, hpc⟩ | ⟨j, rest, hpc⟩⟩ := WCtx.dies_cases h
  · rw [cbQueue_eq _ hpc] at hi
    simp only [hpc, WPc.inHandW, WPc.batch, List.filterMap_append, List.mem_append] at hi ⊢
    rcases hi with hi | hi
    · exact .inl (.inl hi)
    · exact .inr hi
  · rw [cbQueue_eq _ hpc] at hi
    simpa [hpc, WPc.inHandW, WPc.batch] using hi

theorem WCtx.startSync_frame (c : WCtx) (b : List WReq) (t : Option WReq) (hf : c.w.files ≠ []) :
    ∃ pc, (c.startSync b t).w = { c.w with pc := pc } ∧ (pc = .syncNew b t ∨ pc = .syncOld b t) := by
  rcases c.startSync_cases b t with ⟨h, _⟩ | ⟨f, _, he⟩ | ⟨_, he⟩
  · exact absurd h hf
  · rw [he]; exact ⟨_, rfl, .inl rfl⟩
  · rw [he]; exact ⟨_, rfl, .inr rfl⟩

theorem WCtx.startWrites_frame (c : WCtx) (b : List WReq) (t : Option WReq) (hf : c.w.files ≠ []) :
    ∃ pc, (c.startWrites b t).w = { c.w with pc := pc } ∧
      (pc = .syncNew b t ∨ pc = .syncOld b t ∨ pc = .writing (todoOf b) b t) := by
  rcases c.startWrites_cases b t with ⟨_, he⟩ | ⟨_, he⟩ <;> rw [he]
  · obtain ⟨pc, h1, h2⟩ := c.startSync_frame b t hf
    exact ⟨pc, h1, by rcases h2 with h | h <;> simp [h]⟩
  · exact ⟨_, rfl, .inr (.inr rfl)⟩

/-- `lastSyncFailed` after a step, as a function of program counter and outcome (`WCtx.step_lsf`; C08 reads it). -/
def stepLsf (c : WCtx) (out : Outcome) : Bool :=
  match c.w.pc with
  | .syncNew _ _ => out == .eio
  | .syncOld _ _ => if out = .eio then true else c.w.lastSyncFailed
  | _ => c.w.lastSyncFailed

theorem WCtx.step_lsf (c : WCtx) (out : Outcome) (hw : c.w.WF) :
    (c.step out).w.lastSyncFailed = stepLsf c out := by
  have hf : c.w.pc ≠ .dead → c.w.files ≠ [] := hw.files_ne
  apply c.step_w_elim (P := fun w' => w'.lastSyncFailed = stepLsf c out) out
  case dead => intro hpc; simp [stepLsf, hpc]
  case recv =>
    intro c0 e hp
    rw [WCtx.toRecv_lsf, e]
    rcases hp with hp | hp | ⟨i, hp, _⟩ <;> simp [stepLsf, hp]
  case gotW =>
    intro r hpc _
    obtain ⟨pc, h, _⟩ := WCtx.startWrites_frame (c.setQueue (collectBatch 1024 c.w.queue).2.2)
      (r :: (collectBatch 1024 c.w.queue).1) (collectBatch 1024 c.w.queue).2.1 (hf (by simp [hpc]))
    rw [h]; simp [stepLsf, hpc]
  case gotN => intro r hpc _; simp [stepLsf, hpc]
  case sync =>
    intro c0 todo b t e hpc _
    obtain ⟨pc, h, _⟩ := c0.startSync_frame b t (e ▸ hf (by simp [hpc]))
    rw [h, e]; simp [stepLsf, hpc]
  case write => intro d rest todo' b t hpc _ _; simp [stepLsf, hpc]
  case die =>
    intro hd
    obtain ⟨_, ⟨d, rest, b, t, hpc⟩ | ⟨i, rest, hpc⟩⟩ := WCtx.dies_cases hd
    · simp [stepLsf, hpc]
    · simp [stepLsf, hpc]
  case finish =>
    intro c0 b t ok e hpc hno hyes
    rw [WCtx.finishBatch_lsf]
    cases ok with
    | false => rcases hpc with hpc | hpc <;> simp [stepLsf, hpc, hno rfl]
    | true =>
      obtain ⟨hpc', ho⟩ := hyes rfl (hf (by rcases hpc with hpc | hpc <;> simp [hpc]))
      simp [stepLsf, hpc', ho]
  case soOk =>
    intro c0 b t f rest hpc hf' ho e
    obtain ⟨pc, h, _⟩ := c0.startSync_frame b t (e ▸ hw.syncOld_rest hpc hf')
    rw [h, e]; simp [stepLsf, hpc, ho]
  case ulMore => intro i j rest hpc _; simp [stepLsf, hpc]

/-- The step executes the non-flush request `r`. -/
def WPc.handles (pc : WPc) (r : WReq) : Prop :=
  pc = .got r ∨ ∃ b, pc = .syncOld b (some r) ∨ pc = .syncNew b (some r)

/-- The step executes a removal of `ids`: a `removeChunks ids` request in hand, or the end of a
batch (the trailing request's ids, none when the trailing request is not a removal; the removal
postponed by a failed sync is retried after every batch). -/
def WPc.removes (pc : WPc) (ids : List Nat) : Prop :=
  pc = .got (.removeChunks ids) ∨ ∃ b t, (pc = .syncOld b t ∨ pc = .syncNew b t) ∧ ids = tailIds t

/-- What a step may do with `postponed`, and the only ways to enter `unlinking`. -/
structure RemovalStep (c : WCtx) (out : Outcome) (c' : WCtx) : Prop where
  postponed : c'.w.postponed = c.w.postponed ∨
    (∃ ids, c.w.pc.removes ids ∧ c'.w.lastSyncFailed = true ∧
      c'.w.postponed = c.w.postponed ++ ids) ∨
    (∃ ids, c.w.pc.removes ids ∧ c'.w.pc = .unlinking (c.w.postponed ++ ids) ∧
      c'.w.postponed = [])
  enter : ∀ ids, c'.w.pc = .unlinking ids →
    (∃ i, c.w.pc = .unlinking (i :: ids) ∧ out ≠ .eio) ∨
    (∃ ids0, c.w.pc = .got (.removeChunks ids0) ∧ c.w.lastSyncFailed = false ∧
      ids = c.w.postponed ++ ids0) ∨
    (∃ b t, c.w.pc = .syncNew b t ∧ out ≠ .eio ∧ ids = c.w.postponed ++ tailIds t)

theorem RemovalStep.of_frame {c c' : WCtx} {out : Outcome} (hp : c'.w.postponed = c.w.postponed)
    (hpc : ∀ ids, c'.w.pc ≠ .unlinking ids) : RemovalStep c out c' :=
  ⟨.inl hp, fun ids h => absurd h (hpc ids)⟩

theorem RemovalStep.of_isRecv {c c' : WCtx} {out : Outcome} (hp : c'.w.postponed = c.w.postponed)
    (hpc : c'.w.pc.isRecv) : RemovalStep c out c' :=
  .of_frame hp (fun ids h => by rw [h] at hpc; cases hpc)

theorem WCtx.step_removal (c : WCtx) (out : Outcome) (hw : c.w.WF) : RemovalStep c out (c.step out) := by
  have hf : c.w.pc ≠ .dead → c.w.files ≠ [] := hw.files_ne
  suffices h : RemovalStep c out { c with w := (c.step out).w } from ⟨h.postponed, h.enter⟩
  apply c.step_w_elim (P := fun w' => RemovalStep c out { c with w := w' }) out
  case dead => intro hpc; exact .of_frame rfl (by simp [hpc])
  case recv => intro c0 e _; exact .of_isRecv (by simp [e]) c0.toRecv_pc
  case gotW =>
    intro r hpc _
    obtain ⟨pc, h, h2⟩ := WCtx.startWrites_frame (c.setQueue (collectBatch 1024 c.w.queue).2.2)
      (r :: (collectBatch 1024 c.w.queue).1) (collectBatch 1024 c.w.queue).2.1 (hf (by simp [hpc]))
    rw [h]
    exact .of_frame rfl (by rcases h2 with h2 | h2 | h2 <;> simp [h2])
  case gotN =>
    intro r hpc _
    constructor
    · rcases c.nonFlush_postponed r with h | ⟨ids, hr, hl, h⟩ | ⟨ids, hr, hl, h1, h2⟩
      · exact .inl h
      · exact .inr (.inl ⟨ids, .inl (by rw [hpc, hr]), by simpa using hl, h⟩)
      · exact .inr (.inr ⟨ids, .inl (by rw [hpc, hr]), h1, h2⟩)
    · intro ids h
      obtain ⟨h1, _, ids0, h3, h4⟩ := (c.nonFlush_pc r).2 ids h
      exact .inr (.inl ⟨ids0, by rw [hpc, h3], h1, h4⟩)
  case sync =>
    intro c0 todo b t e hpc _
    obtain ⟨pc, h, h2⟩ := c0.startSync_frame b t (e ▸ hf (by simp [hpc]))
    rw [h, e]
    exact .of_frame rfl (by rcases h2 with h2 | h2 <;> simp [h2])
  case write => intro d rest todo' b t _ _ _; exact .of_frame rfl (by simp)
  case die => intro _; exact .of_frame rfl (by simp)
  case finish =>
    intro c0 b t ok e hpc hno hyes
    have hrm : c.w.pc.removes (tailIds t) := .inr ⟨b, t, hpc, rfl⟩
    have hpost := c0.finishBatch_postponed b t ok
    have henter := (c0.finishBatch_pc b t ok).2
    rw [e] at hpost henter
    constructor
    · rcases hpost with h | ⟨_, h⟩ | ⟨hl, h1, h2⟩
      · exact .inl h
      · exact .inr (.inl ⟨_, hrm, by simp [*], h⟩)
      · exact .inr (.inr ⟨_, hrm, h1, h2⟩)
    · intro ids h
      obtain ⟨hok, _, h4⟩ := henter ids h
      obtain ⟨hpc', ho⟩ := hyes hok (hf (by rcases hpc with hpc | hpc <;> simp [hpc]))
      exact .inr (.inr ⟨b, t, hpc', ho, h4⟩)
  case soOk =>
    intro c0 b t f rest hpc hf' _ e
    obtain ⟨pc, h, h2⟩ := c0.startSync_frame b t (e ▸ hw.syncOld_rest hpc hf')
    rw [h, e]
    exact .of_frame rfl (by rcases h2 with h2 | h2 <;> simp [h2])
  case ulMore =>
    intro i j rest hpc ho
    refine ⟨.inl rfl, fun ids h => .inl ⟨i, ?_, ho⟩⟩
    simp only [WPc.unlinking.injEq] at h
    rw [hpc, h]

theorem WCtx.step_clean (c : WCtx) (out : Outcome) (hw : c.w.WF) (ho : out ≠ .eio)
    (hl : c.w.lastSyncFailed = false) (hp : c.w.postponed = []) :
    (c.step out).w.lastSyncFailed = false ∧ (c.step out).w.postponed = [] := by
  have h1 : (c.step out).w.lastSyncFailed = false := by
    rw [c.step_lsf out hw]
    unfold stepLsf
    split <;> simp [hl, ho]
  refine ⟨h1, ?_⟩
  rcases (c.step_removal out hw).postponed with h | ⟨ids, _, h2, _⟩ | ⟨ids, _, _, h⟩
  · rw [h]; exact hp
  · rw [h1] at h2; cases h2
  · exact h

end RaftLog
