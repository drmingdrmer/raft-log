/-
C01, the basics. The reference log's side: `RefLog.WF`, what an accepted call does to it (`RefLog.call_cases`,
hence `RefLog.call_wf`), `RefLog.run` along the ops `stepOps` of a history. The relation `Refines s r`: state and
index map are the reference log's and every live entry is resident in a payload cache that is within its limits;
`SysRef` is its system-level form with the cache room still left. That a legal accepted call keeps it is in
Proofs/RefineCall.lean. The file is also the home of facts other chains use: what `truncateAfter`, `purgeUpto` and an
insert without eviction do to the cache, `logKeys`/`entKeys`, the file ids after the caller's effects
(`applyEffs_ids_lt`), and `Worker.Alive` (no injected I/O error: the worker stays alive, `Sys.run_alive`).
-/
import RaftLogModel.Proofs.StoreCache
import RaftLogModel.Proofs.NoPanic
import RaftLogModel.Proofs.SysLive
import RaftLogModel.Spec.RefLog
namespace RaftLog

theorem mem_dropWhile_of_not {α} {p : α → Bool} {l : List α} {a : α}
    (h : a ∈ l) (hp : p a = false) : a ∈ l.dropWhile p := by
  induction l with
  | nil => cases h
  | cons x xs ih =>
    by_cases hx : p x = true
    · rw [List.dropWhile_cons_of_pos hx]
      cases h with
      | head => rw [hp] at hx; cases hx
      | tail _ h' => exact ih h'
    · rw [List.dropWhile_cons_of_neg hx]
      exact h

theorem evictLoop_noop (mx cap : Nat) (le : Option LogId) (size : Nat) (l : Items)
    (h1 : l.length ≤ mx) (h2 : size ≤ cap) : evictLoop mx cap le size l = (size, l) := by
  cases l with
  | nil => rfl
  | cons e rest =>
    obtain ⟨id, p⟩ := e
    have h1' : ¬ (rest.length + 1 > mx) := by simp at h1; omega
    have h2' : ¬ (size > cap) := by omega
    simp [evictLoop, h1', h2']

theorem Cache.insert_noevict (c : Cache) (k : LogId) (v : Bytes)
    (hk : ∀ e ∈ c.items, e.1.lt k = true)
    (h1 : c.items.length + 1 ≤ c.maxItems) (h2 : c.size + v.length ≤ c.capacity) :
    c.insert k v = { c with items := c.items ++ [(k, v)], size := c.size + v.length } := by
  unfold Cache.insert Cache.tryEvict
  simp only [insertSorted_of_all_lt k v c.items hk]
  rw [evictLoop_noop]
  · simp; exact h1
  · exact h2

theorem truncLoop_snd (key : LogId) (size : Nat) (l : Items) :
    (truncLoop key size l).2 = l.dropWhile (fun e => key.lt e.1) := by
  rw [truncLoop_eq, dropLoop_snd]

theorem purgeLoop_snd (key : LogId) (le : Option LogId) (size : Nat) (l : Items) :
    (purgeLoop key le size l).2 = l.dropWhile (fun e => e.1.le key && optLe (some e.1) le) := by
  rw [purgeLoop_eq, dropLoop_snd]

theorem Cache.truncateAfter_facts (c : Cache) (key : LogId) :
    (∀ e ∈ c.items, key.lt e.1 = false → e ∈ (c.truncateAfter key).items) ∧
    (∀ e ∈ (c.truncateAfter key).items, e ∈ c.items) ∧
    (c.truncateAfter key).items.length ≤ c.items.length ∧
    (c.truncateAfter key).size ≤ c.size ∧
    (c.truncateAfter key).maxItems = c.maxItems ∧ (c.truncateAfter key).capacity = c.capacity := by
  refine ⟨?_, ?_, ?_, ?_, rfl, rfl⟩
  · intro e he hk
    simp only [Cache.truncateAfter, truncLoop_snd, List.mem_reverse]
    exact mem_dropWhile_of_not (List.mem_reverse.mpr he) hk
  · intro e he
    simp only [Cache.truncateAfter, truncLoop_snd, List.mem_reverse] at he
    exact List.mem_reverse.mp ((List.dropWhile_suffix _).subset he)
  · simp only [Cache.truncateAfter, truncLoop_snd, List.length_reverse]
    have := (List.dropWhile_suffix (fun e : LogId × Bytes => key.lt e.1) (l := c.items.reverse)).length_le
    simpa using this
  · simp only [Cache.truncateAfter, truncLoop_eq]; exact dropLoop_fst_le _ _ _

theorem Cache.purgeUpto_facts (c : Cache) (key : LogId) :
    (∀ e ∈ c.items, e.1.le key = false → e ∈ (c.purgeUpto key).items) ∧
    (∀ e ∈ (c.purgeUpto key).items, e ∈ c.items) ∧
    (c.purgeUpto key).items.length ≤ c.items.length ∧
    (c.purgeUpto key).size ≤ c.size ∧
    (c.purgeUpto key).maxItems = c.maxItems ∧ (c.purgeUpto key).capacity = c.capacity := by
  refine ⟨?_, ?_, ?_, ?_, rfl, rfl⟩
  · intro e he hk
    simp only [Cache.purgeUpto, purgeLoop_snd]
    exact mem_dropWhile_of_not he (by simp [hk])
  · intro e he
    simp only [Cache.purgeUpto, purgeLoop_snd] at he
    exact (List.dropWhile_suffix _).subset he
  · simp only [Cache.purgeUpto, purgeLoop_snd]
    exact (List.dropWhile_suffix _).length_le
  · simp only [Cache.purgeUpto, purgeLoop_eq]; exact dropLoop_fst_le _ _ _

theorem find_of_mem_sorted (l : Items) (hs : Sorted l) {k : LogId} {v : Bytes} (h : (k, v) ∈ l) :
    l.find? (fun e => e.1 = k) = some (k, v) := by
  induction l with
  | nil => cases h
  | cons x xs ih =>
    have hp := List.pairwise_cons.mp hs
    by_cases hx : x.1 = k
    · have : x = (k, v) := by
        cases h with
        | head => rfl
        | tail _ h' =>
          have := hp.1 _ h'
          simp only [hx, LogId.lt_irrefl] at this
          cases this
      subst this
      simp
    · have hmem : (k, v) ∈ xs := by
        cases h with
        | head => exact absurd rfl hx
        | tail _ h' => exact h'
      rw [List.find?_cons_of_neg (by simpa using hx)]
      exact ih hp.2 hmem

theorem Cache.get_of_mem {c : Cache} (hs : Sorted c.items) {k : LogId} {v : Bytes}
    (h : (k, v) ∈ c.items) : c.get k = some v := by
  simp [Cache.get, find_of_mem_sorted c.items hs h]

theorem Cache.mem_of_get {c : Cache} {k : LogId} {v : Bytes} (h : c.get k = some v) :
    (k, v) ∈ c.items := by
  obtain ⟨e, hf, rfl⟩ := Option.map_eq_some_iff.mp h
  have hk : e.1 = k := by simpa using List.find?_some hf
  exact hk ▸ List.mem_of_find?_eq_some hf

theorem logInsert_of_all_lt (idx : Nat) (d : LogData) (l : List (Nat × LogData))
    (h : ∀ e ∈ l, e.1 < idx) : logInsert idx d l = l ++ [(idx, d)] := by
  induction l with
  | nil => rfl
  | cons x xs ih =>
    obtain ⟨i, d'⟩ := x
    have hi : i < idx := h (i, d') List.mem_cons_self
    have h1 : ¬ idx < i := by omega
    have h2 : ¬ idx = i := by omega
    simp only [logInsert, h1, h2, if_false, List.cons_append]
    rw [ih (fun e he => h e (List.mem_cons_of_mem _ he))]

/-- The abstraction of the index map compared with the spec entries. -/
def logKeys (l : List (Nat × LogData)) : List (Nat × LogId) := l.map (fun e => (e.1, e.2.id))
def entKeys (es : Items) : List (Nat × LogId) := es.map (fun e => (e.1.index, e.1))

theorem logKeys_filter (p : Nat → Bool) (l : List (Nat × LogData)) :
    logKeys (l.filter (fun e => p e.1)) = (logKeys l).filter (fun e => p e.1) := by
  unfold logKeys
  rw [List.filter_map]
  rfl

theorem entKeys_filter (p : Nat → Bool) (es : Items) :
    entKeys (es.filter (fun e => p e.1.index)) = (entKeys es).filter (fun e => p e.1) := by
  unfold entKeys
  rw [List.filter_map]
  rfl

theorem keys_filter {l : List (Nat × LogData)} {es : Items} (h : logKeys l = entKeys es) (p : Nat → Bool) :
    logKeys (l.filter (fun e => p e.1)) = entKeys (es.filter (fun e => p e.1.index)) := by
  rw [logKeys_filter, entKeys_filter, h]

theorem find_keys_eq {l : List (Nat × LogData)} {es : Items} (h : logKeys l = entKeys es) (i : Nat) :
    (l.find? (fun e => e.1 = i)).map (·.2.id) = (es.find? (fun e => e.1.index = i)).map (·.1) := by
  induction l generalizing es with
  | nil =>
    cases es with
    | nil => rfl
    | cons _ _ => simp [logKeys, entKeys] at h
  | cons x xs ih =>
    cases es with
    | nil => simp [logKeys, entKeys] at h
    | cons e es' =>
      simp only [logKeys, entKeys, List.map_cons, List.cons.injEq, Prod.mk.injEq] at h
      obtain ⟨⟨h1, h2⟩, h3⟩ := h
      by_cases hi : x.1 = i
      · have hi' : e.1.index = i := by rw [← h1]; exact hi
        simp [hi, hi', h2]
      · have hi' : ¬ e.1.index = i := by rw [← h1]; exact hi
        rw [List.find?_cons_of_neg (by simpa using hi), List.find?_cons_of_neg (by simpa using hi')]
        exact ih h3

/-- What a lookup of index entry `d` must return for payload `p`. -/
def ItemOK (s : Store) (fs : Fs) (d : LogData) (p : Bytes) : Prop :=
  (∀ q, s.cache.get d.id = some q → q = p) ∧
  (s.cache.get d.id = none → loadPayload s.closed fs d = .ok d.id p)

theorem readLoop_itemOK (s : Store) (fs : Fs) (l : List (Nat × LogData)) (es : Items)
    (h : logKeys l = entKeys es)
    (hitem : ∀ x ∈ l, ∀ e ∈ es, e.1 = x.2.id → ItemOK s fs x.2 e.2) (hh mm : Nat) :
    (readLoop s fs l hh mm).1 = es.map (fun e => ReadItem.ok e.1 e.2) := by
  induction l generalizing es hh mm with
  | nil =>
    cases es with
    | nil => rfl
    | cons _ _ => simp [logKeys, entKeys] at h
  | cons x xs ih =>
    cases es with
    | nil => simp [logKeys, entKeys] at h
    | cons e es' =>
      simp only [logKeys, entKeys, List.map_cons, List.cons.injEq, Prod.mk.injEq] at h
      obtain ⟨⟨_, h2⟩, h3⟩ := h
      obtain ⟨i, d⟩ := x
      simp only at h2
      have hit := hitem (i, d) List.mem_cons_self e List.mem_cons_self h2.symm
      have hrest : ∀ hh mm, (readLoop s fs xs hh mm).1 = es'.map (fun e => ReadItem.ok e.1 e.2) :=
        fun hh mm => ih es' h3 (fun x hx e he => hitem x (List.mem_cons_of_mem _ hx) e
          (List.mem_cons_of_mem _ he)) hh mm
      cases hg : s.cache.get d.id with
      | some q =>
        have := hit.1 q hg
        subst this
        simp only [readLoop, hg, List.map_cons, hrest]
        rw [h2]
      | none =>
        simp only [readLoop, hg, List.map_cons, hrest, hit.2 hg]
        rw [h2]

theorem readLoop_hits (s : Store) (fs : Fs) (l : List (Nat × LogData)) (es : Items)
    (h : logKeys l = entKeys es) (hres : ∀ e ∈ es, s.cache.get e.1 = some e.2) (hh mm : Nat) :
    (readLoop s fs l hh mm).1 = es.map (fun e => ReadItem.ok e.1 e.2) :=
  readLoop_itemOK s fs l es h (fun x _ e he hid => by
    have hg := hres e he
    rw [hid] at hg
    exact ⟨fun q hq => Option.some.inj (hq.symm.trans hg), fun hn => by rw [hg] at hn; cases hn⟩) hh mm

structure RefLog.WF (r : RefLog) : Prop where
  mono : r.entries.Pairwise (fun a b => a.1.lt b.1 = true ∧ a.1.index < b.1.index)
  above : ∀ e ∈ r.entries, optLt r.purged (some e.1) = true ∧ nextIndex r.purged ≤ e.1.index
  below : ∀ e ∈ r.entries, optLe (some e.1) r.last = true ∧ e.1.index < nextIndex r.last
  pl : optLe r.purged r.last = true ∧ nextIndex r.purged ≤ nextIndex r.last

theorem RefLog.wf_empty : ({} : RefLog).WF :=
  ⟨List.Pairwise.nil, (by intro e he; cases he), (by intro e he; cases he), (by simp [nextIndex])⟩

theorem pairwise_mem_cases {α} {R : α → α → Prop} {l : List α} (h : l.Pairwise R) {a b : α}
    (ha : a ∈ l) (hb : b ∈ l) : a = b ∨ R a b ∨ R b a := by
  induction l with
  | nil => cases ha
  | cons x xs ih =>
    have hp := List.pairwise_cons.mp h
    cases ha with
    | head =>
      cases hb with
      | head => exact Or.inl rfl
      | tail _ hb' => exact Or.inr (Or.inl (hp.1 _ hb'))
    | tail _ ha' =>
      cases hb with
      | head => exact Or.inr (Or.inr (hp.1 _ ha'))
      | tail _ hb' => exact ih hp.2 ha' hb'

theorem RefLog.WF.not_lt_of_index_le {r : RefLog} (h : r.WF) {a b : LogId × Bytes}
    (ha : a ∈ r.entries) (hb : b ∈ r.entries) (hi : a.1.index ≤ b.1.index) : b.1.lt a.1 = false := by
  rcases pairwise_mem_cases h.mono ha hb with h1 | h1 | h1
  · subst h1; exact LogId.lt_irrefl _
  · rw [LogId.not_lt_iff_le]; exact LogId.le_of_lt h1.1
  · omega

theorem RefLog.WF.lt_of_index_lt {r : RefLog} (h : r.WF) {a b : LogId × Bytes}
    (ha : a ∈ r.entries) (hb : b ∈ r.entries) (hi : a.1.index < b.1.index) : a.1.lt b.1 = true := by
  rcases pairwise_mem_cases h.mono ha hb with h1 | h1 | h1
  · subst h1; omega
  · exact h1.1
  · omega

theorem RefLog.entryAt_some {r : RefLog} {i : Nat} {e : LogId × Bytes} (h : r.entryAt i = some e) :
    e ∈ r.entries ∧ e.1.index = i := by
  unfold RefLog.entryAt at h
  exact ⟨List.mem_of_find?_eq_some h, by simpa using List.find?_some h⟩

theorem RefLog.entryAt_none {r : RefLog} {i : Nat} (h : r.entryAt i = none) :
    ∀ e ∈ r.entries, e.1.index ≠ i := by
  unfold RefLog.entryAt at h
  intro e he
  have := List.find?_eq_none.mp h e he
  simpa using this

theorem RefLog.append1_facts {r r' : RefLog} {id : LogId} {p : Bytes} (h : r.WF)
    (hc : r.append1 id p = .ok r') :
    r' = { r with last := some id, entries := r.entries ++ [(id, p)] } ∧
    optLe (some id) r.last = false ∧
    (∀ l, r.last = some l → l.index + 1 = id.index) ∧
    (∀ a ∈ r.entries, a.1.lt id = true ∧ a.1.index < id.index) ∧
    (optLt r.purged (some id) = true ∧ nextIndex r.purged ≤ id.index) := by
  unfold RefLog.append1 at hc
  split at hc
  · cases hc
  · rename_i hnle
    have hnle : optLe (some id) r.last = false := by simpa using hnle
    have hcons : ∀ l, r.last = some l → l.index + 1 = id.index := by
      intro l hl
      rw [hl] at hc
      simp only at hc
      split at hc
      · cases hc
      · rename_i hh; simpa using hh
    have hr' : r' = { r with last := some id, entries := r.entries ++ [(id, p)] } := by
      split at hc
      · split at hc
        · cases hc
        · injection hc with hc; exact hc.symm
      · injection hc with hc; exact hc.symm
    have hlt : optLt r.last (some id) = true := (optLt_iff_not_le _ _).2 hnle
    have hni : nextIndex r.last ≤ id.index := by
      cases hl : r.last with
      | none => exact Nat.zero_le _
      | some l => exact Nat.le_of_eq (hcons l hl)
    exact ⟨hr', hnle, hcons,
      fun a ha => ⟨optLt_of_le_of_lt (h.below a ha).1 hlt, by have := (h.below a ha).2; omega⟩,
      optLt_of_le_of_lt h.pl.1 hlt, by have := h.pl.2; omega⟩

theorem RefLog.append1_wf {r r' : RefLog} {id : LogId} {p : Bytes} (h : r.WF)
    (hc : r.append1 id p = .ok r') : r'.WF := by
  obtain ⟨hr', hnle, hcons, hold, hpl⟩ := RefLog.append1_facts h hc
  subst hr'
  refine ⟨?_, ?_, ?_, ?_⟩
  · simp only
    rw [List.pairwise_append]
    refine ⟨h.mono, List.pairwise_singleton _ _, ?_⟩
    intro a ha b hb
    simp at hb; subst hb
    exact hold a ha
  · intro e he
    simp only at he ⊢
    rcases List.mem_append.mp he with h1 | h1
    · exact h.above e h1
    · simp at h1; subst h1; exact hpl
  · intro e he
    simp only at he ⊢
    rcases List.mem_append.mp he with h1 | h1
    · have := hold e h1
      simp only [optLe_some_some, nextIndex]
      exact ⟨LogId.le_of_lt this.1, by omega⟩
    · simp at h1; subst h1
      simp [LogId.le_refl, nextIndex]
  · simp only
    refine ⟨optLe_of_lt hpl.1, ?_⟩
    have := hpl.2
    simp only [nextIndex] at this ⊢
    omega

theorem RefLog.appendAll_inv {I : RefLog → Prop} {es : List (LogId × Bytes)}
    (step : ∀ r r1 id p, (id, p) ∈ es → I r → r.append1 id p = .ok r1 → I r1) {r r' : RefLog} (h : I r)
    (hc : r.appendAll es = .ok r') : I r' := by
  induction es generalizing r with
  | nil => cases hc; exact h
  | cons e rest ih =>
    obtain ⟨id, p⟩ := e
    simp only [RefLog.appendAll] at hc
    split at hc
    · exact ih (fun r r1 id p hm => step r r1 id p (List.mem_cons_of_mem _ hm))
        (step _ _ id p List.mem_cons_self h ‹_›) hc
    · cases hc

theorem RefLog.appendAll_wf {r r' : RefLog} {es : List (LogId × Bytes)} (h : r.WF)
    (hc : r.appendAll es = .ok r') : r'.WF :=
  RefLog.appendAll_inv (fun _ _ _ _ _ h => RefLog.append1_wf h) h hc

/-- The argument of `truncateTo` in an accepted truncate: the purge point or a live id. -/
def RefLog.TruncArg (r : RefLog) (o : Option LogId) : Prop :=
  o = r.purged ∨ ∃ e ∈ r.entries, o = some e.1

theorem RefLog.truncateTo_keys {r : RefLog} {o : Option LogId} (h : r.WF) (ho : r.TruncArg o) :
    ∀ a ∈ (r.truncateTo o).entries, ∀ k, o = some k → k.lt a.1 = false := by
  intro a ha k hk
  simp only [RefLog.truncateTo, List.mem_filter, decide_eq_true_eq] at ha
  obtain ⟨ha, hai⟩ := ha
  rcases ho with h1 | ⟨e, he, h1⟩
  · have := (h.above a ha).2
    rw [← h1] at this
    omega
  · rw [h1] at hk hai
    injection hk with hk
    subst hk
    exact h.not_lt_of_index_le ha he (by simp only [nextIndex] at hai; omega)

theorem RefLog.truncateTo_wf {r : RefLog} {o : Option LogId} (h : r.WF) (ho : r.TruncArg o) :
    (r.truncateTo o).WF := by
  have hkeys := RefLog.truncateTo_keys h ho
  refine ⟨?_, ?_, ?_, ?_⟩
  · exact List.Pairwise.filter _ h.mono
  · intro e he
    simp only [RefLog.truncateTo, List.mem_filter] at he
    exact h.above e he.1
  · intro e he
    have he' := he
    simp only [RefLog.truncateTo, List.mem_filter, decide_eq_true_eq] at he'
    by_cases hlt : optLt o r.last = true
    · simp only [RefLog.truncateTo, hlt, if_true]
      refine ⟨?_, he'.2⟩
      cases o with
      | none =>
        have := he'.2
        simp [nextIndex] at this
      | some k =>
        have := hkeys e he k rfl
        simp only [optLe_some_some]
        exact (LogId.not_lt_iff_le _ _).1 this
    · simp only [RefLog.truncateTo, hlt]
      exact h.below e he'.1
  · by_cases hlt : optLt o r.last = true
    · simp only [RefLog.truncateTo, hlt, if_true]
      rcases ho with h1 | ⟨e, he, h1⟩
      · rw [h1]; exact ⟨optLe_refl _, Nat.le_refl _⟩
      · rw [h1]
        have := h.above e he
        exact ⟨optLe_of_lt this.1, (by show nextIndex r.purged ≤ e.1.index + 1; omega)⟩
    · simp only [RefLog.truncateTo, hlt]
      exact h.pl

theorem RefLog.truncate_arg {r r' : RefLog} {idx : Nat} (hc : r.call (.truncate idx) = .ok r') :
    (idx = nextIndex r.purged ∧ r' = r.truncateTo r.purged) ∨
    (idx ≠ nextIndex r.purged ∧ idx ≠ 0 ∧ ∃ e, r.entryAt (idx - 1) = some e ∧ r' = r.truncateTo (some e.1)) := by
  simp only [RefLog.call] at hc
  split at hc
  · rename_i h1
    injection hc with hc
    exact Or.inl ⟨h1, hc.symm⟩
  · rename_i h1
    split at hc
    · cases hc
    · rename_i h2
      split at hc
      · cases hc
      · rename_i e he
        injection hc with hc
        exact Or.inr ⟨h1, h2, e, he, hc.symm⟩

theorem RefLog.legal_purge {r : RefLog} {upto : LogId} (hl : r.legal (.purge upto) = true)
    (hn : ¬ upto.index < nextIndex r.purged) :
    (∃ e ∈ r.entries, e.1 = upto) ∨
    (optLt r.last (some upto) = true ∧ ∀ l, r.last = some l → l.index < upto.index) := by
  simp only [RefLog.legal, Bool.or_eq_true, decide_eq_true_eq] at hl
  rcases hl with hl | hl
  · exact absurd hl hn
  · split at hl
    · rename_i e he
      exact .inl ⟨e, (RefLog.entryAt_some he).1, by simpa using hl⟩
    · simp only [Bool.and_eq_true] at hl
      refine .inr ⟨hl.1, fun l hlast => ?_⟩
      rw [hlast] at hl
      simpa using hl.2

theorem RefLog.purge_keys {r : RefLog} {upto : LogId} (h : r.WF)
    (hl : r.legal (.purge upto) = true) (hn : ¬ upto.index < nextIndex r.purged) :
    ∀ a ∈ r.entries, upto.index < a.1.index → upto.lt a.1 = true := by
  intro a ha hai
  rcases RefLog.legal_purge hl hn with ⟨e, hem, rfl⟩ | ⟨_, hlast⟩
  · exact h.lt_of_index_lt hem ha hai
  · have hb := (h.below a ha).2
    cases hl' : r.last with
    | none => rw [hl'] at hb; simp [nextIndex] at hb
    | some l =>
      have := hlast l hl'
      rw [hl'] at hb
      simp only [nextIndex] at hb
      omega

/-- The reference log after a purge that is not a no-op. -/
def RefLog.purged' (r : RefLog) (upto : LogId) : RefLog :=
  { r with
    purged := if optLt r.purged (some upto) then some upto else r.purged,
    last := if optLt r.last (some upto) then some upto else r.last,
    entries := r.entries.filter (fun e => upto.index < e.1.index) }

theorem RefLog.purge_wf {r : RefLog} {upto : LogId} (h : r.WF)
    (hl : r.legal (.purge upto) = true) (hn : ¬ upto.index < nextIndex r.purged) :
    (r.purged' upto).WF := by
  have hkeys := RefLog.purge_keys h hl hn
  -- the purge point really moves to `upto`
  have hpu : optLt r.purged (some upto) = true := by
    rcases RefLog.legal_purge hl hn with ⟨e, hem, rfl⟩ | ⟨h1, _⟩
    · exact (h.above e hem).1
    · exact optLt_of_le_of_lt h.pl.1 h1
  -- `upto` is at or below the new `last`, in id and index
  have hul : optLe (some upto) (if optLt r.last (some upto) then some upto else r.last) = true ∧
      upto.index + 1 ≤ nextIndex (if optLt r.last (some upto) then some upto else r.last) := by
    by_cases hlt : optLt r.last (some upto) = true
    · simp [hlt, LogId.le_refl, nextIndex]
    · simp only [hlt, Bool.false_eq_true, if_false]
      refine ⟨by rw [optLe_iff_not_lt]; simpa using hlt, ?_⟩
      rcases RefLog.legal_purge hl hn with ⟨e, hem, rfl⟩ | ⟨h1, _⟩
      · have := (h.below e hem).2
        omega
      · exact absurd h1 hlt
  unfold RefLog.purged'
  refine ⟨?_, ?_, ?_, ?_⟩
  · exact List.Pairwise.filter _ h.mono
  · intro e he
    simp only [List.mem_filter, decide_eq_true_eq] at he
    simp only [hpu, if_true, optLt_some_some, nextIndex]
    exact ⟨hkeys e he.1 he.2, by omega⟩
  · intro e he
    simp only [List.mem_filter, decide_eq_true_eq] at he
    have hb := h.below e he.1
    by_cases hlt : optLt r.last (some upto) = true
    · -- `upto` is beyond `last`: nothing survives
      exfalso
      have := LogId.lt_trans (hkeys e he.1 he.2) (optLt_of_le_of_lt hb.1 hlt)
      simp [LogId.lt_irrefl] at this
    · simp only [hlt]
      exact hb
  · simp only [hpu, if_true]
    exact hul

/-- **What an accepted call does to the reference log**: it leaves entries, `last` and `purged` alone
(`saveVote`, `commit`, `saveUserData`), appends a batch, truncates to the purge point or a live id, does
nothing (a purge below the purge point) or purges. -/
theorem RefLog.call_cases {r r' : RefLog} {op : Op} {P : Op → RefLog → Prop} (hc : r.call op = .ok r')
    (plain : ∀ r', r'.entries = r.entries → r'.last = r.last → r'.purged = r.purged →
      (∀ es, op ≠ .append es) → (∀ idx, op ≠ .truncate idx) → (∀ upto, op ≠ .purge upto) → P op r')
    (batch : ∀ es, r.appendAll es = .ok r' → P (.append es) r')
    (trunc : ∀ idx o, r.TruncArg o → P (.truncate idx) (r.truncateTo o))
    (noop : ∀ upto, upto.index < nextIndex r.purged → P (.purge upto) r)
    (purge : ∀ upto, ¬ upto.index < nextIndex r.purged → P (.purge upto) (r.purged' upto)) :
    P op r' := by
  cases op with
  | saveVote v =>
    simp only [RefLog.call] at hc
    split at hc
    · cases hc; exact plain _ rfl rfl rfl nofun nofun nofun
    · cases hc
  | commit id =>
    simp only [RefLog.call] at hc
    split at hc
    · cases hc
    · cases hc; exact plain _ rfl rfl rfl nofun nofun nofun
  | saveUserData d =>
    simp only [RefLog.call] at hc
    cases hc; exact plain _ rfl rfl rfl nofun nofun nofun
  | append es => exact batch es hc
  | truncate idx =>
    rcases RefLog.truncate_arg hc with ⟨_, h2⟩ | ⟨_, _, e, he, h2⟩ <;> subst h2
    · exact trunc idx _ (Or.inl rfl)
    · exact trunc idx _ (Or.inr ⟨e, (RefLog.entryAt_some he).1, rfl⟩)
  | purge upto =>
    simp only [RefLog.call] at hc
    split at hc
    · cases hc; exact noop upto ‹_›
    · cases hc; exact purge upto ‹_›

theorem RefLog.call_wf {r r' : RefLog} {op : Op} (h : r.WF) (hl : r.legal op = true)
    (hc : r.call op = .ok r') : r'.WF :=
  RefLog.call_cases (P := fun op r' => r.legal op = true → r'.WF) hc
    (fun r' he hlast hp _ _ _ _ =>
      ⟨he ▸ h.mono, by rw [he, hp]; exact h.above, by rw [he, hlast]; exact h.below,
        by rw [hp, hlast]; exact h.pl⟩)
    (fun _ hc _ => RefLog.appendAll_wf h hc)
    (fun _ _ ho _ => RefLog.truncateTo_wf h ho)
    (fun _ _ _ => h)
    (fun _ hn hl => RefLog.purge_wf h hl hn) hl

structure Refines (s : Store) (r : RefLog) : Prop where
  st : s.st = r.state
  log : s.log.map (fun e => (e.1, e.2.id)) = r.entries.map (fun e => (e.1.index, e.1))
  resident : ∀ e ∈ r.entries, s.cache.get e.1 = some e.2
  wf : r.WF
  cinv : CacheInv s
  /-- the store's checked `next_log_index` never overflows (so it agrees with the spec's `nextIndex`) and
  the open chunk has a last segment: without this an accepted op could panic instead of returning `ok` -/
  pf : PanicFree s
  /-- no pressure: the cache is within both limits (so nothing was evicted) -/
  room : s.cache.items.length ≤ s.cache.maxItems ∧ s.cache.size ≤ s.cache.capacity

theorem nextIndexChecked_eq {o : Option LogId} (h : optSmall o) :
    nextIndexChecked o = some (nextIndex o) := by
  cases o with
  | none => rfl
  | some id =>
    simp only [optSmall, smallId] at h
    simp [nextIndexChecked, nextIndex, h]

def Op.entries : Op → List (LogId × Bytes)
  | .append es => es
  | _ => []

def Op.count (op : Op) : Nat := op.entries.length
def Op.bytes (op : Op) : Nat := sumLen op.entries

theorem Refines.read {s : Store} {r : RefLog} (h : Refines s r) (fs : Fs) (a b : Nat) :
    (s.read fs a b).1 = (r.read a b).map (fun e => ReadItem.ok e.1 e.2) := by
  unfold Store.read RefLog.read
  simp only
  apply readLoop_hits
  · exact keys_filter h.log (fun i => decide (a ≤ i) && decide (i < b))
  · intro e he
    exact h.resident e (List.mem_filter.mp he).1

theorem Refines.iter {s : Store} {r : RefLog} (h : Refines s r) (fs : Fs) :
    s.iter fs = r.entries.map (fun e => ReadItem.ok e.1 e.2) := by
  unfold Store.iter
  exact readLoop_hits s fs s.log r.entries h.log h.resident 0 0

/-- Refinement only looks at the resident set, not at the eviction boundary. -/
theorem Refines.of_same {s : Store} {r : RefLog} {c : Cache} (h : Refines s r)
    (hs : SameItems c s.cache) : Refines { s with cache := c } r := by
  refine ⟨h.st, h.log, ?_, h.wf, ?_, h.pf.of_fields rfl rfl rfl, ?_⟩
  · intro e he
    have := h.resident e he
    simp only [Cache.get, hs.1] at this ⊢
    exact this
  · exact h.cinv.of_fields rfl hs.1 hs.2.1
  · simp only [hs.1, hs.2.1, hs.2.2.1, hs.2.2.2]
    exact h.room

theorem applyEffs_ids (effs : List Eff) : ∀ (fs : Fs) (w : Worker) (evs : List Ev) (i : Nat),
    i ∈ Fs.ids (applyEffs effs fs w evs).2.1 → i ∈ Fs.ids fs ∨ Eff.create i ∈ effs := by
  induction effs with
  | nil => intro fs w evs i h; exact Or.inl h
  | cons e rest ih =>
    intro fs w evs i h
    cases e with
    | create id =>
      simp only [applyEffs] at h
      rcases ih _ _ _ _ h with h1 | h1
      · rcases (Fs.mem_ids_create _ _ _).1 h1 with h2 | h2
        · exact Or.inl h2
        · subst h2; exact Or.inr List.mem_cons_self
      · exact Or.inr (List.mem_cons_of_mem _ h1)
    | createFailed id =>
      simp only [applyEffs] at h
      rcases ih _ _ _ _ h with h1 | h1
      · exact Or.inl h1
      · exact Or.inr (List.mem_cons_of_mem _ h1)
    | writeHead id bs =>
      simp only [applyEffs] at h
      rcases ih _ _ _ _ h with h1 | h1
      · rw [Fs.ids_write] at h1; exact Or.inl h1
      · exact Or.inr (List.mem_cons_of_mem _ h1)
    | send r =>
      simp only [applyEffs] at h
      split at h
      · exact Or.inl h
      · rcases ih _ _ _ _ h with h1 | h1
        · exact Or.inl h1
        · exact Or.inr (List.mem_cons_of_mem _ h1)

theorem applyEffs_ids_lt (effs : List Eff) (fs : Fs) (w : Worker) (evs : List Ev) {m : Nat}
    (hfs : ∀ i ∈ Fs.ids fs, i < m) (hc : ∀ i, Eff.create i ∈ effs → i < m) :
    ∀ i ∈ Fs.ids (applyEffs effs fs w evs).2.1, i < m :=
  fun i hi => (applyEffs_ids _ _ _ _ _ hi).elim (hfs i) (hc i)

/-- The live store refines `r`, no chunk file sits at or beyond the journal
end, and the cache still has room for `n` more entries / `b` more bytes. -/
def SysRef (y : Sys) (r : RefLog) (n b : Nat) : Prop :=
  ∃ s, y.store = some s ∧ Refines s r ∧ (∀ i ∈ Fs.ids y.fs, i < s.openEnd) ∧
    s.cache.items.length + n ≤ s.cache.maxItems ∧ s.cache.size + b ≤ s.cache.capacity

theorem SysRef.mono {y : Sys} {r : RefLog} {n b n' b' : Nat} (h : SysRef y r n b)
    (hn : n' ≤ n) (hb : b' ≤ b) : SysRef y r n' b' := by
  obtain ⟨s, hs, href, hfs, h1, h2⟩ := h
  exact ⟨s, hs, href, hfs, by omega, by omega⟩

theorem Refines.fresh (cfg : Cfg) : Refines (Store.fresh cfg) {} :=
  ⟨rfl, rfl, fun _ he => absurd he List.not_mem_nil, RefLog.wf_empty,
    ⟨⟨rfl, List.Pairwise.nil⟩, fun _ he => absurd he List.not_mem_nil⟩,
    PanicFree.fresh cfg, by simp [emptyStore]⟩

theorem fresh_sysRef (cfg : Cfg) : SysRef (Sys.fresh cfg) {} cfg.cacheItems cfg.cacheCap := by
  rw [Sys.fresh_eq]
  refine ⟨_, rfl, Refines.fresh cfg, fun i hi => ?_, by simp [emptyStore], by simp [emptyStore]⟩
  obtain rfl : i = 0 := by simpa [Fs.ids] using hi
  simpa [Store.openEnd, lastOff] using encRecord_length_pos (.state {})

/-- Fold the reference log over a list of ops; `none` as soon as one is not
Raft-legal or is rejected. -/
def RefLog.run (r : RefLog) : List Op → Option RefLog
  | [] => some r
  | op :: rest =>
    if r.legal op then
      match r.call op with
      | .ok r' => r'.run rest
      | .error _ => none
    else none

theorem RefLog.run_cons {r r' : RefLog} {op : Op} {rest : List Op} :
    r.run (op :: rest) = some r' ↔
      ∃ r1, r.legal op = true ∧ r.call op = .ok r1 ∧ r1.run rest = some r' := by
  simp only [RefLog.run]
  cases r.legal op <;> cases r.call op <;> simp

theorem RefLog.run_inv {P : RefLog → Prop}
    (hstep : ∀ {r r' : RefLog} {op : Op}, r.legal op = true → r.call op = .ok r' → P r → P r') :
    ∀ (ops : List Op) (r r' : RefLog), P r → r.run ops = some r' → P r'
  | [], _, _, h, hr => by cases hr; exact h
  | _ :: ops, _, r', h, hr => by
    obtain ⟨r1, hl, hc, hr1⟩ := RefLog.run_cons.1 hr
    exact RefLog.run_inv hstep ops r1 r' (hstep hl hc h) hr1

def opsCount : List Op → Nat
  | [] => 0
  | op :: rest => op.count + opsCount rest

def opsBytes : List Op → Nat
  | [] => 0
  | op :: rest => op.bytes + opsBytes rest

/-- The steps C01 quantifies over: calls, flushes and worker steps (any
outcome). Draining and restarts are the subject of other properties. -/
def Step.c01 : Step → Bool
  | .call _ => true
  | .flush _ => true
  | .worker _ => true
  | .workerIdle => true
  | _ => false

/-! ### Worker liveness: without injected I/O errors the worker never dies, so
no `send` fails and the system-level call returns what the store returned -/

def Worker.Alive (w : Worker) : Prop := w.pc ≠ .dead ∧ w.senderAlive = true

theorem WCtx.step_alive (c : WCtx) (out : Outcome) (h : c.w.Alive) (hout : out ≠ .eio) :
    (c.step out).w.Alive := by
  apply c.step_landed_elim (P := Worker.Alive) out
  · rintro pc' (⟨rfl, hd⟩ | ⟨_, _, _, rfl⟩ | ⟨_, _, _, rfl⟩)
    · exact h
    · exact ⟨WPc.noConfusion, h.2⟩
    · exact ⟨WPc.noConfusion, h.2⟩
  · exact fun hd => absurd (WCtx.dies_cases hd).1 hout
  · intro w' hl ha
    refine ⟨fun hpc => ?_, ha.trans h.2⟩
    simp only [Worker.Landed, hpc] at hl
    rw [ha, h.2] at hl
    exact nomatch hl.2

theorem WCtx.runQuiet_ids (n : Nat) (c : WCtx) : Fs.ids (WCtx.runQuiet n c).fs = Fs.ids c.fs :=
  WCtx.runQuiet_induct (P := fun c' => Fs.ids c'.fs = Fs.ids c.fs) (fun c' h => (c'.step_ids .ok).trans h) n c rfl

theorem applyEffs_alive (effs : List Eff) (fs : Fs) (w : Worker) (evs : List Ev) (h : w.Alive) :
    (applyEffs effs fs w evs).1 = true ∧ (applyEffs effs fs w evs).2.2.1.Alive :=
  let ⟨h1, _, h3⟩ := applyEffs_live effs fs w evs h.1
  ⟨h1, h3 ▸ h⟩

theorem Worker.settle_alive (w : Worker) (h : w.Alive) : w.settle.Alive :=
  ⟨mt w.settle_dead_iff.1 h.1, w.settle_senderAlive.trans h.2⟩

def Step.noEio : Step → Bool
  | .worker .eio => false
  | _ => true

theorem Sys.step_alive (y : Sys) (st : Step) (h : y.worker.Alive) (h1 : st.c01 = true)
    (h2 : st.noEio = true) : (y.step st).worker.Alive :=
  Sys.step_worker (I := Worker.Alive) (C := (· ≠ .eio)) (by simp)
    (fun c out ho h => c.step_alive out h ho)
    (fun _ _ _ _ h => Worker.settle_alive _ (applyEffs_alive _ _ _ _ h).2) h
    (by cases st <;> first | rfl | cases h1) fun out e ho => by subst e ho; cases h2

theorem Sys.run_alive (steps : List Step) : ∀ (y : Sys), y.worker.Alive →
    (∀ st ∈ steps, st.c01 = true ∧ st.noEio = true) → (y.run steps).worker.Alive :=
  fun y h hst => Sys.run_induct (P := fun y => y.worker.Alive) (C := fun st => st.c01 = true ∧ st.noEio = true)
    (fun y st hc h => Sys.step_alive y st h hc.1 hc.2) h hst

theorem fresh_alive (cfg : Cfg) : (Sys.fresh cfg).worker.Alive := by
  have : (Sys.fresh cfg).worker.pc = .idle ∧ (Sys.fresh cfg).worker.senderAlive = true := by
    rw [Sys.fresh_eq]; exact ⟨rfl, rfl⟩
  exact ⟨by rw [this.1]; simp, this.2⟩

theorem Sys.call_result_alive (y : Sys) (op : Op) {s : Store} (hs : y.store = some s)
    (h : y.worker.Alive) : (y.call op).1 = (s.call y.fs.has op).1 :=
  (Sys.call_eq y op hs h.1).2

end RaftLog
