/-
C08 at system level, on top of the ghost invariant of `Proofs/GhostInv.lean`: the statements of
`Props/C08Sys.lean` for any store, files and worker with the invariants. The unlinked file is the oldest ghost's,
whose marker is acknowledged (`GInvC3b.head_acked_C8s`).
-/
import RaftLogModel.Proofs.GhostHist
import RaftLogModel.Proofs.PostponedD14
namespace RaftLog

theorem idxRun_chunks_C8s {ops : List JOp} {l l' : Log} (h : idxRun ops l = some l') :
    ∀ e ∈ l', e ∈ l ∨ ∃ op ∈ ops, e.2.chunk = op.chunk := by
  induction ops generalizing l with
  | nil =>
    simp only [idxRun, Option.some.injEq] at h
    subst h
    exact fun e he => .inl he
  | cons op ops ih =>
    simp only [idxRun] at h
    split at h
    · cases h
    · rename_i l1 h1
      intro e he
      rcases ih h e he with k | ⟨op', hop', k⟩
      · rcases idxLogO_mem_chunk h1 e k with k1 | k1
        · exact .inl k1
        · exact .inr ⟨op, List.mem_cons_self, k1⟩
      · exact .inr ⟨op', List.mem_cons_of_mem _ hop', k⟩

theorem RepG.op_chunk_C8s {s : Store} {fs : Fs} {w : Worker} {jc : List (Closed × List Record)}
    {jo : List Record} (g : RepG s fs w jc jo) : ∀ op ∈ allOps s jc jo, op.chunk ∈ s.chunkIds := by
  intro op hop
  rw [Store.chunkIds_eq]
  rcases List.mem_append.mp hop with h1 | h1
  · obtain ⟨p, hp, hop'⟩ := mem_flatOps.mp h1
    rw [(opsFrom_off_lt hop').2.2]
    exact List.mem_append_left _ (List.mem_map.mpr ⟨p.1, g.mem_closed hp, rfl⟩)
  · rw [(opsFrom_off_lt h1).2.2]
    exact List.mem_append_right _ (by simp)

theorem RepG.log_chunk_C8s {s : Store} {fs : Fs} {w : Worker} {jc : List (Closed × List Record)}
    {jo : List Record} (g : RepG s fs w jc jo) : ∀ e ∈ s.log, e.2.chunk ∈ s.chunkIds := by
  intro e he
  rcases idxRun_chunks_C8s g.flat_run.2 e he with k | ⟨op, hop, k⟩
  · cases k
  · rw [k]; exact g.op_chunk_C8s op hop

theorem unlink_ev_pc_C8s {c : WCtx} {out : Outcome} {i : Nat} (hev : c.evs = [])
    (h : Ev.unlink "w" i true ∈ (c.step out).evs) : ∃ rest, c.w.pc = .unlinking (i :: rest) := by
  rcases mem_step_evs_unlink h with h | h
  · rw [hev] at h; cases h
  · obtain ⟨rest, hpc, _, _⟩ := mem_stepSys_unlink h
    exact ⟨rest, hpc⟩

def WorkerCleanC8s (w : Worker) : Prop := w.lastSyncFailed = false ∧ w.postponed = []

theorem applyEffs_clean_C8s (effs : List Eff) (fs : Fs) (w : Worker) (evs : List Ev) :
    (applyEffs effs fs w evs).2.2.1.lastSyncFailed = w.lastSyncFailed ∧
      (applyEffs effs fs w evs).2.2.1.postponed = w.postponed := by
  obtain ⟨q, e, _⟩ := applyEffs_worker effs fs w evs
  rw [e]
  exact ⟨rfl, rfl⟩

theorem step_clean_sys_C8s {y : Sys} {st : Step} (hst : st.keepsStore = true) (hne : st ≠ .worker .eio)
    (h : y.worker.WF ∧ WorkerCleanC8s y.worker) : (y.step st).worker.WF ∧ WorkerCleanC8s (y.step st).worker :=
  Sys.step_worker (I := fun w => w.WF ∧ WorkerCleanC8s w) (C := (· ≠ .eio)) (by simp)
    (fun c out ho h => ⟨c.step_wf out h.1, c.step_clean out h.1 ho h.2.1 h.2.2⟩)
    (fun effs fs w evs h => ⟨(applyEffs_wf _ _ _ _ h.1).settle, by
      rw [WorkerCleanC8s, Worker.settle_lsf, Worker.settle_postponed, (applyEffs_clean_C8s effs fs w evs).1,
        (applyEffs_clean_C8s effs fs w evs).2]
      exact h.2⟩)
    h hst fun out e ho => hne (by rw [e, ho])

theorem GInvC3b.gap_free_suffix_C8s {s : Store} {fs : Fs} {w : Worker} {r : RefLog} {W : List Op}
    {A E K Bh : Nat} {gs : List GhostC3b} (h : GInvC3b s fs w r W A E K Bh gs) (hli : LInv s fs w) :
    ∃ dropped jc jo,
      fs.linkedIds = dropped.map Closed.id ++ (s.closed.map Closed.id ++ [s.openId]) ∧
      w.toRemove ++ s.removed = dropped.map Closed.id ∧
      RepG (s.liftC3b dropped) fs w jc jo ∧
      (liveChunksC3 (s.liftC3b dropped) jc jo).map (·.1.id) = fs.linkedIds ∧
      (liveChunksC3 (s.liftC3b dropped) jc jo).map (·.1)
        = dropped ++ s.closed ++ [⟨s.openOffsets, s.st⟩] ∧
      AbutC3 (liveChunksC3 (s.liftC3b dropped) jc jo) ∧
      ∀ p ∈ liveChunksC3 (s.liftC3b dropped) jc jo, AllWF p.2 ∧ (∃ st rest, p.2 = .state st :: rest) ∧
        offsetsFrom p.1.id (recSizes p.2) = p.1.offsets ∧ ∃ t, fdata fs p.1.id ++ t = encAll p.2 := by
  obtain ⟨jc, jo, g, _⟩ := h.base.hist
  have hrecs := liveChunks_recs_C3 g
  have hlink : fs.linkedIds = (ghostClosedC3b gs).map Closed.id ++ (s.closed.map Closed.id ++ [s.openId]) := by
    rw [← Store.chunkIds_eq]; exact h.linkedIds hli
  refine ⟨ghostClosedC3b gs, jc, jo, hlink, h.order, g, ?_, ?_, ?_, ?_⟩
  · rw [g.liveChunks_ids, liftC3b_chunkIds, Store.chunkIds_eq, hlink]
  · simp only [liveChunksC3, List.map_append, List.map_cons, List.map_nil, g.closedEq,
      Store.liftC3b_closed, Store.liftC3b_openOffsets, Store.liftC3b_st]
  · exact liveChunks_abut_C3 g h.base.inv.j
  · intro p hp
    obtain ⟨k1, k2, k3, _, k5⟩ := hrecs p hp
    exact ⟨k1, k2, k3, k5⟩

theorem GInvC3b.unlinks_oldest_first_C8s {s : Store} {c : WCtx} {r : RefLog} {W : List Op} {A E K Bh : Nat}
    {gs : List GhostC3b} (h : GInvC3b s c.fs c.w r W A E K Bh gs) (hli : LInv s c.fs c.w) (out : Outcome)
    (hnd' : (c.step out).w.pc ≠ .dead) :
    ((c.step out).w.toRemove = c.w.toRemove ∧ (c.step out).fs.linkedIds = c.fs.linkedIds) ∨
    (∃ i, c.w.toRemove = i :: (c.step out).w.toRemove ∧ c.fs.linkedIds = i :: (c.step out).fs.linkedIds ∧
      Ev.unlink "w" i true ∈ (c.step out).evs) := by
  have ts := WCtx.step_tstep_C3b c out h.base.inv.j.wok h.unl hnd'
  have hids := WCtx.step_ids c out
  have hn := hli.nodup
  have hn' : (Fs.ids (c.step out).fs).Nodup := by
    rw [hids]; exact hn
  rcases ts.tr with ⟨e1, e2⟩ | ⟨i, e1, e2, ids, hpc⟩
  · exact Or.inl ⟨e1, linkedIds_of_has_eq_C8s hn hn' e2⟩
  · right
    have hlink := h.linkedIds hli
    have hord := h.order
    rw [e1, List.cons_append] at hord
    rw [← hord, List.cons_append] at hlink
    refine ⟨i, e1, ?_, ?_⟩
    · rw [hlink, linkedIds_of_unlink_head_C8s hn hn' e2 hlink]
    · -- a failed `unlink` kills the worker, and the worker is alive after the step
      have hout : out ≠ .eio := by
        intro ho
        have hd := WCtx.dies_of_alive hnd'
        rw [ho] at hd
        simp [WCtx.dies, hpc] at hd
      obtain ⟨cbs, rest, h1, _⟩ := WCtx.step_trace c out
      rw [h1]
      have hsys : Ev.unlink "w" i true ∈ stepSys c out := by
        have : (out != Outcome.eio) = true := by simpa using hout
        simp [stepSys, hpc, this]
      simp only [List.mem_append]
      exact Or.inl (Or.inl (Or.inr hsys))

theorem unlinks_oldest_first_C8s {y : Sys} {s : Store} {r : RefLog} {W : List Op} {A E K Bh : Nat}
    {gs : List GhostC3b} (hs : y.store = some s) (h : GInvC3b s y.fs y.worker r W A E K Bh gs)
    (hli : LInv s y.fs y.worker) (out : Outcome)
    (halive : (y.step (.worker out)).worker.pc ≠ .dead) :
    ((y.step (.worker out)).worker.toRemove = y.worker.toRemove ∧
      (y.step (.worker out)).fs.linkedIds = y.fs.linkedIds) ∨
    (∃ i, y.worker.toRemove = i :: (y.step (.worker out)).worker.toRemove ∧
      y.fs.linkedIds = i :: (y.step (.worker out)).fs.linkedIds ∧
      Ev.unlink "w" i true ∈ y.stepEvs (.worker out)) := by
  have e := y.workerStep_eq out hs
  have hnd' : (y.workerStep out).1.worker.pc ≠ .dead := halive
  rw [e] at hnd'
  have := h.unlinks_oldest_first_C8s (c := y.wctx s) hli out hnd'
  rwa [show y.step (.worker out) = (y.workerStep out).1 from rfl,
    show y.stepEvs (.worker out) = (y.workerStep out).2 from rfl, e]

theorem GInvC3b.index_in_linked_C8s {s : Store} {fs : Fs} {w : Worker} {r : RefLog} {W : List Op}
    {A E K Bh : Nat} {gs : List GhostC3b} (h : GInvC3b s fs w r W A E K Bh gs) (hli : LInv s fs w) :
    ∀ e ∈ s.log, e.2.chunk ∈ fs.linkedIds ∧ fs.has e.2.chunk = true := by
  obtain ⟨jc, jo, g, _⟩ := h.base.hist
  intro e he
  have h2 := h.live hli _ (g.log_chunk_C8s e he)
  exact ⟨((Fs.linkedIds_spec hli.nodup).2 _).mpr h2, h2⟩

theorem unlink_only_after_purge_durable_C8s {y : Sys} {s : Store} {r : RefLog} {W : List Op}
    {A E K Bh : Nat} {gs : List GhostC3b} (hs : y.store = some s)
    (h : GInvC3b s y.fs y.worker r W A E K Bh gs) (hli : LInv s y.fs y.worker)
    (hwfw : y.worker.WF) (out : Outcome) (c : Nat)
    (hev : Ev.unlink "w" c true ∈ y.stepEvs (.worker out)) :
    ∃ cl dropped' m k, cl.id = c ∧
      y.fs.linkedIds = c :: (dropped'.map Closed.id ++ (s.closed.map Closed.id ++ [s.openId])) ∧
      y.worker.toRemove ++ s.removed = c :: dropped'.map Closed.id ∧
      (∃ rest, y.worker.pc = .unlinking (c :: rest)) ∧ y.worker.lastSyncFailed = false ∧
      lastOff cl.offsets < m ∧ m ≤ A ∧ A ≤ s.openEnd ∧
      k ≤ W.length ∧
      (∀ n, k ≤ n → n ≤ W.length → ∀ r', RefLog.run {} (W.take n) = some r' →
        optLe cl.state.last r'.purged = true) ∧
      (∃ jc jo N0 Q, RepG (s.liftC3b (cl :: dropped')) y.fs y.worker jc jo ∧
        W.length = N0 + cntW (allOps (s.liftC3b (cl :: dropped')) jc jo) ∧
        Q <+: allOps (s.liftC3b (cl :: dropped')) jc jo ∧ cl.id + sizeSum Q = m ∧ N0 + cntW Q = k) ∧
      (∀ offs ∈ (s.liftC3b dropped').chunks,
        min (lastOff offs - offs.headD 0) (m - offs.headD 0) ≤ (fdata y.fs (offs.headD 0)).length ∧
        ∀ f, y.fs.find (offs.headD 0) = some f →
          min (lastOff offs - offs.headD 0) (m - offs.headD 0) ≤ f.durable) ∧
      (∀ e ∈ s.log, optLt cl.state.last (some e.2.id) = true ∧ e.2.chunk ≠ c) := by
  have hev' : Ev.unlink "w" c true ∈ (y.workerStep out).2 := hev
  rw [y.workerStep_eq out hs] at hev'
  obtain ⟨rest, hpc⟩ := unlink_ev_pc_C8s (c := y.wctx s) rfl hev'
  have hpc : y.worker.pc = .unlinking (c :: rest) := hpc
  have hlsf : y.worker.lastSyncFailed = false := hwfw.unlinking_lsf hpc
  obtain ⟨p0, gs', hgs, hid, hm0⟩ := h.head_acked_C8s hpc
  subst hgs
  have hp0 := h.ents p0 List.mem_cons_self
  have hcl : (s.liftC3b (ghostClosedC3b (p0 :: gs'))).closed
      = p0.c :: (s.liftC3b (ghostClosedC3b gs')).closed := by
    simp [ghostClosedC3b]
  have hpop := h.base.pop_one_C3b hp0.hinv hcl rfl rfl rfl rfl (h.lo p0 List.mem_cons_self) hp0.mlo
    hp0.mhi hp0.cov
  obtain ⟨jc, jo, g, N0, hN, _, _, hcnt⟩ := hp0.hinv.hist
  have hk : p0.k ≤ W.length := hp0.count_le
  have hj := h.base.inv.j
  have hgc : ghostClosedC3b (p0 :: gs') = p0.c :: ghostClosedC3b gs' := rfl
  have hjs : (s.liftC3b (p0.c :: ghostClosedC3b gs')).jstart = p0.c.id := by
    simp [Store.jstart]
  have hlink := h.linkedIds hli
  rw [hgc, List.map_cons, List.cons_append, hid, Store.chunkIds_eq] at hlink
  have hord := h.order
  rw [hgc, List.map_cons, hid] at hord
  have hhead : p0.c.id < lastOff p0.c.offsets :=
    hj.chunk_head_lt p0.c.offsets (by simp [Store.chunks, hgc])
  refine ⟨p0.c, ghostClosedC3b gs', p0.m, p0.k, hid, hlink, hord, ⟨rest, hpc⟩, hlsf, hp0.mlo, hm0,
    h.base.dur.a2, hk, hp0.cov, ?_, ?_, ?_⟩
  · -- `m` is a record boundary of the linked journal, with exactly `k` writes below it
    rw [hgc] at g hN hcnt
    rw [hjs] at hcnt
    rcases hcnt with ⟨Q, hQ, e1, e2⟩ | ⟨e1, _⟩
    · exact ⟨jc, jo, N0, Q, g, hN, hQ, e1, e2⟩
    · have := hp0.mlo; omega
  · -- the chunks that remain are written and durable up to `m ≤ A`
    intro offs ho
    exact ⟨(hpop.dur.upto hm0).2.1 offs ho, (hpop.dur.upto hm0).2.2 offs ho⟩
  · -- no index entry lives in the chunk
    intro e he
    have hpur : optLe p0.c.state.last s.st.purged = true := by
      have := hp0.cov W.length hk (Nat.le_refl _) r (by rw [List.take_length]; exact h.base.run)
      have hst := h.base.inv.abs.st
      simp only [Store.liftC3b_st] at hst
      rw [hst]; exact this
    have habove := optLt_of_le_of_lt hpur (h.base.inv.abs.log_above e he)
    refine ⟨habove, ?_⟩
    obtain ⟨jc2, jo2, g2, _⟩ := hpop.hist
    have hmem := g2.log_chunk_C8s e he
    have hlt := ghost_ids_lt_C3b hj e.2.chunk (by rw [← liftC3b_chunkIds]; exact hmem)
    omega

/-- The flush's batch syncs fine in the idle run, and a good sync starts every postponed removal. -/
theorem flushed_idle_C8s {y : Sys} {s0 : Store} (hs0 : y.store = some s0) (hwf : SysWF y) (hpo : SysPostD14 y) (cb : Option Nat)
    (halive : ((y.step (.flush cb)).step .workerIdle).worker.pc ≠ .dead) :
    ∃ s, ((y.step (.flush cb)).step .workerIdle).store = some s ∧ s.removed = [] ∧
      ((y.step (.flush cb)).step .workerIdle).worker.toRemove = [] ∧
      ((y.step (.flush cb)).step .workerIdle).worker.lastSyncFailed = false ∧
      ((y.step (.flush cb)).step .workerIdle).worker.postponed = [] := by
  have hd1 : (y.step (.flush cb)).worker.pc ≠ .dead := fun hdead => halive (Sys.step_dead _ _ rfl hdead)
  have hd0 : y.worker.pc ≠ .dead := fun hdead => hd1 (Sys.step_dead _ _ rfl hdead)
  have hws := Sys.flush_willSyncD14 y cb s0 hs0 hd0
  have hs1 : (y.step (.flush cb)).store = some (s0.flush cb).1 := by
    rw [show y.step (.flush cb) = (y.flush cb).2.1 from rfl, Sys.flush_eq y cb hs0 hd0]
  have hpo1 : PostponedOnlyAfterFailedSyncD14 (y.step (.flush cb)).worker := hpo.step _ (by rw [hs1]; simp)
  obtain ⟨hw1, ht1⟩ := hwf.step (.flush cb) (by rw [hs1]; simp)
  rw [Sys.step_workerIdle_eq _ hs1] at halive ⊢
  have hq := WCtx.runQuiet_fuel_quiet ((y.step (.flush cb)).wctx (s0.flush cb).1) ht1
  have hcl := WCtx.runQuiet_cleanD14 (y.step (.flush cb)).worker.fuel ((y.step (.flush cb)).wctx (s0.flush cb).1)
    hw1 hpo1 (.inl hws) hq
  exact ⟨_, rfl, rfl, toRemove_of_quiet_C8s hq halive hcl.2, hcl.1, hcl.2⟩

end RaftLog
