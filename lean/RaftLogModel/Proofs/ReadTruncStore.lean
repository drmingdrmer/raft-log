/-
C07 with `truncate`: the larger of two optional log ids (the ghost bound
at system level is `max (largest id appended so far) purged`), and the one
record kind `RdInv` never sees, `truncateAfter`, as an instance of `RdInvC7b.applied`.
-/
import RaftLogModel.Proofs.ReadPathStore
namespace RaftLog

def optMaxC7b (a b : Option LogId) : Option LogId := if optLe a b then b else a

theorem optMax_left_C7b (a b : Option LogId) : optLe a (optMaxC7b a b) = true := by
  unfold optMaxC7b
  by_cases h : optLe a b = true
  · rw [if_pos h]; exact h
  · rw [if_neg h]; exact optLe_refl _

theorem optMax_right_C7b (a b : Option LogId) : optLe b (optMaxC7b a b) = true := by
  unfold optMaxC7b
  by_cases h : optLe a b = true
  · rw [if_pos h]; exact optLe_refl _
  · rw [if_neg h]
    rcases optLe_total a b with h1 | h1
    · exact absurd h1 h
    · exact h1

theorem optMax_le_C7b {a b c : Option LogId} (h1 : optLe a c = true) (h2 : optLe b c = true) :
    optLe (optMaxC7b a b) c = true := by
  unfold optMaxC7b
  by_cases h : optLe a b = true
  · rw [if_pos h]; exact h2
  · rw [if_neg h]; exact h1

theorem optMax_mono_C7b {a a' b b' : Option LogId} (h1 : optLe a a' = true) (h2 : optLe b b' = true) :
    optLe (optMaxC7b a b) (optMaxC7b a' b') = true :=
  optMax_le_C7b (optLe_trans h1 (optMax_left_C7b _ _)) (optLe_trans h2 (optMax_right_C7b _ _))

theorem optMax_not_ge_C7b {a b : Option LogId} {id : LogId} (h1 : optLe (some id) a = false)
    (h2 : optLe (some id) b = false) : optLe (some id) (optMaxC7b a b) = false := by
  unfold optMaxC7b
  by_cases h : optLe a b = true
  · rw [if_pos h]; exact h2
  · rw [if_neg h]; exact h1

theorem RefLog.TruncArg.small {s : Store} {r : RefLog} {o : Option LogId} (ho : r.TruncArg o)
    (h : RefinesNoCache s r) : optSmall o := by
  rcases ho with rfl | ⟨e, he, rfl⟩
  · have := h.pf.purged
    rwa [h.st] at this
  · obtain ⟨x, hx, _, hxe⟩ := mem_log_of_keys h.log he
    exact hxe ▸ h.pf.log x hx

/-- `last` goes back and the bound stays: a resident survivor stays resident (the cache only drops ids above
the truncation key, survivors are at or below it, `RecCheck`). -/
theorem RdInvC7b.truncate {B : Option LogId} {s : Store} {fs : Fs} {w : Worker} {r : RefLog}
    {o : Option LogId}
    (hj : JInv s fs w) (h : RdInvC7b B s fs w r) (ho : r.TruncArg o)
    (href : RefinesNoCache (s.applied (.truncateAfter o) (r.truncateTo o).state) (r.truncateTo o)) :
    RdInvC7b B (s.applied (.truncateAfter o) (r.truncateTo o).state) fs w (r.truncateTo o) := by
  have hlastEq : s.st.last = r.last := h.ref.abs.last
  refine h.applied hj (stepOK_truncateAfter h.ref.abs ho (ho.small h.ref)) href (optLe_refl _) ?_
    (fun _ _ e => nomatch e)
  simp only [RefLog.truncateTo]
  by_cases hlt : optLt o r.last = true
  · simp only [hlt, if_true]
    exact optLe_trans (optLe_of_lt hlt) (hlastEq ▸ h.lastB)
  · simp only [hlt]
    exact hlastEq ▸ h.lastB

end RaftLog
