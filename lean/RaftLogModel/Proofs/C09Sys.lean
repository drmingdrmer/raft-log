/-
C09 at the system level. A: a linked middle chunk file is removed from the directory of a clean system: `open`
loads the chunks before it, then refuses with `gap`. B: one value byte of a complete record in a linked chunk
file is overwritten: `open` loads the chunks before it, then fails with `invalid`.
-/
import RaftLogModel.Proofs.ReplayRestart
import RaftLogModel.Props.C09
import RaftLogModel.Proofs.C09SysCodec
namespace RaftLog

/-- The file `m` is removed from the directory; the Driver's `fsop rm m` has its own copy of this
(`fs.filter (fun f => f.id != m)`). -/
def Fs.rmC9S (fs : Fs) (m : Nat) : Fs := List.filter (fun f => f.id != m) fs

theorem Fs.find_rmC9S (fs : Fs) {m id : Nat} (h : id ≠ m) : (fs.rmC9S m).find id = fs.find id := by
  rw [Fs.rmC9S, Fs.find, List.find?_filter]
  congr 1
  funext f
  by_cases e : f.id = id <;> simp [e, h]

theorem Fs.find_rmC9S_self (fs : Fs) (m : Nat) : (fs.rmC9S m).find m = none := by
  unfold Fs.rmC9S Fs.find
  rw [List.find?_eq_none]
  intro f hf
  have := (List.mem_filter.mp hf).2
  simpa using this

theorem Fs.has_rmC9S (fs : Fs) (m id : Nat) :
    (fs.rmC9S m).has id = (id != m && fs.has id) := by
  by_cases h : id = m
  · subst h
    simp [Fs.has, Fs.find_rmC9S_self]
  · have : (id != m) = true := by simp [h]
    rw [this, Bool.true_and]
    unfold Fs.has
    rw [Fs.find_rmC9S fs h]

theorem Fs.ids_rm_nodupC9S {fs : Fs} (hn : (Fs.ids fs).Nodup) (m : Nat) :
    (Fs.ids (fs.rmC9S m)).Nodup :=
  hn.sublist (List.Sublist.map _ List.filter_sublist)

theorem Fs.linkedIds_rmC9S {fs : Fs} (hn : (Fs.ids fs).Nodup) {pre post : List Nat} {m : Nat}
    (hsplit : fs.linkedIds = pre ++ m :: post) : (fs.rmC9S m).linkedIds = pre ++ post := by
  obtain ⟨k1, k2⟩ := Fs.linkedIds_spec hn
  rw [hsplit] at k1 k2
  have hs2 : (pre ++ post).Pairwise (· < ·) := by
    rw [List.pairwise_append] at k1 ⊢
    refine ⟨k1.1, (List.pairwise_cons.mp k1.2.1).2, fun a ha b hb => k1.2.2 a ha b (List.mem_cons_of_mem _ hb)⟩
  have hm : m ∉ pre ++ post := by
    intro hmem
    rw [List.pairwise_append] at k1
    rcases List.mem_append.mp hmem with h | h
    · have := k1.2.2 m h m List.mem_cons_self; omega
    · have := (List.pairwise_cons.mp k1.2.1).1 m h; omega
  refine Fs.linkedIds_eq_of (Fs.ids_rm_nodupC9S hn m) hs2 fun x => ?_
  rw [Fs.has_rmC9S, Bool.and_eq_true, ← k2]
  simp only [bne_iff_ne, ne_eq, List.mem_append, List.mem_cons]
  constructor
  · rintro ⟨h1, h2 | h2 | h2⟩
    · exact Or.inl h2
    · exact absurd h2 h1
    · exact Or.inr h2
  · intro h
    refine ⟨?_, ?_⟩
    · intro e; subst e; exact hm (List.mem_append.mpr h)
    · rcases h with h | h
      · exact Or.inl h
      · exact Or.inr (Or.inr h)

theorem loads_prefixC9S (cfg : Cfg) (fs0 : Fs) (j1 : List (Closed × List Record))
    (pc : Closed × List Record) (j2 : List (Closed × List Record)) {st1 : RState} {l1 : Log}
    (hr1 : RepC j1 {} [] st1 l1)
    (hfiles : ∀ p ∈ j1, HoldsChunk fs0 p)
    (hch : Chained ((j1 ++ pc :: j2).map (·.1.offsets))) :
    ∃ a', Loads cfg (j1.map (·.1.id)) { sm := emptyStore cfg, fs := fs0 } a' ∧
      gapCheck a' pc.1.id = false ∧ (j1 ≠ [] → a'.prevEnd = some pc.1.id) := by
  rw [List.map_append, List.map_cons] at hch
  obtain ⟨a', m, hgap, _, hlast⟩ :=
    loads_inv .trivial cfg [] _ j1 { sm := emptyStore cfg, fs := fs0 } st1 l1 hr1 hfiles hch
      (fun _ _ => rfl) True.intro
  have hg : gapCheck a' pc.1.id = false := hgap _ rfl
  refine ⟨a', m.loads, hg, fun hne => ?_⟩
  obtain ⟨a1, id, rs, sm2, rfl, _⟩ := hlast hne
  simpa [gapCheck, OpenAcc.loaded] using hg

/-- The live chunks of a clean system with their record lists and files, split at the linked id `c`
(`y.fs.linkedIds = pre ++ c :: post`): the same list of (chunk, records) pairs as `jc` + open chunk and as
`j1 ++ pc :: j2`, which carry the ids `pre`, `c`, `post`. -/
structure ChunksAtC9S (y : Sys) (rl : RefLog) (pre : List Nat) (c : Nat) (post : List Nat) (s : Store)
    (jc : List (Closed × List Record)) (jo : List Record) (j1 : List (Closed × List Record))
    (pc : Closed × List Record) (j2 : List (Closed × List Record)) : Prop where
  store : y.store = some s
  abs : Abs s rl
  closedEq : jc.map (·.1) = s.closed
  head : ∃ st tl, jo = .state st :: tl
  split : jc ++ [((⟨s.openOffsets, s.st⟩ : Closed), jo)] = j1 ++ pc :: j2
  rep : RepC (j1 ++ pc :: j2) {} [] s.st s.log
  files : ∀ p ∈ j1 ++ pc :: j2, HoldsChunk y.fs p
  chained : Chained ((j1 ++ pc :: j2).map (·.1.offsets))
  pre : j1.map (·.1.id) = pre
  mid : pc.1.id = c
  post : j2.map (·.1.id) = post
  before : ∀ p ∈ j1, p.1.id ≠ c
  nodup : (Fs.ids y.fs).Nodup

theorem CSys.chunks_atC9S {y : Sys} {rl : RefLog} (h : CSys y rl) (hc : y.Clean)
    {pre post : List Nat} {c : Nat} (hsplit : y.fs.linkedIds = pre ++ c :: post) :
    ∃ s jc jo j1 pc j2, ChunksAtC9S y rl pre c post s jc jo j1 pc j2 := by
  obtain ⟨s, q⟩ := h.quiescent hc
  have hn := h.nodup
  obtain ⟨jc, jo, g0, hall, hfiles⟩ := q.rinv.load_data q.inflight q.pending
  have hmapoffs := g0.liveChunks_offsets
  have hmapids := g0.liveChunks_ids
  rw [← q.linked, hsplit] at hmapids
  obtain ⟨j1, jr, e, hm1, hm2⟩ := List.map_eq_append_iff.mp hmapids
  obtain ⟨pc, j2, rfl, hm3, hm4⟩ := List.map_eq_cons_iff.mp hm2
  rw [e] at hall hfiles hmapoffs
  have hsorted := (Fs.linkedIds_spec hn).1
  rw [hsplit, List.pairwise_append] at hsorted
  refine ⟨s, jc, jo, j1, pc, j2,
    { store := q.store, abs := q.rinv.abs, closedEq := g0.closedEq, head := g0.openRecs.head, split := e
      rep := hall, files := hfiles
      chained := by rw [hmapoffs]; exact q.rinv.j.chained
      pre := hm1, mid := hm3, post := hm4, before := fun p hp1 => ?_, nodup := hn }⟩
  have := hsorted.2.2 p.1.id (hm1 ▸ List.mem_map.mpr ⟨p, hp1, rfl⟩) c List.mem_cons_self
  omega

theorem sys_rm_middleC9S {y : Sys} {r : RefLog} (h : CSys y r) (hc : y.Clean) (cfg' : Cfg)
    {pre post : List Nat} {m : Nat} (hsplit : y.fs.linkedIds = pre ++ m :: post)
    (hpre : pre ≠ []) (hpost : post ≠ []) :
    openStore cfg' (y.fs.rmC9S m) = (.err .gap, (y.fs.rmC9S m).syncAll pre, syncEvs pre) := by
  obtain ⟨_, _, _, j1, pm, jr, C⟩ := h.chunks_atC9S hc hsplit
  obtain rfl := C.pre; obtain rfl := C.mid; obtain rfl := C.post
  obtain ⟨q, j2, rfl⟩ := List.exists_cons_of_ne_nil (l := jr) (fun e => hpost (by rw [e]; rfl))
  have hj1 : j1 ≠ [] := fun e => hpre (by rw [e]; rfl)
  obtain ⟨_, _, hr1, _⟩ := RepC.split C.rep
  obtain ⟨a', m1, _, hprev⟩ := loads_prefixC9S cfg' (y.fs.rmC9S pm.1.id) j1 pm
    (q :: j2) hr1 (fun p hp1 => (C.files p (by simp [hp1])).of_find (Fs.find_rmC9S _ (C.before p hp1)))
    C.chained
  -- the linked ids increase strictly, so the next id is not where `j1` ends
  have hs := (Fs.linkedIds_spec C.nodup).1
  rw [hsplit, List.pairwise_append] at hs
  have hpmlt : pm.1.id < q.1.id := (List.pairwise_cons.mp hs.2.1).1 _ (by simp)
  exact c09_open_gap cfg' _ _ q.1.id _ a' pm.1.id (Fs.linkedIds_rmC9S C.nodup hsplit) m1 (hprev hj1)
    (by omega)

/-- One byte of file `c` is overwritten; the Driver's `fsop set c pos val` has its own copy of
this update. -/
def Fs.setByteC9S (fs : Fs) (c pos : Nat) (val : UInt8) : Fs :=
  fs.update c fun f => if pos < f.data.length then { f with data := f.data.set pos val } else f

theorem setByte_idC9S (pos : Nat) (val : UInt8) (f : File) :
    (if pos < f.data.length then ({ f with data := f.data.set pos val } : File) else f).id = f.id := by
  split <;> rfl

theorem setByte_linkedC9S (pos : Nat) (val : UInt8) (f : File) :
    (if pos < f.data.length then ({ f with data := f.data.set pos val } : File) else f).linked
      = f.linked := by
  split <;> rfl

theorem Fs.find_setByte_otherC9S (fs : Fs) {c id : Nat} (h : id ≠ c) (pos : Nat) (val : UInt8) :
    (fs.setByteC9S c pos val).find id = fs.find id :=
  Fs.find_update_other fs h _ (setByte_idC9S pos val)

theorem Fs.find_setByte_selfC9S (fs : Fs) {c : Nat} {f : File} (hf : fs.find c = some f) (pos : Nat)
    (val : UInt8) (hpos : pos < f.data.length) :
    (fs.setByteC9S c pos val).find c = some { f with data := f.data.set pos val } := by
  rw [Fs.setByteC9S, Fs.find_update_self hf _ (setByte_idC9S pos val), if_pos hpos]

theorem Fs.linkedIds_setByteC9S (fs : Fs) (c pos : Nat) (val : UInt8) :
    (fs.setByteC9S c pos val).linkedIds = fs.linkedIds :=
  Fs.linkedIds_update fs c _ (setByte_idC9S pos val) (setByte_linkedC9S pos val)

theorem openStore_err_of_chunksC9S (cfg : Cfg) (fs0 : Fs) (j1 : List (Closed × List Record))
    (pc : Closed × List Record) (j2 : List (Closed × List Record)) (st' : RState) (l' : Log)
    (hrep : RepC (j1 ++ pc :: j2) {} [] st' l')
    (hfiles : ∀ p ∈ j1, HoldsChunk fs0 p)
    (hch : Chained ((j1 ++ pc :: j2).map (·.1.offsets)))
    (hids : fs0.linkedIds = j1.map (·.1.id) ++ pc.1.id :: j2.map (·.1.id))
    (f' : File) (hf' : fs0.find pc.1.id = some f') (k : ErrKind)
    (hoc : openChunk cfg pc.1.id f'.data = .error k) :
    openStore cfg fs0 = (.err k, fs0.syncAll (j1.map (·.1.id)), syncEvs (j1.map (·.1.id))) := by
  obtain ⟨_, _, hr1, _⟩ := RepC.split hrep
  obtain ⟨a', m1, hgap, _⟩ := loads_prefixC9S cfg fs0 j1 pc j2 hr1 hfiles hch
  have hloop := m1.openLoop_err (j2.map fun p => p.1.id) hgap hf' hoc
  rw [openStore_of_err (hids ▸ hloop)]
  simp only [OpenAcc.pre, m1.fs_evs.1, m1.fs_evs.2, List.nil_append]

theorem sys_chunk_recordsC9S {y : Sys} {rl : RefLog} (h : CSys y rl) (hc : y.Clean) {c : Nat}
    (hcm : c ∈ y.fs.linkedIds) :
    ∃ f rs, y.fs.find c = some f ∧ f.linked = true ∧ f.data = encAll rs ∧ AllWF rs ∧ rs ≠ [] ∧
      (parseChunk f.data).1.map (·.1) = rs := by
  obtain ⟨pre, post, hsplit⟩ := List.append_of_mem hcm
  obtain ⟨_, _, _, j1, pc, j2, C⟩ := h.chunks_atC9S hc hsplit
  obtain rfl := C.mid
  obtain ⟨f, hf, F⟩ := C.files pc (by simp)
  have hhas := ((Fs.linkedIds_spec C.nodup).2 pc.1.id).mp hcm
  rw [Fs.has, hf] at hhas
  exact ⟨f, pc.2, hf, hhas, F.data, F.wf, F.ne, by rw [F.data, parse_encAll' F.wf, sized_map_fst]⟩

theorem sys_value_byteC9S {y : Sys} {rl : RefLog} (h : CSys y rl) (hc : y.Clean) (cfg' : Cfg)
    {pre post : List Nat} {c : Nat} (hsplit : y.fs.linkedIds = pre ++ c :: post)
    {f : File} (hf : y.fs.find c = some f) {rs0 : List Record} (h0 : AllWF rs0) (r : Record)
    (hr : r.WF) (rest : Bytes) (hdata : f.data = encAll rs0 ++ (encRecord r ++ rest))
    (i : Nat) (v : UInt8) (hpos : ValuePos r i) (hv : (encRecord r).getD i 0 ≠ v) :
    openStore cfg' (y.fs.setByteC9S c ((encAll rs0).length + i) v)
      = (.err .invalid, (y.fs.setByteC9S c ((encAll rs0).length + i) v).syncAll pre, syncEvs pre) := by
  obtain ⟨s, _, _, j1, pc, j2, C⟩ := h.chunks_atC9S hc hsplit
  obtain rfl := C.pre; obtain rfl := C.mid; obtain rfl := C.post
  have hposlt : (encAll rs0).length + i < f.data.length := by
    have := hpos.ltC9S
    rw [hdata]; simp only [List.length_append]; omega
  refine openStore_err_of_chunksC9S cfg' _ j1 pc j2 s.st s.log C.rep
    (fun p hp1 => (C.files p (by simp [hp1])).of_find (Fs.find_setByte_otherC9S _ (C.before p hp1) _ _))
    C.chained (by rw [Fs.linkedIds_setByteC9S, hsplit]) _
    (Fs.find_setByte_selfC9S _ hf _ v hposlt) .invalid ?_
  simp only [hdata]
  exact (openChunk_value_byteC9S cfg' pc.1.id h0 r hr rest i v hpos hv).2

end RaftLog
