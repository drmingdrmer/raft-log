/-
Journal invariant, caller side: `Op.WF`, `chunkBytes` (file ++ in flight ++ pending bytes of a chunk), and `JInv`
across journalling a record (`JInv.journal`) and a chunk rotation (`JInv.rotate`). Whatever else happens to store,
files and worker — closed chunks dropped, requests pushed, `settle`, a flush, a worker step — is an instance of
the one frame lemma `JInv.transport`.
-/
import RaftLogModel.Proofs.JournalWorker
import RaftLogModel.Proofs.WorkerCaller
namespace RaftLog

theorem incr_last_le {l : List Nat} {x : Nat} (h : Incr l) (hl : l.getLast? = some x) : ∀ a ∈ l, a ≤ x := by
  obtain ⟨ys, rfl⟩ := List.getLast?_eq_some_iff.mp hl
  intro a ha
  rcases List.mem_append.mp ha with h1 | h1
  · have := (List.pairwise_append.mp h).2.2 a h1 x (by simp); omega
  · simp at h1; omega

theorem incr_snoc {l : List Nat} {n : Nat} (h : Incr l) (hn : ∀ a ∈ l, a < n) : Incr (l ++ [n]) := by
  apply List.pairwise_append.mpr
  refine ⟨h, List.pairwise_singleton _ _, ?_⟩
  intro a ha b hb
  simp at hb; subst hb; exact hn a ha

theorem suffix_getLast? {a : Nat} {t l : List Nat} (h : (a :: t) <:+ l) : l.getLast? = (a :: t).getLast? := by
  obtain ⟨pre, rfl⟩ := h
  rw [List.getLast?_append]
  cases h : (a :: t).getLast? with
  | none => simp at h
  | some x => rfl

/-- The file the last request of a queue leaves as the newest one. -/
def lastAnn (cur : Nat) : List WReq → Nat
  | [] => cur
  | .write _ _ _ :: q => lastAnn cur q
  | .appendFile n _ :: q => lastAnn n q
  | .removeChunks _ :: q => lastAnn cur q

theorem lastAnn_getLast (cur : Nat) (R : List WReq) : (cur :: annIds R).getLast? = some (lastAnn cur R) := by
  induction R generalizing cur with
  | nil => rfl
  | cons r R ih =>
    cases r with
    | write u d cb => exact ih cur
    | appendFile n p =>
      simp only [annIds, lastAnn, List.getLast?_cons_cons]
      exact ih n
    | removeChunks ids => exact ih cur

theorem annIds_append (a b : List WReq) : annIds (a ++ b) = annIds a ++ annIds b := by
  induction a with
  | nil => rfl
  | cons r R ih => cases r <;> simp [annIds, ih]

/-- The bytes queued requests will write: those of a first part, then those of the rest, which starts at
the file the first part leaves as the newest one. -/
theorem inflightFrom_append (cur : Nat) (R Q : List WReq) (id : Nat) :
    inflightFrom cur (R ++ Q) id = inflightFrom cur R id ++ inflightFrom (lastAnn cur R) Q id := by
  induction R generalizing cur with
  | nil => rfl
  | cons r R ih => cases r <;> simp [inflightFrom, lastAnn, ih]

theorem inflightFrom_not_announced (cur : Nat) (R : List WReq) (id : Nat)
    (h : id ∉ cur :: annIds R) : inflightFrom cur R id = [] := by
  induction R generalizing cur with
  | nil => rfl
  | cons r R ih =>
    cases r with
    | write u d cb =>
      simp only [annIds] at h
      have hc : ¬ cur = id := fun e => h (by simp [e])
      simp [inflightFrom, hc, ih cur h]
    | appendFile n p =>
      simp only [annIds] at h
      simp only [inflightFrom]
      exact ih n (fun hm => h (List.mem_cons_of_mem _ hm))
    | removeChunks ids =>
      simp only [annIds] at h
      simp only [inflightFrom]
      exact ih cur h

theorem Worker.inflight_not_announced (w : Worker) (id : Nat) (h : id ∉ w.announced) :
    w.inflight id = [] := by
  have hc : ¬ w.cur = id := fun e => h (by simp [Worker.announced, e])
  simp only [Worker.inflight, infl, hc, if_false, List.nil_append]
  exact inflightFrom_not_announced _ _ _ h

theorem inflight_quiet {w : Worker} (hpc : w.pc = .idle) (hqe : w.queue = []) (id : Nat) :
    w.inflight id = [] := by
  simp [Worker.inflight, infl, Worker.rest, hpc, hqe, WPc.todoBytes, WPc.inHand, inflightFrom]

/-- Pushing requests: what is in flight grows by what they will write, starting at the file that is
newest when they are processed (the last announced id `x`); their `appendFile`s are announced. -/
theorem Worker.push_inflight (w : Worker) (Q : List WReq) {x : Nat}
    (hl : w.announced.getLast? = some x) (id : Nat) :
    (w.push Q).inflight id = w.inflight id ++ inflightFrom x Q id := by
  have hx : lastAnn w.cur w.rest = x :=
    Option.some.inj ((lastAnn_getLast w.cur w.rest).symm.trans hl)
  simp only [Worker.inflight, Worker.push_rest, infl, Worker.cur, Worker.push_files, Worker.push_pc,
    inflightFrom_append, List.append_assoc]
  rw [← hx]; rfl

theorem Worker.push_announced (w : Worker) (Q : List WReq) :
    (w.push Q).announced = w.announced ++ annIds Q := by
  simp [Worker.announced, Worker.push_rest, annIds_append, Worker.cur]

theorem Worker.settle_inflight (w : Worker) (id : Nat) : w.settle.inflight id = w.inflight id :=
  congrArg (WView.inflight · id) w.settle_view

theorem Worker.settle_announced (w : Worker) : w.settle.announced = w.announced :=
  congrArg WView.announced w.settle_view

theorem Chained.snoc {L : List (List Nat)} {a b : List Nat} (h : Chained (L ++ [a]))
    (hab : lastOff a = b.headD 0) : Chained (L ++ [a] ++ [b]) := by
  induction L with
  | nil => exact ⟨hab, trivial⟩
  | cons x L ih =>
    cases L with
    | nil =>
      simp only [List.cons_append, List.nil_append, Chained] at h ⊢
      exact ⟨h.1, hab, trivial⟩
    | cons y L' =>
      simp only [List.cons_append, Chained] at h ih ⊢
      exact ⟨h.1, ih h.2⟩

theorem Chained.replace_last {L : List (List Nat)} {a a' : List Nat} (h : Chained (L ++ [a]))
    (hh : a'.headD 0 = a.headD 0) : Chained (L ++ [a']) := by
  induction L with
  | nil => trivial
  | cons x L ih =>
    cases L with
    | nil =>
      simp only [List.cons_append, List.nil_append, Chained] at h ⊢
      exact ⟨by rw [hh]; exact h.1, trivial⟩
    | cons y L' =>
      simp only [List.cons_append, Chained] at h ih ⊢
      exact ⟨h.1, ih h.2⟩

theorem Chained.tail {x : List Nat} {L : List (List Nat)} (h : Chained (x :: L)) : Chained L := by
  cases L with
  | nil => trivial
  | cons y L' => exact h.2

theorem Chained.prefix : ∀ (P L : List (List Nat)), Chained (P ++ L) → Chained P := by
  intro P
  induction P with
  | nil => intro _ _; trivial
  | cons x P ih =>
    intro L h
    cases P with
    | nil => trivial
    | cons y P' =>
      simp only [List.cons_append, Chained] at h ⊢
      exact ⟨h.1, ih L h.2⟩

theorem Chained.drop_prefix {P L : List (List Nat)} (h : Chained (P ++ L)) : Chained L := by
  induction P with
  | nil => exact h
  | cons x P ih => exact ih h.tail

/-- The arguments of a call are values the Rust types can hold: `u64` ids, payloads and user data below 4 GiB. The
side condition of the history theorems; `Op.small` (Proofs/NoPanic.lean) is the other. -/
def Op.WF : Op → Prop
  | .saveVote v => v.WF
  | .append es => ∀ e ∈ es, e.1.WF ∧ bytesWF e.2
  | .truncate _ => True
  | .purge id => id.WF
  | .commit id => id.WF
  | .saveUserData d => match d with
    | none => True
    | some b => bytesWF b

theorem RState.wf_empty : ({} : RState).WF := ⟨trivial, trivial, trivial, trivial, trivial⟩

theorem apply_wf {st st' : RState} {r : Record} (hs : st.WF) (hr : r.WF) (h : st.apply r = .ok st') :
    st'.WF := by
  obtain ⟨h1, h2, h3, h4, h5⟩ := hs
  rw [apply_eq_applied h]
  cases r with
  | saveVote v => exact ⟨hr, h2, h3, h4, h5⟩
  | commit id => exact ⟨h1, h2, hr, h4, h5⟩
  | state x => exact hr
  | append id p => exact ⟨h1, hr.1, h3, h4, h5⟩
  | truncateAfter o =>
    simp only [RState.applied, RState.truncateAfter]
    split
    · exact ⟨h1, hr, h3, h4, h5⟩
    · exact ⟨h1, h2, h3, h4, h5⟩
  | purgeUpto id =>
    simp only [RState.applied, RState.purge]
    split
    · split
      · exact ⟨h1, hr, h3, hr, h5⟩
      · exact ⟨h1, h2, h3, hr, h5⟩
    · split
      · exact ⟨h1, hr, h3, h4, h5⟩
      · exact ⟨h1, h2, h3, h4, h5⟩

/-- All bytes of chunk `id`: file, in flight, pending (open chunk only). -/
def chunkBytes (s : Store) (fs : Fs) (w : Worker) (id : Nat) : Bytes :=
  fdata fs id ++ w.inflight id ++ (if s.openId = id then s.pending else [])

theorem chunkBytes_congr {s1 s2 : Store} (fs : Fs) (w : Worker) (id : Nat)
    (h1 : s2.openOffsets = s1.openOffsets) (h2 : s2.pending = s1.pending) :
    chunkBytes s2 fs w id = chunkBytes s1 fs w id := by
  simp [chunkBytes, Store.openId, h1, h2]

theorem JInv.openId_lt {s : Store} {fs : Fs} {w : Worker} (h : JInv s fs w) : s.openId < s.openEnd :=
  h.openBytes.head_lt

theorem JInv.openId_mem {s : Store} {fs : Fs} {w : Worker} (h : JInv s fs w) : s.openId ∈ w.announced :=
  List.mem_of_getLast? h.annLast

theorem JInv.ann_le {s : Store} {fs : Fs} {w : Worker} (h : JInv s fs w) : ∀ a ∈ w.announced, a ≤ s.openId :=
  incr_last_le h.annAsc h.annLast

theorem JInv.closed_lt {s : Store} {fs : Fs} {w : Worker} (h : JInv s fs w) {c : Closed} (hc : c ∈ s.closed) :
    c.id < s.openId := by
  have h1 := (h.closedBytes c hc).head_lt
  have h2 := h.closedLe c hc
  exact Nat.lt_of_lt_of_le h1 h2

theorem JInv.chunk_ok {s : Store} {fs : Fs} {w : Worker} (h : JInv s fs w) : ∀ offs ∈ s.chunks,
    ChunkOK offs (chunkBytes s fs w (offs.headD 0)) ∧ offs.headD 0 ∈ Fs.ids fs := by
  intro offs ho
  simp only [Store.chunks, List.mem_append, List.mem_map, List.mem_singleton] at ho
  rcases ho with ⟨c, hc, rfl⟩ | rfl
  · have hne : ¬ s.openId = c.offsets.headD 0 := Nat.ne_of_gt (h.closed_lt hc)
    simp only [chunkBytes, hne, if_false, List.append_nil]
    exact ⟨h.closedBytes c hc, h.closedFs c hc⟩
  · simp only [chunkBytes, Store.openId, if_true]
    exact ⟨h.openBytes, h.annFs _ h.openId_mem⟩

theorem JInv.chunkBytes_length {s : Store} {fs : Fs} {w : Worker} (h : JInv s fs w) :
    ∀ offs ∈ s.chunks, (chunkBytes s fs w (offs.headD 0)).length = lastOff offs - offs.headD 0 := by
  intro offs ho
  have := (h.chunk_ok offs ho).1.lastOff_eq
  omega

theorem JInv.openBytes_length {s : Store} {fs : Fs} {w : Worker} (h : JInv s fs w) :
    (chunkBytes s fs w s.openId).length = s.openEnd - s.openId :=
  h.chunkBytes_length s.openOffsets (by simp [Store.chunks])

/-- The invariant looks at store, files and worker only through the worker's control shape, the state
and index map, the chunk layout (closed chunks may be dropped from the front), the set of file ids, the
announced ids (a suffix will do) and the bytes of every chunk. -/
theorem JInv.transport {s s2 : Store} {fs fs2 : Fs} {w w2 : Worker} (h : JInv s fs w)
    (hw : w2.pc.ok w2.files) (hst : s2.st = s.st) (hlog : s2.log = s.log)
    (hoff : s2.openOffsets = s.openOffsets) (pre : List Closed) (hcl : s.closed = pre ++ s2.closed)
    (hids : Fs.ids fs2 = Fs.ids fs) (hann : w2.announced <:+ w.announced)
    (hb : ∀ id, chunkBytes s2 fs2 w2 id = chunkBytes s fs w id) : JInv s2 fs2 w2 := by
  have e1 : s2.openId = s.openId := by simp [Store.openId, hoff]
  have e2 : s2.openEnd = s.openEnd := by simp [Store.openEnd, hoff]
  have hm : ∀ c ∈ s2.closed, c ∈ s.closed := fun c hc => by rw [hcl]; exact List.mem_append_right _ hc
  have hcb : ∀ c ∈ s2.closed, fdata fs2 c.id ++ w2.inflight c.id = fdata fs c.id ++ w.inflight c.id := by
    intro c hc
    have hne : ¬ s.openId = c.id := by have := h.closed_lt (hm c hc); omega
    simpa [chunkBytes, e1, hne] using hb c.id
  refine {
    wok := hw, stWF := by rw [hst]; exact h.stWF, logWF := by rw [hlog]; exact h.logWF,
    fsLt := by rw [hids, e2]; exact h.fsLt, annLast := ?annLast, annAsc := h.annAsc.sublist hann.sublist,
    annFs := fun a ha => by rw [hids]; exact h.annFs a (hann.subset ha), chained := ?chained,
    closedLe := fun c hc => by rw [e1]; exact h.closedLe c (hm c hc),
    closedFs := fun c hc => by rw [hids]; exact h.closedFs c (hm c hc), openBytes := ?openBytes,
    closedBytes := fun c hc => by rw [hcb c hc]; exact h.closedBytes c (hm c hc) }
  case annLast =>
    rw [e1, ← h.annLast]
    exact (suffix_getLast? (a := w2.cur) (t := annIds w2.rest) hann).symm
  case chained =>
    have := h.chained
    simp only [Store.chunks, hcl, List.map_append, List.append_assoc, hoff] at this ⊢
    exact this.drop_prefix
  case openBytes =>
    have := hb s.openId
    simp only [chunkBytes, e1, if_true] at this
    rw [hoff, e1, this]
    exact h.openBytes

theorem chunkBytes_journal {s s3 : Store} (fs : Fs) (w : Worker) {x : Nat} {bs : Bytes}
    (hne : s.openOffsets ≠ []) (hoff : s3.openOffsets = s.openOffsets ++ [x])
    (hp : s3.pending = s.pending ++ bs) (id : Nat) :
    chunkBytes s3 fs w id = chunkBytes s fs w id ++ (if s.openId = id then bs else []) := by
  have e1 := Store.openId_of_snoc hne hoff
  simp only [chunkBytes, e1, hp]
  by_cases h : s.openId = id <;> simp [h]

theorem chunkBytes_applied {s : Store} (fs : Fs) (w : Worker) {r : Record} {st' : RState}
    (hne : s.openOffsets ≠ []) (id : Nat) :
    chunkBytes (s.applied r st') fs w id =
      chunkBytes s fs w id ++ (if s.openId = id then encRecord r else []) :=
  chunkBytes_journal fs w hne rfl rfl id

theorem JInv.journal {s s3 : Store} {fs : Fs} {w : Worker} {r : Record} (h : JInv s fs w) (hr : r.WF)
    (hst : s3.st.WF) (hlog : ∀ e ∈ s3.log, e.2.id.WF)
    (hoff : s3.openOffsets = s.openOffsets ++ [s.openEnd + (encRecord r).length])
    (hp : s3.pending = s.pending ++ encRecord r) (hc : s3.closed = s.closed) :
    JInv s3 fs w ∧ s3.openId = s.openId ∧ s3.openEnd = s.openEnd + (encRecord r).length ∧
      chunkBytes s3 fs w s.openId = chunkBytes s fs w s.openId ++ encRecord r := by
  have hne := h.openBytes.ne_nil
  have e1 := Store.openId_of_snoc hne hoff
  have e2 : s3.openEnd = s.openEnd + (encRecord r).length := by
    simp only [Store.openEnd, hoff]; exact lastOff_append _ _
  refine ⟨{
    wok := h.wok, stWF := hst, logWF := hlog, fsLt := ?fsLt, annLast := by rw [e1]; exact h.annLast,
    annAsc := h.annAsc, annFs := h.annFs, chained := ?chained, closedLe := by rw [hc, e1]; exact h.closedLe,
    closedFs := by rw [hc]; exact h.closedFs, openBytes := ?openBytes,
    closedBytes := by rw [hc]; exact h.closedBytes }, e1, e2, ?bytes⟩
  case fsLt => intro i hi; have := h.fsLt i hi; omega
  case chained =>
    have := h.chained
    simp only [Store.chunks, hc] at this ⊢
    exact this.replace_last (by rw [hoff]; exact headD_append_of_ne_nil hne _)
  case openBytes =>
    rw [hoff, e1, hp, ← List.append_assoc]
    exact h.openBytes.snoc hr
  case bytes => simp only [chunkBytes, e1, if_true, hp, List.append_assoc]

theorem JInv.appliedRec {s : Store} {fs : Fs} {w : Worker} {r : Record} {st' : RState}
    (h : JInv s fs w) (hr : r.WF) (hst : s.st.apply r = .ok st') : JInv (s.applied r st') fs w :=
  (h.journal (s3 := s.applied r st') hr (apply_wf h.stWF hr hst)
    (fun e he => (mem_idxLog he).elim (h.logWF e) fun ⟨_, _, hrec, hid⟩ => hid ▸ (hrec ▸ hr).1)
    rfl rfl rfl).1

theorem JInv.dropClosed {s s2 : Store} {fs : Fs} {w : Worker} (h : JInv s fs w) (pre : List Closed)
    (h1 : s2.st = s.st) (h2 : s2.log = s.log) (h3 : s2.openOffsets = s.openOffsets)
    (h4 : s2.pending = s.pending) (h5 : s.closed = pre ++ s2.closed) : JInv s2 fs w :=
  h.transport h.wok h1 h2 h3 pre h5 rfl (List.suffix_refl _)
    fun id => by simp [chunkBytes, Store.openId, h3, h4]

theorem JInv.of_fields {s s2 : Store} {fs : Fs} {w : Worker} (h : JInv s fs w) (h1 : s2.st = s.st)
    (h2 : s2.log = s.log) (h3 : s2.openOffsets = s.openOffsets) (h4 : s2.pending = s.pending)
    (h5 : s2.closed = s.closed) : JInv s2 fs w :=
  h.dropClosed [] h1 h2 h3 h4 h5.symm

theorem inflight_rotate {s : Store} {fs : Fs} {w : Worker} (h : JInv s fs w) (id : Nat) :
    (w.push (effQ (rotateEffs s))).inflight id =
      w.inflight id ++ (if s.openId = id then s.pending else []) := by
  rw [w.push_inflight _ h.annLast, effQ_rotateEffs]
  by_cases hp : s.pending = [] <;> simp [hp, inflightFrom]

theorem announced_rotate {s : Store} (w : Worker) :
    (w.push (effQ (rotateEffs s))).announced = w.announced ++ [s.openEnd] := by
  rw [w.push_announced, effQ_rotateEffs]
  by_cases hp : s.pending = [] <;> simp [hp, annIds]

theorem chunkBytes_rotated {s : Store} {fs : Fs} {w : Worker} (h : JInv s fs w) {id : Nat}
    (hid : id ≠ s.openEnd) :
    chunkBytes s.rotated (effFs (rotateEffs s) fs) (w.push (effQ (rotateEffs s))) id =
      chunkBytes s fs w id := by
  have hid' : ¬ s.openEnd = id := fun e => hid e.symm
  simp only [chunkBytes, Store.rotated_openId, hid', if_false, List.append_nil]
  rw [inflight_rotate h, fdata_rotate_ne s fs hid, List.append_assoc]

theorem chunkBytes_rotated_new {s : Store} {fs : Fs} {w : Worker} (h : JInv s fs w) :
    chunkBytes s.rotated (effFs (rotateEffs s) fs) (w.push (effQ (rotateEffs s))) s.openEnd =
      encRecord (.state s.st) := by
  have hlt := h.openId_lt
  have hnew : s.openEnd ∉ w.announced := fun hm => by have := h.ann_le _ hm; omega
  have : ¬ s.openId = s.openEnd := by omega
  rw [chunkBytes, inflight_rotate h, w.inflight_not_announced _ hnew, fdata_rotate_self,
    Store.rotated_openId, if_pos rfl, if_neg this]
  simp

theorem JInv.rotate {s : Store} {fs : Fs} {w : Worker} (h : JInv s fs w) :
    JInv s.rotated (effFs (rotateEffs s) fs) (w.push (effQ (rotateEffs s))) := by
  have hlt := h.openId_lt
  have hpos := encRecord_length_pos (.state s.st)
  have hann := announced_rotate (s := s) w
  have hids := Fs.ids_rotate s fs
  -- file ++ in flight of every older chunk: what the chunk had before, pending bytes included
  have old : ∀ id, id ≠ s.openEnd →
      fdata (effFs (rotateEffs s) fs) id ++ (w.push (effQ (rotateEffs s))).inflight id =
        chunkBytes s fs w id := by
    intro id hid
    have := chunkBytes_rotated h hid
    have hne : ¬ s.openEnd = id := fun e => hid e.symm
    simpa [chunkBytes, Store.rotated_openId, hne] using this
  refine {
    wok := h.wok, stWF := h.stWF, logWF := h.logWF, fsLt := ?fsLt, annLast := ?annLast, annAsc := ?annAsc,
    annFs := ?annFs, chained := ?chained, closedLe := ?closedLe, closedFs := ?closedFs, openBytes := ?openBytes,
    closedBytes := ?closedBytes }
  case fsLt =>
    intro i hi
    rw [Store.rotated_openEnd]
    rcases (hids i).mp hi with h1 | h1
    · have := h.fsLt i h1; omega
    · omega
  case annLast =>
    rw [hann, Store.rotated_openId]; simp
  case annAsc =>
    rw [hann]
    exact incr_snoc h.annAsc (fun a ha => by have := h.ann_le a ha; omega)
  case annFs =>
    intro a ha
    rw [hann] at ha
    rcases List.mem_append.mp ha with h1 | h1
    · exact (hids a).mpr (.inl (h.annFs a h1))
    · exact (hids a).mpr (.inr (List.mem_singleton.mp h1))
  case chained =>
    have := h.chained
    simp only [Store.chunks, Store.rotated_closed, Store.rotated_openOffsets, List.map_append, List.map_cons,
      List.map_nil] at this ⊢
    exact Chained.snoc this rfl
  case closedLe =>
    intro c hc
    rw [Store.rotated_openId]
    rcases List.mem_append.mp hc with h1 | h1
    · have := h.closedLe c h1; omega
    · rw [List.mem_singleton.mp h1]; exact Nat.le_refl _
  case closedFs =>
    intro c hc
    rcases List.mem_append.mp hc with h1 | h1
    · exact (hids _).mpr (.inl (h.closedFs c h1))
    · rw [List.mem_singleton.mp h1]; exact (hids _).mpr (.inl (h.annFs _ h.openId_mem))
  case openBytes =>
    have := chunkBytes_rotated_new h
    simp only [chunkBytes, Store.rotated_openId, if_true] at this
    show ChunkOK [s.openEnd, _] _
    rw [Store.rotated_openId, this]
    exact ChunkOK.fresh s.openEnd h.stWF
  case closedBytes =>
    intro c hc
    rcases List.mem_append.mp hc with h1 | h1
    · have hlt' := h.closed_lt h1
      rw [old c.id (by omega)]
      have : ¬ s.openId = c.id := by omega
      simpa [chunkBytes, this] using h.closedBytes c h1
    · rw [List.mem_singleton.mp h1]
      show ChunkOK s.openOffsets (fdata _ s.openId ++ Worker.inflight _ s.openId)
      rw [old s.openId (by omega)]
      simpa [chunkBytes] using h.openBytes

theorem inflight_flush {s : Store} {fs : Fs} {w : Worker} (hj : JInv s fs w) (cb : Option Nat) (id : Nat) :
    (w.push (effQ (s.flush cb).2)).inflight id =
      w.inflight id ++ (if s.openId = id then s.pending else []) := by
  rw [w.push_inflight _ hj.annLast, effQ_flush]
  by_cases hr : s.removed = [] <;> simp [hr, inflightFrom]

theorem announced_flush (s : Store) (cb : Option Nat) (w : Worker) :
    (w.push (effQ (s.flush cb).2)).announced = w.announced := by
  rw [w.push_announced, effQ_flush]
  by_cases hr : s.removed = [] <;> simp [hr, annIds]

theorem settle_bytes (s : Store) (fs : Fs) (w : Worker) (id : Nat) :
    chunkBytes s fs w.settle id = chunkBytes s fs w id := by
  simp only [chunkBytes, Worker.settle_inflight]

theorem StepGood.chunkBytes_eq {c c' : WCtx} (g : StepGood c c') (s : Store) (id : Nat) :
    chunkBytes s c'.fs c'.w id = chunkBytes s c.fs c.w id := by
  simp only [chunkBytes]
  rw [g.bytes]

theorem flush_bytes {s : Store} {fs : Fs} {w : Worker} (h : JInv s fs w) (cb : Option Nat) (id : Nat) :
    chunkBytes (s.flush cb).1 (effFs (s.flush cb).2 fs) (w.push (effQ (s.flush cb).2)) id
      = chunkBytes s fs w id := by
  have hid : (s.flush cb).1.openId = s.openId := rfl
  have hp : (s.flush cb).1.pending = [] := rfl
  simp only [chunkBytes, hid, hp, effFs_flush, inflight_flush h]
  by_cases hx : s.openId = id <;> simp [hx]

end RaftLog
