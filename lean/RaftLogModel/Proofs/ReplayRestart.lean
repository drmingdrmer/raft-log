/-
C02: drop + open of a clean system (`Sys.Clean`). `CSys.quiescent` says what a clean system with the invariant
`CSys` = `RSys` ∧ `LSys` gives (`CleanAt`); `restart_eq_LIFT`: the store comes back with the same state, index
map and chunk table, the chunk files kept are synced (D15) and nothing else of the file system changes
(`Restarted`); the invariants are carried over by "same fields, same bytes" (`*.reopen`, `restart_CSys`). At the
end: any number of cycles history + restart (`CleanCycles`, `cycles_induct_ref`).
-/
import RaftLogModel.Proofs.ReplayLinked
import RaftLogModel.Proofs.ReplayCache
namespace RaftLog

/-- The invariant under which drop + open of a clean system gives the same store back. -/
def CSys (y : Sys) (r : RefLog) : Prop := RSys y r ∧ LSys y

theorem CSys.of_store {y : Sys} {r : RefLog} (h : CSys y r) {s : Store} (hs : y.store = some s) :
    RInv s y.fs y.worker r ∧ LInv s y.fs y.worker := by
  obtain ⟨⟨s0, hs0, _, hi⟩, s1, hs1, hli⟩ := h
  cases hs.symm.trans hs0
  cases hs.symm.trans hs1
  exact ⟨hi, hli⟩

theorem fresh_CSys (cfg : Cfg) : CSys (Sys.fresh cfg) {} := ⟨fresh_RSys cfg, fresh_LSys cfg⟩

theorem run_CSys (steps : List Step) (y : Sys) (r r' : RefLog) (h : CSys y r)
    (hst : ∀ st ∈ steps, st.journal = true) (hr : r.run (stepOps steps) = some r')
    (hwf : ∀ op ∈ stepOps steps, op.WF ∧ op.small) (hnd : (y.run steps).worker.pc ≠ .dead) :
    CSys (y.run steps) r' :=
  ⟨run_RSys steps y r r' h.1 hst hr hwf hnd,
    run_LSys steps y h.2 h.1.J hst (fun op hop => (hwf op hop).1) hnd⟩

theorem toRemove_quiet {w : Worker} (hpc : w.pc = .idle) (hqe : w.queue = []) :
    w.toRemove = w.postponed := by
  simp [Worker.toRemove, hpc, hqe, WPc.unl, WPc.inHand, rmIds]

theorem rest_quiet {w : Worker} (hpc : w.pc = .idle) (hqe : w.queue = []) : w.rest = [] := by
  simp [Worker.rest, hpc, hqe, WPc.inHand]

theorem pendingAppends_quiet {w : Worker} (hpc : w.pc = .idle) (hqe : w.queue = []) :
    pendingAppends w = [] := by
  simp [pendingAppends, hpc, hqe, WPc.held]

theorem toRemove_of_quiet_C8s {w : Worker} (hq : w.quiet = true) (hd : w.pc ≠ .dead)
    (hp : w.postponed = []) : w.toRemove = [] := by
  obtain ⟨hpc, hqe⟩ := quiet_alive hq hd
  rw [toRemove_quiet hpc hqe, hp]

theorem dropStore_quiet (y : Sys) (s : Store) (hs : y.store = some s) (hpc : y.worker.pc = .idle)
    (hqe : y.worker.queue = []) : y.dropStore.1.fs = y.fs ∧ y.dropStore.1.locked = false := by
  have key : ∀ c : WCtx, c.w.queue = [] → c.w.senderAlive = false → c.fs = y.fs →
      (WCtx.runQuiet c.toRecv.w.fuel c.toRecv).fs = y.fs := by
    intro c h1 h2 h3
    have hdead : c.toRecv.w.pc = .dead := by simp [WCtx.toRecv, h1, h2, WCtx.emit]
    rw [WCtx.runQuiet_dead _ _ hdead, WCtx.toRecv_fs]
    exact h3
  simp only [Sys.dropStore, hs, hpc]
  exact ⟨key _ hqe rfl rfl, trivial⟩

theorem reopen_inflight (id : Nat) (pl : Option LogId) (i : Nat) :
    ({ files := [⟨id, pl⟩] } : Worker).inflight i = [] := inflight_quiet rfl rfl i

theorem reopen_announced (id : Nat) (pl : Option LogId) :
    ({ files := [⟨id, pl⟩] } : Worker).announced = [id] := by
  simp [Worker.announced, Worker.cur, newestId, Worker.rest, WPc.inHand, annIds]

theorem reopen_toRemove (id : Nat) (pl : Option LogId) : ({ files := [⟨id, pl⟩] } : Worker).toRemove = [] :=
  toRemove_quiet rfl rfl

/-- A file system with the same ids, bytes and links: what the syncs of `open` (D15) leave. -/
structure SameBytes (fs fs' : Fs) : Prop where
  ids : Fs.ids fs' = Fs.ids fs
  data : ∀ i, fdata fs' i = fdata fs i
  has : ∀ i, fs'.has i = fs.has i

theorem SameBytes.refl (fs : Fs) : SameBytes fs fs := ⟨rfl, fun _ => rfl, fun _ => rfl⟩

theorem SameBytes.syncAll (fs : Fs) (ids : List Nat) : SameBytes fs (fs.syncAll ids) :=
  ⟨Fs.ids_syncAll fs ids, fdata_syncAll fs ids, Fs.has_syncAll fs ids⟩

theorem chunkBytes_reopen {s s' : Store} {fs fs' : Fs} {w : Worker} (hsb : SameBytes fs fs')
    (hinf : ∀ id, w.inflight id = []) (hp : s.pending = []) (h3 : s'.openOffsets = s.openOffsets)
    (h4 : s'.pending = []) (pl : Option LogId) (id : Nat) :
    chunkBytes s' fs' { files := [⟨s.openId, pl⟩] } id = chunkBytes s fs w id := by
  have f1 := reopen_inflight s.openId pl
  have e1 : s'.openId = s.openId := by simp [Store.openId, h3]
  simp only [chunkBytes, f1, hinf, h4, hp, e1, hsb.data]

theorem JInv.reopen {s s' : Store} {fs fs' : Fs} {w : Worker} (hj : JInv s fs w)
    (hsb : SameBytes fs fs')
    (hinf : ∀ id, w.inflight id = []) (hp : s.pending = [])
    (h1 : s'.st = s.st) (h2 : s'.log = s.log) (h3 : s'.openOffsets = s.openOffsets)
    (h4 : s'.pending = []) (h5 : s'.closed = s.closed) (pl : Option LogId) :
    JInv s' fs' { files := [⟨s.openId, pl⟩] } := by
  have f1 := reopen_inflight s.openId pl
  have f2 := reopen_announced s.openId pl
  have e1 : s'.openId = s.openId := by simp [Store.openId, h3]
  have e2 : s'.openEnd = s.openEnd := by simp [Store.openEnd, h3]
  have e3 : s'.chunks = s.chunks := by simp [Store.chunks, h3, h5]
  refine
    { wok := trivial
      stWF := by rw [h1]; exact hj.stWF
      logWF := by rw [h2]; exact hj.logWF
      fsLt := by rw [e2, hsb.ids]; exact hj.fsLt
      annLast := by rw [f2, e1]; rfl
      annAsc := by rw [f2]; simp [Incr]
      annFs := ?annFs
      chained := by rw [e3]; exact hj.chained
      closedLe := by rw [h5, e1]; exact hj.closedLe
      closedFs := by rw [h5, hsb.ids]; exact hj.closedFs
      openBytes := ?openBytes, closedBytes := ?closedBytes }
  case annFs =>
    intro a ha
    rw [f2] at ha
    simp at ha; subst ha
    rw [hsb.ids]
    exact hj.annFs _ hj.openId_mem
  case openBytes =>
    rw [h3, e1, f1, h4, hsb.data]
    have := hj.openBytes
    rw [hinf, hp] at this
    exact this
  case closedBytes =>
    intro c hc
    rw [h5] at hc
    rw [f1, hsb.data]
    have := hj.closedBytes c hc
    rw [hinf] at this
    exact this

theorem RInv.reopen {s s' : Store} {fs fs' : Fs} {w : Worker} {r : RefLog} (h : RInv s fs w r)
    (hsb : SameBytes fs fs')
    (hinf : ∀ id, w.inflight id = []) (hp : s.pending = [])
    (h1 : s'.st = s.st) (h2 : s'.log = s.log) (h3 : s'.openOffsets = s.openOffsets)
    (h4 : s'.pending = []) (h5 : s'.closed = s.closed) (pl : Option LogId) :
    RInv s' fs' { files := [⟨s.openId, pl⟩] } r :=
  ⟨h.j.reopen hsb hinf hp h1 h2 h3 h4 h5 pl, h.abs.of_fields h1 h2 h3,
    h.rep.transport h1 h2 h3 h5 (chunkBytes_reopen hsb hinf hp h3 h4 pl)⟩

theorem LInv.reopen {s s' : Store} {fs fs' : Fs} {w : Worker} (h : LInv s fs w)
    (hsb : SameBytes fs fs')
    (hrem : s.removed = []) (htr : w.toRemove = [])
    (h3 : s'.openOffsets = s.openOffsets) (h5 : s'.closed = s.closed) (h6 : s'.removed = [])
    (pl : Option LogId) : LInv s' fs' { files := [⟨s.openId, pl⟩] } := by
  have f3 := reopen_toRemove s.openId pl
  have e : s'.chunkIds = s.chunkIds := by
    rw [Store.chunkIds_eq, Store.chunkIds_eq, h5]; simp [Store.openId, h3]
  refine ⟨by rw [hsb.ids]; exact h.nodup, fun id hid => ?_, fun id hid => ?_, fun x hx => ?_⟩
  · rw [hsb.has]
    exact h.live id (e ▸ hid)
  · rw [hsb.has] at hid
    rcases h.dead id hid with k | k | k
    · exact Or.inl (by rw [e]; exact k)
    · rw [hrem] at k; cases k
    · rw [htr] at k; cases k
  · rw [h6, f3] at hx
    rcases hx with k | k <;> cases k

theorem syncAll_linkedIds_self {fs : Fs} (hn : (Fs.ids fs).Nodup)
    (hd : ∀ f ∈ fs, f.linked = true → f.durable = f.data.length) :
    fs.syncAll fs.linkedIds = fs := by
  apply Fs.syncAll_eq_self
  intro f hf hid
  apply hd f hf
  obtain ⟨g, hg, hgl⟩ := Fs.has_eq_true_iff.mp (((Fs.linkedIds_spec hn).2 f.id).mp hid)
  rw [← eq_of_nodup_ids hn (List.mem_of_find?_eq_some hg) hf (Fs.find_id hg)]
  exact hgl

theorem syncAll_linkedIds_durable {fs : Fs} (hn : (Fs.ids fs).Nodup) :
    ∀ f ∈ fs.syncAll fs.linkedIds, f.linked = true → f.durable = f.data.length := by
  intro f hf hl
  rw [Fs.syncAll_eq_map] at hf
  obtain ⟨f0, h0, e⟩ := List.mem_map.mp hf
  by_cases hc : fs.linkedIds.contains f0.id = true
  · rw [if_pos hc] at e; subst e; rfl
  · exfalso
    rw [if_neg hc] at e; subst e
    have hhas : fs.has f0.id = true := (Fs.has_iff hn f0.id).mpr ⟨f0, h0, hl, rfl⟩
    have := ((Fs.linkedIds_spec hn).2 f0.id).mpr hhas
    exact hc (by simpa using this)

theorem CSys.nodup {y : Sys} {r : RefLog} (h : CSys y r) : (Fs.ids y.fs).Nodup := by
  obtain ⟨_, ⟨s1, _, hli⟩⟩ := h
  exact hli.nodup

/-- The state in which a restart is clean: worker alive and blocked on an empty
queue, nothing pending, no removal outstanding in the store or the worker. -/
def Sys.Clean (y : Sys) : Prop :=
  ∃ s, y.store = some s ∧ y.worker.quiet = true ∧ s.pending = [] ∧ s.removed = [] ∧
    y.worker.postponed = []

/-- `Sys.Clean` as a computable check. -/
def Sys.cleanB (y : Sys) : Bool :=
  match y.store with
  | some s => y.worker.quiet && s.pending.isEmpty && s.removed.isEmpty && y.worker.postponed.isEmpty
  | none => false

theorem Sys.clean_of_cleanB {y : Sys} (h : y.cleanB = true) : y.Clean := by
  unfold Sys.cleanB at h
  cases hs : y.store with
  | none => rw [hs] at h; cases h
  | some s =>
    rw [hs] at h
    simp only [Bool.and_eq_true, List.isEmpty_iff] at h
    exact ⟨s, hs, h.1.1.1, h.1.1.2, h.1.2, h.2⟩

theorem Sys.Clean.idle {y : Sys} (hc : y.Clean) (hd : y.worker.pc ≠ .dead) :
    y.worker.pc = .idle ∧ y.worker.queue = [] ∧ y.worker.toRemove = [] := by
  obtain ⟨_, _, hq, _, _, hpost⟩ := hc
  obtain ⟨hpc, hqe⟩ := quiet_alive hq hd
  exact ⟨hpc, hqe, toRemove_of_quiet_C8s hq hd hpost⟩

structure CleanAt (y : Sys) (r : RefLog) (s : Store) : Prop where
  store : y.store = some s
  pending : s.pending = []
  removed : s.removed = []
  rinv : RInv s y.fs y.worker r
  linv : LInv s y.fs y.worker
  idle : y.worker.pc = .idle
  queue : y.worker.queue = []
  inflight : ∀ id, y.worker.inflight id = []
  toRemove : y.worker.toRemove = []
  linked : y.fs.linkedIds = s.chunkIds
  drop_fs : (y.step .drop).fs = y.fs
  drop_locked : (y.step .drop).locked = false

theorem CSys.quiescent {y : Sys} {r : RefLog} (h : CSys y r) (hc : y.Clean) : ∃ s, CleanAt y r s := by
  obtain ⟨⟨s, hs, hd, hinv⟩, ⟨s1, hs1, hli⟩⟩ := h
  rw [hs] at hs1; cases hs1
  obtain ⟨hpc, hqe, htr⟩ := hc.idle hd
  obtain ⟨s0, hs0, _, hp, hrem, _⟩ := hc
  rw [hs] at hs0; cases hs0
  obtain ⟨d1, d2⟩ := dropStore_quiet y s hs hpc hqe
  exact ⟨s,
    { store := hs, pending := hp, removed := hrem, rinv := hinv, linv := hli, idle := hpc, queue := hqe
      inflight := inflight_quiet hpc hqe, toRemove := htr
      linked := hli.linkedIds_eq hinv.j hrem htr, drop_fs := d1, drop_locked := d2 }⟩

theorem Sys.Clean.drop_fs {y : Sys} {r : RefLog} (hc : y.Clean) (h : CSys y r) :
    (y.step .drop).fs = y.fs :=
  let ⟨_, c⟩ := h.quiescent hc; c.drop_fs

theorem Sys.open_of_openStore {y : Sys} (hl : y.locked = false) {s' : Store} {w' : Worker} {fs' : Fs}
    {evs : List Ev} (ho : openStore y.cfg y.fs = (.ok (s', w'), fs', evs)) :
    y.open = (.ok (), { y with fs := fs', store := some s', worker := w', locked := true }, evs) := by
  rcases y.open_cases with ⟨h, _⟩ | ⟨_, _, _, _, _, h1, h2⟩ | ⟨_, _, _, _, h1, _⟩ | ⟨_, _, _, _, h1, _⟩
  · rw [hl] at h; cases h
  · cases ho.symm.trans h1; exact h2
  · cases ho.symm.trans h1
  · cases ho.symm.trans h1

theorem CleanAt.open_eq {y : Sys} {r : RefLog} {s : Store} (c : CleanAt y r s) {cfg' : Cfg} {s' : Store}
    {w' : Worker} {fs' : Fs} {evs : List Ev} (ho : openStore cfg' y.fs = (.ok (s', w'), fs', evs)) :
    ({ (y.step .drop) with cfg := cfg' } : Sys).open =
      (.ok (), { ({ (y.step .drop) with cfg := cfg' } : Sys) with
        fs := fs', store := some s', worker := w', locked := true }, evs) :=
  Sys.open_of_openStore (y := { (y.step .drop) with cfg := cfg' }) c.drop_locked
    (by rw [show ({ (y.step .drop) with cfg := cfg' } : Sys).fs = y.fs from c.drop_fs]; exact ho)

/-- Drop + open with configuration `cfg'` of a clean system with store `s`: the store `s'` that comes back. -/
structure Restarted (y : Sys) (cfg' : Cfg) (s s' : Store) : Prop extends ReopenedAs cfg' s s' where
  openStore_eq : openStore cfg' y.fs = (.ok (s', { files := [⟨s.openId, prevLastOf s.closed⟩] }),
    y.fs.syncAll y.fs.linkedIds, syncEvs y.fs.linkedIds)
  open_eq : ({ (y.step .drop) with cfg := cfg' } : Sys).open =
    (.ok (), { ({ (y.step .drop) with cfg := cfg' } : Sys) with
      fs := y.fs.syncAll y.fs.linkedIds, store := some s',
      worker := { files := [⟨s.openId, prevLastOf s.closed⟩] }, locked := true }, syncEvs y.fs.linkedIds)

theorem Restarted.sys {y : Sys} {cfg' : Cfg} {s s' : Store} (k : Restarted y cfg' s s') :
    (y.step .drop).step (.openWith cfg') =
      { ({ (y.step .drop) with cfg := cfg' } : Sys) with
        fs := y.fs.syncAll y.fs.linkedIds, store := some s',
        worker := { files := [⟨s.openId, prevLastOf s.closed⟩] }, locked := true } :=
  congrArg (·.2.1) k.open_eq

theorem restart_eq_LIFT {y : Sys} {r : RefLog} (h : CSys y r) (hc : y.Clean) (cfg' : Cfg) :
    ∃ s s', CleanAt y r s ∧ Restarted y cfg' s s' := by
  obtain ⟨s, c⟩ := h.quiescent hc
  obtain ⟨s', ho, k⟩ := openStore_of_rep cfg' c.rinv c.inflight c.pending c.linked
  rw [← c.linked] at ho
  exact ⟨s, s', c, k, ho, c.open_eq ho⟩

theorem restart_CSys {y : Sys} {r : RefLog} (h : CSys y r) (hc : y.Clean) (cfg' : Cfg) :
    CSys ((y.step .drop).step (.openWith cfg')) r := by
  obtain ⟨s, s', c, k⟩ := restart_eq_LIFT h hc cfg'
  rw [k.sys]
  exact ⟨⟨s', rfl, by simp,
      c.rinv.reopen (SameBytes.syncAll _ _) c.inflight c.pending k.st k.log k.openOffsets k.pending k.closed _⟩,
    ⟨s', rfl, c.linv.reopen (SameBytes.syncAll _ _) c.removed c.toRemove k.openOffsets k.closed k.removed _⟩⟩

/-- The limits of `cfg'` cover the `Append` records of the retained files, so nothing is evicted during the replay. -/
theorem restart_refines {y : Sys} {r : RefLog} {s s' : Store} {cfg' : Cfg} (c : CleanAt y r s)
    (k : Restarted y cfg' s s') (hN : (fileAppends y.fs).length ≤ cfg'.cacheItems)
    (hB : sumLen (fileAppends y.fs) ≤ cfg'.cacheCap) :
    Refines s' r ∧ s'.cache.items.length ≤ (fileAppends y.fs).length ∧
      s'.cache.size ≤ sumLen (fileAppends y.fs) := by
  obtain ⟨s'', ho', href⟩ := openStore_refines cfg' c.rinv c.inflight c.pending c.linked hN hB
  rw [← c.linked, k.openStore_eq] at ho'
  simp only [Prod.mk.injEq, Res.ok.injEq] at ho'
  rw [ho'.1.1]
  exact href

/-- A history segment, then drop, then open with the given configuration. -/
def Sys.runCycle (y : Sys) (seg : List Step × Cfg) : Sys :=
  ((y.run seg.1).step .drop).step (.openWith seg.2)

def Sys.runCycles (y : Sys) (segs : List (List Step × Cfg)) : Sys := segs.foldl Sys.runCycle y

/-- Every segment ends in a clean state with a live worker. -/
def CleanCycles : Sys → List (List Step × Cfg) → Prop
  | _, [] => True
  | y, seg :: rest =>
    (y.run seg.1).worker.pc ≠ .dead ∧ (y.run seg.1).Clean ∧ CleanCycles (y.runCycle seg) rest

instance (y : Sys) : Decidable y.Clean := by
  unfold Sys.Clean
  infer_instance

/-- `CleanCycles` of concrete segments is decided along the run itself: each segment's end
state is evaluated once and carried on to the next segment. -/
instance CleanCycles.decidable : ∀ (y : Sys) (segs : List (List Step × Cfg)), Decidable (CleanCycles y segs)
  | _, [] => isTrue trivial
  | y, seg :: rest =>
    have := CleanCycles.decidable (y.runCycle seg) rest
    inferInstanceAs (Decidable (_ ∧ _ ∧ _))

/-- All ops of the segments, in order. -/
def cycleOps : List (List Step × Cfg) → List Op
  | [] => []
  | seg :: rest => stepOps seg.1 ++ cycleOps rest

/-- `Q` goes from one cycle boundary to the next, across the segment's history (which keeps `CSys` and ends clean)
and the restart; `gr` as in `Sys.run_induction_ghost`; `R y seg` is whatever a cycle establishes besides. -/
theorem cycles_induct_ghost {G : Type} {Q : Sys → RefLog → G → Prop} {R : Sys → List Step × Cfg → Prop}
    {gr : G → RefLog → List Op → G → Prop} (gr_nil : ∀ {g g' r}, gr g r [] g' → g' = g)
    (gr_split : ∀ {g g' r r1 a b}, gr g r (a ++ b) g' → r.run a = some r1 → ∃ g1, gr g r a g1 ∧ gr g1 r1 b g')
    (hcycle : ∀ (y : Sys) (r r1 : RefLog) (g g1 : G) (seg : List Step × Cfg), CSys y r → Q y r g →
      (∀ st ∈ seg.1, st.journal = true) → r.run (stepOps seg.1) = some r1 →
      (∀ op ∈ stepOps seg.1, op.WF ∧ op.small) → gr g r (stepOps seg.1) g1 →
      (y.run seg.1).worker.pc ≠ .dead → CSys (y.run seg.1) r1 → (y.run seg.1).Clean →
      Q (y.runCycle seg) r1 g1 ∧ R y seg)
    (segs : List (List Step × Cfg)) : ∀ (y : Sys) (r r' : RefLog) (g g' : G), CSys y r → Q y r g →
    (∀ seg ∈ segs, ∀ st ∈ seg.1, st.journal = true) → r.run (cycleOps segs) = some r' →
    (∀ op ∈ cycleOps segs, op.WF ∧ op.small) → gr g r (cycleOps segs) g' → CleanCycles y segs →
    Q (y.runCycles segs) r' g' ∧ CSys (y.runCycles segs) r' ∧
      ∀ segs1 seg segs2, segs = segs1 ++ seg :: segs2 → R (y.runCycles segs1) seg := by
  induction segs with
  | nil =>
    intro y r r' g g' h hq _ hr _ hg _
    cases hr
    cases gr_nil hg
    exact ⟨hq, h, fun segs1 _ _ e => by cases segs1 <;> cases e⟩
  | cons seg rest ih =>
    intro y r r' g g' h hq hst hr hwf hg hclean
    obtain ⟨hnd, hc, hrest⟩ := hclean
    obtain ⟨r1, hr1, hr2⟩ := RefLog.run_append_some.mp hr
    obtain ⟨g1, hg1, hg2⟩ := gr_split hg hr1
    have hwf1 : ∀ op ∈ stepOps seg.1, op.WF ∧ op.small := fun op hop => hwf op (List.mem_append_left _ hop)
    have h1 : CSys (y.run seg.1) r1 := run_CSys seg.1 y r r1 h (hst seg List.mem_cons_self) hr1 hwf1 hnd
    obtain ⟨hq1, hR⟩ := hcycle y r r1 g g1 seg h hq (hst seg List.mem_cons_self) hr1 hwf1 hg1 hnd h1 hc
    obtain ⟨k1, k2, k3⟩ := ih (y.runCycle seg) r1 r' g1 g' (restart_CSys h1 hc seg.2) hq1
      (fun sg hsg => hst sg (List.mem_cons_of_mem _ hsg)) hr2
      (fun op hop => hwf op (List.mem_append_right _ hop)) hg2 hrest
    refine ⟨k1, k2, fun segs1 sg segs2 e => ?_⟩
    cases segs1 with
    | nil => cases e; exact hR
    | cons s1 segs1' =>
      obtain ⟨rfl, e'⟩ := List.cons.inj e
      exact k3 segs1' sg segs2 e'

theorem cycles_induct_ref {Q : Sys → RefLog → Prop}
    (hcycle : ∀ (y : Sys) (r r1 : RefLog) (seg : List Step × Cfg), CSys y r → Q y r →
      (∀ st ∈ seg.1, st.journal = true) → r.run (stepOps seg.1) = some r1 →
      (∀ op ∈ stepOps seg.1, op.WF ∧ op.small) → (y.run seg.1).worker.pc ≠ .dead →
      CSys (y.run seg.1) r1 → (y.run seg.1).Clean → Q (y.runCycle seg) r1)
    (segs : List (List Step × Cfg)) : ∀ (y : Sys) (r r' : RefLog), CSys y r → Q y r →
    (∀ seg ∈ segs, ∀ st ∈ seg.1, st.journal = true) → r.run (cycleOps segs) = some r' →
    (∀ op ∈ cycleOps segs, op.WF ∧ op.small) → CleanCycles y segs →
    Q (y.runCycles segs) r' ∧ CSys (y.runCycles segs) r' :=
  fun y r r' h hq hst hr hwf hclean =>
    have k := cycles_induct_ghost (G := Unit) (Q := fun y r _ => Q y r) (R := fun _ _ => True)
      (gr := fun _ _ _ _ => True) (fun _ => rfl) (fun _ _ => ⟨(), trivial, trivial⟩)
      (fun y r r1 _ _ seg h hq hst hr hwf _ hnd h1 hc => ⟨hcycle y r r1 seg h hq hst hr hwf hnd h1 hc, trivial⟩)
      segs y r r' () () h hq hst hr hwf trivial hclean
    ⟨k.1, k.2.1⟩

/-- The case of a `Q` that every clean restart establishes. -/
theorem cycles_induct {Q : Sys → Prop}
    (hQ : ∀ (y : Sys) (r : RefLog) (cfg' : Cfg), CSys y r → y.Clean →
      Q ((y.step .drop).step (.openWith cfg')))
    (segs : List (List Step × Cfg)) : ∀ (y : Sys) (r r' : RefLog), CSys y r → Q y →
    (∀ seg ∈ segs, ∀ st ∈ seg.1, st.journal = true) → r.run (cycleOps segs) = some r' →
    (∀ op ∈ cycleOps segs, op.WF ∧ op.small) → CleanCycles y segs →
    Q (y.runCycles segs) ∧ CSys (y.runCycles segs) r' :=
  cycles_induct_ref (Q := fun y _ => Q y) (fun _ _ r1 seg _ _ _ _ _ _ h1 hc => hQ _ r1 seg.2 h1 hc) segs

theorem cycles_CSys (segs : List (List Step × Cfg)) : ∀ (y : Sys) (r r' : RefLog), CSys y r →
    (∀ seg ∈ segs, ∀ st ∈ seg.1, st.journal = true) → r.run (cycleOps segs) = some r' →
    (∀ op ∈ cycleOps segs, op.WF ∧ op.small) → CleanCycles y segs →
    CSys (y.runCycles segs) r' :=
  fun y r r' h hst hr hwf hclean =>
    (cycles_induct (Q := fun _ => True) (fun _ _ _ _ _ => trivial) segs y r r' h trivial hst hr hwf
      hclean).2

end RaftLog
