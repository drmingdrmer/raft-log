/-
C03: the queue-consistency invariant `WU` under every worker step that leaves the
worker alive. `WUA` is `WU` with the worker's newest file, bytes still to write,
batch and remaining requests as separate arguments; `WView.wu` reads them off the view, and the
invariant is kept by every action and every quiet move (`Proofs/WorkerView`).
-/
import RaftLogModel.Proofs.CrashDur
namespace RaftLog

structure WUA (fs : Fs) (cur tbl : Nat) (bw rest : List WReq) : Prop where
  a1 : uptoOK fs cur ((fdata fs cur).length + tbl) rest
  a2 : ∀ r ∈ bw, r.upto ≤ cur + (fdata fs cur).length + tbl
  a3 : ∀ i ∈ Fs.ids fs, cur < i → i ∈ annIds rest

theorem WU.abs {fs : Fs} {w : Worker} (h : WU fs w) :
    WUA fs w.cur w.pc.todoBytes.length w.pc.batchW w.rest := ⟨h.u1, h.u2, h.u3⟩

theorem WUA.wu {fs : Fs} {w : Worker} (h : WUA fs w.cur w.pc.todoBytes.length w.pc.batchW w.rest) :
    WU fs w := ⟨h.a1, h.a2, h.a3⟩

theorem WUA.noBatch {fs : Fs} {cur tbl : Nat} {bw rest : List WReq} (h : WUA fs cur tbl bw rest) :
    WUA fs cur tbl [] rest := ⟨h.a1, fun r hr => (by cases hr), h.a3⟩

theorem WUA.congr_fs {fs fs' : Fs} {cur tbl tbl' : Nat} {bw rest : List WReq}
    (h : WUA fs cur tbl bw rest) (hids : Fs.ids fs' = Fs.ids fs)
    (hcur : (fdata fs' cur).length + tbl' = (fdata fs cur).length + tbl)
    (hother : ∀ n ∈ annIds rest, (fdata fs' n).length = (fdata fs n).length) :
    WUA fs' cur tbl' bw rest := by
  refine ⟨?_, ?_, ?_⟩
  · rw [hcur, uptoOK_congr rest cur _ hother]; exact h.a1
  · intro r hr; have := h.a2 r hr; omega
  · rw [hids]; exact h.a3

theorem fdata_write_len_C3 (fs : Fs) (cur : Nat) (d : Bytes) (h : cur ∈ Fs.ids fs) (n : Nat) :
    (fdata (fs.write cur d) n).length = (fdata fs n).length + (if cur = n then d.length else 0) := by
  rw [fdata_write _ _ _ _ h]
  by_cases e : cur = n <;> simp [e]

theorem incr_not_mem_C3 {cur : Nat} {l : List Nat} (h : Incr (cur :: l)) : ∀ n ∈ l, cur ≠ n := by
  intro n hn e
  simp only [Incr, List.pairwise_cons] at h
  have := h.1 n hn
  omega

theorem WUA.write {fs : Fs} {cur tbl tbl' : Nat} {bw rest : List WReq} (h : WUA fs cur tbl bw rest)
    (d : Bytes) (hcur : cur ∈ Fs.ids fs) (hinc : Incr (cur :: annIds rest)) (htbl : d.length + tbl' = tbl) :
    WUA (fs.write cur d) cur tbl' bw rest :=
  h.congr_fs (Fs.ids_write _ _ _) (by rw [fdata_write_len_C3 _ _ _ hcur, if_pos rfl]; omega)
    (fun n hn => by rw [fdata_write_len_C3 _ _ _ hcur, if_neg (incr_not_mem_C3 hinc n hn)]; rfl)

theorem WUA.sync {fs : Fs} {cur tbl : Nat} {bw rest : List WReq} (h : WUA fs cur tbl bw rest) (id : Nat) :
    WUA (fs.sync id) cur tbl bw rest :=
  h.congr_fs (Fs.ids_sync _ _) (by rw [fdata_sync]) (fun n _ => by rw [fdata_sync])

theorem WUA.unlink {fs : Fs} {cur tbl : Nat} {bw rest : List WReq} (h : WUA fs cur tbl bw rest) (i : Nat) :
    WUA (fs.unlink i) cur tbl bw rest :=
  h.congr_fs (Fs.ids_unlink _ _) (by rw [fdata_unlink]) (fun n _ => by rw [fdata_unlink])

theorem WUA.appendFile {fs : Fs} {cur n : Nat} {p : Option LogId} {q : List WReq}
    (h : WUA fs cur 0 [] (.appendFile n p :: q)) (hinc : Incr (cur :: n :: annIds q)) :
    WUA fs n 0 [] q := by
  have h1 := h.a1
  simp only [uptoOK, Nat.add_zero] at h1
  simp only [Incr, List.pairwise_cons] at hinc
  have hlt : cur < n := hinc.1 n List.mem_cons_self
  refine ⟨by simpa using h1.2, fun r hr => (by cases hr), fun i hi hni => ?_⟩
  have := h.a3 i hi (by omega)
  simp only [annIds, List.mem_cons] at this
  rcases this with e' | e'
  · omega
  · exact e'

def WView.wu (v : WView) (fs : Fs) : Prop := WUA fs (newestId v.files) v.tb.length v.bw v.rest

theorem WView.Prim.wu {a b : WView} (h : Prim a b) {fs : Fs} (hinc : Incr a.announced) (hu : a.wu fs) :
    b.wu fs := by
  cases h with
  | batch b R h1 h2 hr hb =>
    have hu : WUA fs (newestId a.files) 0 [] (b ++ R) := by simpa [WView.wu, h1, h2, hr] using hu
    obtain ⟨k1, k2⟩ := uptoOK_writes fs _ _ hb _ _ hu.a1
    exact ⟨k1, fun x hx => (by have := k2 x hx; omega), by simpa [annIds_writes _ _ hb] using hu.a3⟩
  | ack ok => exact WUA.noBatch hu
  | append n p q h1 h2 hr =>
    have hu : WUA fs (newestId a.files) 0 [] (.appendFile n p :: q) := by simpa [WView.wu, h1, h2, hr] using hu
    simpa [WView.wu, h1, h2, newestId_append] using hu.appendFile (by simpa [WView.announced, hr, annIds] using hinc)
  | remove ids q _ hr =>
    -- `uptoOK` and `annIds` skip a `removeChunks`: the same three facts, read at the shorter queue
    have hu : WUA fs (newestId a.files) a.tb.length a.bw (.removeChunks ids :: q) := by simpa [WView.wu, hr] using hu
    simpa [WView.wu] using (⟨hu.a1, hu.a2, hu.a3⟩ : WUA fs (newestId a.files) a.tb.length a.bw q)
  | retry => simpa [WView.wu] using hu

theorem VAct.wu {v v1 : WView} {fs fs1 : Fs} (h : VAct v fs v1 fs1) (hcur : newestId v.files ∈ Fs.ids fs)
    (hinc : Incr v.announced) (hu : v.wu fs) : v1.wu fs1 := by
  cases h with
  | none => exact hu
  | write bs tb' h1 => exact WUA.write hu bs hcur hinc (by simp [h1])
  | syncOld f rest hf hne =>
    rw [WView.wu, hf, newestId_cons f hne] at hu
    exact hu.sync f.id
  | syncNew f rest _ => exact WUA.sync hu f.id
  | unlink i rest _ => exact WUA.unlink hu i

theorem WView.Quiet.wu {a b : WView} (h : Quiet a b) {fs : Fs} (hinc : Incr a.announced) (hu : a.wu fs) :
    b.wu fs := by
  induction h with
  | refl => exact hu
  | step p _ ih => exact ih (hinc.sublist (p.good fs).2.sublist) (p.wu hinc hu)

theorem WCtx.VStep.wu {c c' : WCtx} (h : c.VStep c') (hcur : c.w.cur ∈ Fs.ids c.fs) (hinc : Incr c.w.announced)
    (hu : WU c.fs c.w) : WU c'.fs c'.w := by
  obtain ⟨v1, ha, hq⟩ := h
  exact WUA.wu (hq.wu (hinc.sublist (ha.good hcur).2.sublist) (ha.wu hcur hinc hu.abs))

theorem WCtx.step_wu (c : WCtx) (out : Outcome) (hwu : WU c.fs c.w) (hok : c.w.pc.ok c.w.files)
    (hinc : Incr c.w.announced) (hcur : c.w.cur ∈ Fs.ids c.fs)
    (hnd : (c.step out).w.pc ≠ .dead) : WU (c.step out).fs (c.step out).w :=
  (c.step_view_alive out hok hnd).wu hcur hinc hwu

end RaftLog
