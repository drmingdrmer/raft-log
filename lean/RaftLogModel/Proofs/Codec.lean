/-
The record codec (`Model/Codec.lean`) round-trips: a decoder and its encoder are a `Good` pair
(round trip with any rest, canonicity, every strict prefix reads as `eof`), built up from the
fixed-width integers through pairs, options and the record kinds to `decRecord`.
-/
import RaftLogModel.Model.Codec
namespace RaftLog

theorem beToNat_append_single (xs : Bytes) (b : UInt8) :
    beToNat (xs ++ [b]) = beToNat xs * 256 + b.toNat := by
  simp [beToNat, List.foldl_append]

@[simp] theorem natToBE_length (w n : Nat) : (natToBE w n).length = w := by
  induction w generalizing n with
  | zero => rfl
  | succ w ih => simp [natToBE, ih]

theorem beToNat_natToBE (w n : Nat) : beToNat (natToBE w n) = n % 256 ^ w := by
  induction w generalizing n with
  | zero => simp [natToBE, beToNat, Nat.mod_one]
  | succ w ih =>
    have hb : (UInt8.ofNat (n % 256)).toNat = n % 256 := by simp [UInt8.toNat_ofNat']
    rw [natToBE, beToNat_append_single, ih, hb, Nat.pow_succ, Nat.mul_comm (256 ^ w), Nat.mod_mul]
    omega

/-- Induction from the right end of a list (core has no `reverseRecOn`). -/
theorem list_rev_induction {α} {P : List α → Prop} (nil : P [])
    (snoc : ∀ xs x, P xs → P (xs ++ [x])) (l : List α) : P l := by
  rw [← List.reverse_reverse l]
  induction l.reverse with
  | nil => exact nil
  | cons x xs ih => rw [List.reverse_cons]; exact snoc _ _ ih

theorem beToNat_lt (bs : Bytes) : beToNat bs < 256 ^ bs.length := by
  induction bs using list_rev_induction with
  | nil => simp [beToNat]
  | snoc xs b ih =>
    have hb := b.toNat_lt
    rw [beToNat_append_single, List.length_append, List.length_singleton, Nat.pow_succ]
    omega

theorem natToBE_beToNat (bs : Bytes) : natToBE bs.length (beToNat bs) = bs := by
  induction bs using list_rev_induction with
  | nil => rfl
  | snoc xs b ih =>
    have hb := b.toNat_lt
    have h1 : (beToNat xs * 256 + b.toNat) / 256 = beToNat xs := by omega
    have h2 : (beToNat xs * 256 + b.toNat) % 256 = b.toNat := by omega
    rw [List.length_append, List.length_singleton, natToBE, beToNat_append_single, h1, h2, ih,
      UInt8.ofNat_toNat]

@[simp] theorem DecRes.bind_ok {α β} (a : α) (r : Bytes) (f : α → Bytes → DecRes β) :
    (DecRes.ok a r).bind f = f a r := rfl
@[simp] theorem DecRes.bind_eof {α β} (f : α → Bytes → DecRes β) :
    (DecRes.eof : DecRes α).bind f = .eof := rfl
@[simp] theorem DecRes.bind_invalid {α β} (f : α → Bytes → DecRes β) :
    (DecRes.invalid : DecRes α).bind f = .invalid := rfl

theorem DecRes.bind_assoc {α β γ} (x : DecRes α) (f : α → Bytes → DecRes β)
    (g : β → Bytes → DecRes γ) :
    (x.bind f).bind g = x.bind fun a r => (f a r).bind g := by
  cases x <;> rfl

theorem DecRes.bind_eq_ok {α β} {x : DecRes α} {f : α → Bytes → DecRes β} {b : β} {r : Bytes}
    (h : x.bind f = .ok b r) : ∃ a r', x = .ok a r' ∧ f a r' = .ok b r := by
  cases x with
  | ok a r' => exact ⟨a, r', rfl, h⟩
  | eof => cases h
  | invalid => cases h

theorem decU_enc (w n : Nat) (rest : Bytes) (h : n < 256 ^ w) :
    decU w (natToBE w n ++ rest) = .ok n rest := by
  have hl : ¬ (natToBE w n ++ rest).length < w := by simp
  rw [decU, if_neg hl, List.take_left' (natToBE_length w n), List.drop_left' (natToBE_length w n),
    beToNat_natToBE, Nat.mod_eq_of_lt h]

theorem decU_ok {w : Nat} {bs : Bytes} {n : Nat} {rest : Bytes}
    (h : decU w bs = .ok n rest) : bs = natToBE w n ++ rest ∧ n < 256 ^ w := by
  unfold decU at h
  split at h
  · cases h
  · cases h
    have hlen : (bs.take w).length = w := by rw [List.length_take]; omega
    have h1 := natToBE_beToNat (bs.take w)
    have h2 := beToNat_lt (bs.take w)
    rw [hlen] at h1 h2
    exact ⟨by rw [h1, List.take_append_drop], h2⟩

theorem decU_short {w : Nat} {bs : Bytes} (h : bs.length < w) : decU w bs = .eof :=
  if_pos h

theorem decU_ok_length {w : Nat} {bs : Bytes} {n : Nat} {rest : Bytes}
    (h : decU w bs = .ok n rest) : bs.length = w + rest.length := by
  rw [(decU_ok h).1, List.length_append, natToBE_length]

/-- `dec (enc a ++ rest) = ok a rest` on `wf` values; whatever `dec` accepts is such an encoding
followed by the rest; a strict prefix of an encoding reads as `eof`. -/
structure Good {α : Type} (enc : α → Bytes) (dec : Bytes → DecRes α) (wf : α → Prop) : Prop where
  rt : ∀ a rest, wf a → dec (enc a ++ rest) = .ok a rest
  canon : ∀ bs a rest, dec bs = .ok a rest → bs = enc a ++ rest ∧ wf a
  pfx : ∀ a bs t, wf a → t ≠ [] → bs ++ t = enc a → dec bs = .eof

theorem Good.congr {α} {enc : α → Bytes} {dec dec' wf wf'} (g : Good enc dec wf)
    (hd : ∀ bs, dec' bs = dec bs) (hw : ∀ a, wf' a ↔ wf a) : Good enc dec' wf' where
  rt := fun a rest h => (hd _).trans (g.rt a rest ((hw a).1 h))
  canon := fun bs a rest h => (g.canon bs a rest ((hd bs).symm.trans h)).imp_right (hw a).2
  pfx := fun a bs t h ht e => (hd bs).trans (g.pfx a bs t ((hw a).1 h) ht e)

theorem split_prefix {bs t ea eb : Bytes} (h : bs ++ t = ea ++ eb) :
    (∃ t', t' ≠ [] ∧ bs ++ t' = ea) ∨ (∃ bs', bs = ea ++ bs' ∧ bs' ++ t = eb) := by
  rcases List.append_eq_append_iff.mp h with ⟨a', h1, h2⟩ | ⟨c', h1, h2⟩
  · by_cases ha : a' = []
    · subst ha
      exact .inr ⟨[], by simpa using h1.symm, by simpa using h2⟩
    · exact .inl ⟨a', ha, h1.symm⟩
  · exact .inr ⟨c', h1, h2.symm⟩

theorem good_U (w : Nat) : Good (natToBE w) (decU w) (fun n => n < 256 ^ w) where
  rt := fun a rest h => decU_enc w a rest h
  canon := fun _ _ _ h => decU_ok h
  pfx := by
    intro a bs t _ ht h
    have hl := congrArg List.length h
    have := List.length_pos_iff.mpr ht
    rw [List.length_append, natToBE_length] at hl
    exact decU_short (by omega)

/-- Two good codecs in sequence, for any type `γ` whose well-formed values are the pairs
`mk a b`. -/
theorem good_pair {α β γ : Type} {ea : α → Bytes} {da wa} {eb : β → Bytes} {db wb}
    (ga : Good ea da wa) (gb : Good eb db wb) (mk : α → β → γ) {enc : γ → Bytes} {wf : γ → Prop}
    (henc : ∀ a b, enc (mk a b) = ea a ++ eb b) (hwf : ∀ a b, wf (mk a b) ↔ wa a ∧ wb b)
    (hsurj : ∀ c, wf c → ∃ a b, c = mk a b) :
    Good enc (fun bs => (da bs).bind fun a r => (db r).bind fun b r' => .ok (mk a b) r') wf where
  rt := by
    intro c rest h
    obtain ⟨a, b, rfl⟩ := hsurj c h
    obtain ⟨h1, h2⟩ := (hwf a b).1 h
    simp only [henc, List.append_assoc, ga.rt _ _ h1, gb.rt _ _ h2, DecRes.bind_ok]
  canon := by
    intro bs c rest h
    obtain ⟨a, r, hda, h⟩ := DecRes.bind_eq_ok h
    obtain ⟨b, r', hdb, h⟩ := DecRes.bind_eq_ok h
    cases h
    obtain ⟨e1, w1⟩ := ga.canon _ _ _ hda
    obtain ⟨e2, w2⟩ := gb.canon _ _ _ hdb
    exact ⟨by rw [e1, e2, henc, List.append_assoc], (hwf a b).2 ⟨w1, w2⟩⟩
  pfx := by
    intro c bs t h ht e
    obtain ⟨a, b, rfl⟩ := hsurj c h
    obtain ⟨h1, h2⟩ := (hwf a b).1 h
    rw [henc] at e
    rcases split_prefix e with ⟨t', ht', e'⟩ | ⟨bs', rfl, e2⟩
    · simp only [ga.pfx _ _ _ h1 ht' e', DecRes.bind_eof]
    · simp only [ga.rt _ _ h1, gb.pfx _ _ _ h2 ht e2, DecRes.bind_ok, DecRes.bind_eof]

/-- A good codec seen through a constructor `f`, for any type `γ` whose well-formed values
are the `f a`. -/
theorem good_map {α γ : Type} {ea : α → Bytes} {da wa} (g : Good ea da wa) (f : α → γ)
    {enc : γ → Bytes} {wf : γ → Prop} (henc : ∀ a, enc (f a) = ea a) (hwf : ∀ a, wf (f a) ↔ wa a)
    (hsurj : ∀ c, wf c → ∃ a, c = f a) :
    Good enc (fun bs => (da bs).bind fun a r => .ok (f a) r) wf where
  rt := by
    intro c rest h
    obtain ⟨a, rfl⟩ := hsurj c h
    simp only [henc, g.rt _ _ ((hwf a).1 h), DecRes.bind_ok]
  canon := by
    intro bs c rest h
    obtain ⟨a, r, hd, h⟩ := DecRes.bind_eq_ok h
    cases h
    obtain ⟨e, w⟩ := g.canon _ _ _ hd
    exact ⟨by rw [e, henc], (hwf a).2 w⟩
  pfx := by
    intro c bs t h ht e
    obtain ⟨a, rfl⟩ := hsurj c h
    rw [henc] at e
    simp only [g.pfx _ _ _ ((hwf a).1 h) ht e, DecRes.bind_eof]

theorem pow_256_8 : 256 ^ 8 = U64 := by decide
theorem pow_256_4 : 256 ^ 4 = U32 := by decide

theorem good_logId : Good encLogId decLogId LogId.WF :=
  good_pair (good_U 8) (good_U 8) LogId.mk (fun _ _ => rfl)
    (fun _ _ => by rw [pow_256_8]; rfl) (fun c _ => ⟨c.term, c.index, rfl⟩)

theorem good_bytes : Good encBytes decBytes bytesWF where
  rt := by
    intro p rest h
    have hl : ¬ (p ++ rest).length < p.length := by simp
    rw [encBytes, decBytes, List.append_assoc, decU_enc 4 _ _ (pow_256_4 ▸ h), DecRes.bind_ok,
      if_neg hl, List.take_left' rfl, List.drop_left' rfl]
  canon := by
    intro bs p rest h
    obtain ⟨n, r, hd, h⟩ := DecRes.bind_eq_ok h
    obtain ⟨e, hn⟩ := decU_ok hd
    split at h
    · cases h
    · cases h
      have hlen : (r.take n).length = n := by rw [List.length_take]; omega
      exact ⟨by rw [encBytes, hlen, List.append_assoc, List.take_append_drop, e],
        by rw [bytesWF, hlen, ← pow_256_4]; exact hn⟩
  pfx := by
    intro p bs t h ht e
    have h' : p.length < 256 ^ 4 := pow_256_4 ▸ h
    rcases split_prefix e with ⟨t', ht', e'⟩ | ⟨bs', rfl, e2⟩
    · rw [decBytes, (good_U 4).pfx _ _ _ h' ht' e', DecRes.bind_eof]
    · have hl := congrArg List.length e2
      have := List.length_pos_iff.mpr ht
      rw [List.length_append] at hl
      rw [decBytes, decU_enc 4 _ _ h', DecRes.bind_ok, if_pos (by omega)]

def optWFg {α} (wf : α → Prop) : Option α → Prop
  | none => True
  | some a => wf a

theorem good_opt {α} {enc : α → Bytes} {dec wf} (g : Good enc dec wf) :
    Good (encOpt enc) (decOpt dec) (optWFg wf) where
  rt := by
    intro o rest h
    cases o with
    | none => rfl
    | some a => simp [encOpt, decOpt, g.rt a rest h]
  canon := by
    intro bs o rest h
    cases bs with
    | nil => cases h
    | cons t r =>
      rw [decOpt] at h
      split at h
      · cases h
        exact ⟨by rw [‹t = 0›]; rfl, trivial⟩
      · split at h
        · obtain ⟨a, r', hd, h⟩ := DecRes.bind_eq_ok h
          cases h
          obtain ⟨e, w⟩ := g.canon _ _ _ hd
          exact ⟨by rw [‹t = 1›, e]; rfl, w⟩
        · cases h
  pfx := by
    intro o bs t h ht e
    cases bs with
    | nil => rfl
    | cons b bs' =>
      cases o with
      | none =>
        have hl := congrArg List.length e
        have := List.length_pos_iff.mpr ht
        simp only [encOpt, List.length_append, List.length_cons, List.length_nil] at hl
        omega
      | some a =>
        obtain ⟨rfl, e'⟩ := List.cons.inj e
        simp [decOpt, g.pfx a bs' t h ht e']

theorem optWFg_logId (o : Option LogId) : optWFg LogId.WF o ↔ optWF o := by
  cases o <;> rfl

/-- A constant leading byte (the `RaftLogState` version byte). -/
def decConst {α} (c : UInt8) (dec : Bytes → DecRes α) : Bytes → DecRes α
  | [] => .eof
  | v :: r => if v = c then dec r else .invalid

theorem good_const {α} {enc : α → Bytes} {dec wf} (g : Good enc dec wf) (c : UInt8) :
    Good (fun a => c :: enc a) (decConst c dec) wf where
  rt := by intro a rest h; simp [decConst, g.rt a rest h]
  canon := by
    intro bs a rest h
    cases bs with
    | nil => cases h
    | cons v r =>
      rw [decConst] at h
      split at h
      · obtain ⟨e, w⟩ := g.canon _ _ _ h
        exact ⟨by rw [‹v = c›, e]; rfl, w⟩
      · cases h
  pfx := by
    intro a bs t h ht e
    cases bs with
    | nil => rfl
    | cons b bs' =>
      obtain ⟨rfl, e'⟩ := List.cons.inj e
      simp [decConst, g.pfx a bs' t h ht e']

theorem good_prod {α β : Type} {ea : α → Bytes} {da wa} {eb : β → Bytes} {db wb}
    (ga : Good ea da wa) (gb : Good eb db wb) :
    Good (fun x : α × β => ea x.1 ++ eb x.2)
      (fun bs => (da bs).bind fun a r => (db r).bind fun b r' => .ok (a, b) r')
      (fun x => wa x.1 ∧ wb x.2) :=
  good_pair ga gb Prod.mk (fun _ _ => rfl) (fun _ _ => Iff.rfl) (fun c _ => ⟨c.1, c.2, rfl⟩)

theorem stateWF_iff (s : RState) :
    (optWFg LogId.WF s.vote ∧ optWFg LogId.WF s.last ∧ optWFg LogId.WF s.committed ∧
      optWFg LogId.WF s.purged ∧ optWFg bytesWF s.userData) ↔ s.WF := by
  unfold RState.WF
  simp only [optWFg_logId]
  cases s.userData <;> rfl

/-- The five optional fields as a nested pair, mapped to `RState`, behind the version byte. The nested-pair
decoder and `decState` agree only up to `DecRes.bind_assoc`: hence the closing `Good.congr`. -/
theorem good_state : Good encState decState RState.WF := by
  have gl := good_opt good_logId
  have g := good_map
    (good_const (good_prod gl (good_prod gl (good_prod gl (good_prod gl (good_opt good_bytes))))) 1)
    (fun x => (⟨x.1, x.2.1, x.2.2.1, x.2.2.2.1, x.2.2.2.2⟩ : RState)) (enc := encState)
    (wf := RState.WF) (fun _ => by simp [encState]) (fun _ => (stateWF_iff _).symm)
    (fun s _ => ⟨(s.vote, s.last, s.committed, s.purged, s.userData), rfl⟩)
  refine g.congr (fun bs => ?_) (fun _ => Iff.rfl)
  cases bs with
  | nil => rfl
  | cons v r =>
    simp only [decState, decConst]
    split
    · simp only [DecRes.bind_assoc, DecRes.bind_ok]
    · rfl

theorem good_optLogId : Good (encOpt encLogId) (decOpt decLogId) optWF :=
  (good_opt good_logId).congr (fun _ => rfl) (fun o => (optWFg_logId o).symm)

theorem good_body : (t : Nat) → Good encBody (decBody t) (fun r => r.tag = t ∧ r.WF)
  | 0 => good_map good_logId Record.saveVote (fun _ => rfl)
      (fun _ => by simp [Record.tag, Record.WF]) (fun r h => by cases r <;> simp [Record.tag] at h ⊢)
  | 1 => good_pair good_logId good_bytes Record.append (fun _ _ => rfl)
      (fun _ _ => by simp [Record.tag, Record.WF]) (fun r h => by cases r <;> simp [Record.tag] at h ⊢)
  | 2 => good_map good_logId Record.commit (fun _ => rfl)
      (fun _ => by simp [Record.tag, Record.WF]) (fun r h => by cases r <;> simp [Record.tag] at h ⊢)
  | 3 => good_map good_optLogId Record.truncateAfter (fun _ => rfl)
      (fun _ => by simp [Record.tag, Record.WF]) (fun r h => by cases r <;> simp [Record.tag] at h ⊢)
  | 4 => good_map good_logId Record.purgeUpto (fun _ => rfl)
      (fun _ => by simp [Record.tag, Record.WF]) (fun r h => by cases r <;> simp [Record.tag] at h ⊢)
  | 5 => good_map good_state Record.state (fun _ => rfl)
      (fun _ => by simp [Record.tag, Record.WF]) (fun r h => by cases r <;> simp [Record.tag] at h ⊢)
  | k + 6 => by
    have hk : ∀ r : Record, ¬ (r.tag = k + 6 ∧ r.WF) := by
      intro r h; cases r <;> simp [Record.tag] at h
    exact ⟨fun r _ h => (hk r h).elim, fun _ _ _ h => (by cases h), fun r _ _ h => (hk r h).elim⟩

theorem body_rt (r : Record) (rest : Bytes) (h : r.WF) :
    decBody r.tag (encBody r ++ rest) = .ok r rest :=
  (good_body r.tag).rt r rest ⟨rfl, h⟩

theorem body_canon {tag : Nat} {bs : Bytes} {r : Record} {rest : Bytes}
    (h : decBody tag bs = .ok r rest) : bs = encBody r ++ rest ∧ r.WF ∧ r.tag = tag :=
  let ⟨e, ht, w⟩ := (good_body tag).canon bs r rest h
  ⟨e, w, ht⟩

theorem body_pfx (r : Record) (bs t : Bytes) (h : r.WF) (ht : t ≠ [])
    (e : bs ++ t = encBody r) : decBody r.tag bs = .eof :=
  (good_body r.tag).pfx r bs t ⟨rfl, h⟩ ht e

theorem Record.tag_lt (r : Record) : r.tag < 256 ^ 4 := by
  cases r <;> simp [Record.tag]

theorem crc32_lt (bs : Bytes) : crc32 bs < 256 ^ 8 := by
  have := (crcFeed 0xFFFFFFFF#32 bs ^^^ 0xFFFFFFFF#32).isLt
  have h : (2:Nat) ^ 32 ≤ 256 ^ 8 := by decide
  unfold crc32
  omega

/-- tag ‖ body. -/
def encTB (r : Record) : Bytes := natToBE 4 r.tag ++ encBody r

theorem encRecord_eq (r : Record) : encRecord r = encTB r ++ natToBE 8 (crc32 (encTB r)) := rfl

theorem decRecord_frame (r : Record) (h : r.WF) (sum : Nat) (hs : sum < 256 ^ 8) (rest : Bytes) :
    decRecord (encTB r ++ natToBE 8 sum ++ rest)
      = if sum = crc32 (encTB r) then .ok r rest else .invalid := by
  have e1 : encTB r ++ natToBE 8 sum ++ rest
      = natToBE 4 r.tag ++ (encBody r ++ (natToBE 8 sum ++ rest)) := by
    simp [encTB]
  have e2 : (encTB r ++ natToBE 8 sum ++ rest).take
      ((encTB r ++ natToBE 8 sum ++ rest).length - (natToBE 8 sum ++ rest).length) = encTB r := by
    rw [List.append_assoc]
    exact List.take_left' (by simp)
  rw [decRecord]
  simp only [e1, decU_enc 4 r.tag _ r.tag_lt, DecRes.bind_ok, body_rt r _ h, decU_enc 8 _ _ hs]
  rw [← e1, e2]

theorem record_rt (r : Record) (rest : Bytes) (h : r.WF) :
    decRecord (encRecord r ++ rest) = .ok r rest := by
  rw [encRecord_eq, decRecord_frame r h _ (crc32_lt _), if_pos rfl]

theorem record_canon {bs : Bytes} {r : Record} {rest : Bytes}
    (h : decRecord bs = .ok r rest) : bs = encRecord r ++ rest ∧ r.WF := by
  obtain ⟨tag, r0, h4, h⟩ := DecRes.bind_eq_ok h
  obtain ⟨rec, r1, hb, h⟩ := DecRes.bind_eq_ok h
  obtain ⟨sum, r2, h8, h⟩ := DecRes.bind_eq_ok h
  split at h
  · rename_i hsum
    cases h
    obtain ⟨e4, _⟩ := decU_ok h4
    obtain ⟨eb, wf, rfl⟩ := body_canon hb
    obtain ⟨e8, _⟩ := decU_ok h8
    have hbs : bs = encTB r ++ r1 := by rw [e4, eb, encTB, List.append_assoc]
    have hcons : bs.take (bs.length - r1.length) = encTB r := by
      rw [hbs]; exact List.take_left' (by simp)
    rw [hcons] at hsum
    exact ⟨by rw [encRecord_eq, ← hsum, hbs, e8, List.append_assoc], wf⟩
  · cases h

theorem decRecord_frame_pfx (r : Record) (h : r.WF) (sum : Nat) (hs : sum < 256 ^ 8) (bs t : Bytes)
    (ht : t ≠ []) (e : bs ++ t = encTB r ++ natToBE 8 sum) : decRecord bs = .eof := by
  rw [decRecord]
  rcases split_prefix e with ⟨t', ht', e'⟩ | ⟨bs', rfl, e2⟩
  · -- the cut is inside tag ‖ body
    rcases split_prefix e' with ⟨t'', ht'', e''⟩ | ⟨bs'', rfl, e2'⟩
    · rw [(good_U 4).pfx r.tag bs t'' r.tag_lt ht'' e'', DecRes.bind_eof]
    · rw [decU_enc 4 r.tag _ r.tag_lt, DecRes.bind_ok, body_pfx r bs'' t' h ht' e2', DecRes.bind_eof]
  · -- the cut is inside the checksum
    rw [encTB, List.append_assoc, decU_enc 4 r.tag _ r.tag_lt, DecRes.bind_ok, body_rt r _ h,
      DecRes.bind_ok, (good_U 8).pfx _ bs' t hs ht e2, DecRes.bind_eof]

theorem record_pfx (r : Record) (bs t : Bytes) (h : r.WF) (ht : t ≠ [])
    (e : bs ++ t = encRecord r) : decRecord bs = .eof :=
  decRecord_frame_pfx r h _ (crc32_lt _) bs t ht e

end RaftLog
