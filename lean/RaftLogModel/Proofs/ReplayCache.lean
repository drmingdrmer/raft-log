/-
C02: the payload cache during replay. If the cache limits of the new
configuration cover all `Append` records of the retained journal, no entry is
evicted while `open` replays it; every index entry ends up resident with the
payload of the record it points to (`CRep`), and the store-level cache
invariant holds. With the payload invariant (`PayG`) this gives `Refines` for
the reopened store.
-/
import RaftLogModel.Proofs.ReplayOpen
namespace RaftLog

def appendsOf : List Record → Items
  | [] => []
  | .append id p :: rs => (id, p) :: appendsOf rs
  | .saveVote _ :: rs => appendsOf rs
  | .commit _ :: rs => appendsOf rs
  | .truncateAfter _ :: rs => appendsOf rs
  | .purgeUpto _ :: rs => appendsOf rs
  | .state _ :: rs => appendsOf rs

theorem appendsOf_append (a b : List Record) : appendsOf (a ++ b) = appendsOf a ++ appendsOf b := by
  induction a with
  | nil => rfl
  | cons r rs ih => cases r <;> simp [appendsOf, ih]

def opsAppends (ops : List JOp) : Items := appendsOf (ops.map (·.r))

theorem opsAppends_append (a b : List JOp) : opsAppends (a ++ b) = opsAppends a ++ opsAppends b := by
  simp [opsAppends, appendsOf_append]

/-- `done` = the journal records replayed so far. -/
structure CRep (sm : Store) (done : List JOp) : Prop where
  cinv : CacheInv sm
  res : ∀ e ∈ sm.log, ∃ p, opAt e p ∈ done ∧ sm.cache.get e.2.id = some p
  cnt : sm.cache.items.length ≤ (opsAppends done).length
  byt : sm.cache.size ≤ sumLen (opsAppends done)

theorem emptyStore_cacheInv (cfg : Cfg) : CacheInv (emptyStore cfg) :=
  ⟨⟨rfl, List.Pairwise.nil⟩, fun e he => (by cases he)⟩

theorem CRep.of_fields {sm sm2 : Store} {done : List JOp} (h : CRep sm done)
    (h1 : sm2.st = sm.st) (h2 : sm2.log = sm.log) (h3 : sm2.cache.items = sm.cache.items)
    (h4 : sm2.cache.size = sm.cache.size) : CRep sm2 done := by
  refine ⟨h.cinv.of_fields h1 h3 h4, ?_, by rw [h3]; exact h.cnt, by rw [h4]; exact h.byt⟩
  intro e he
  rw [h2] at he
  obtain ⟨p, k1, k2⟩ := h.res e he
  exact ⟨p, k1, by simp only [Cache.get, h3] at k2 ⊢; exact k2⟩

/-- **One replayed record and the cache invariant**, any cache limits: an accepted `Append`
record lies above `last`, hence above every resident key; a `State` record keeps `last`
(`RecCheck`) or meets an empty cache. -/
theorem CacheInv.replayStep {sm : Store} {r : Record} {chunk : Nat} {seg : Seg} {st1 : RState}
    {l1 : Log} (h : CacheInv sm) (hst : sm.st.apply r = .ok st1)
    (hidx : idxLogO r chunk seg sm.log = some l1)
    (hck : RecCheck r sm.st sm.log ∨ (sm.cache.items = [] ∧ ∃ x, r = .state x)) :
    CacheInv { sm with st := st1, log := l1, cache := idxCache r sm.cache } := by
  rcases hck with hck | ⟨hempty, x, rfl⟩
  · exact applyIndex_cacheInv h hst (fun x hx => by subst hx; exact hck)
      (applyIndex_exact sm r chunk seg hidx)
  · exact ⟨h.ok, fun e he => by rw [show (idxCache (.state x) sm.cache).items = [] from hempty] at he; cases he⟩

theorem idxCache_grow (r : Record) (c : Cache)
    (hins : ∀ id p, r = .append id p →
      c.insert id p = { c with items := c.items ++ [(id, p)], size := c.size + p.length }) :
    (idxCache r c).items.length ≤ c.items.length + (appendsOf [r]).length ∧
    (idxCache r c).size ≤ c.size + sumLen (appendsOf [r]) := by
  cases r with
  | append id p => simp [idxCache, hins id p rfl, appendsOf, sumLen]
  | truncateAfter o =>
    cases o with
    | none => simp [idxCache, Cache.clear, appendsOf]
    | some key =>
      have := Cache.truncateAfter_facts c key
      exact ⟨this.2.2.1, this.2.2.2.1⟩
  | purgeUpto u =>
    have := Cache.purgeUpto_facts c u
    exact ⟨this.2.2.1, this.2.2.2.1⟩
  | _ => exact ⟨Nat.le_refl _, Nat.le_refl _⟩

/-- The idea is `hkeep`: an entry whose cache item survives stays resident, and `RecCheck` says which items survive a
truncate or a purge; the odd alternative of `hck` (an empty cache meeting a `State` record) is the very first record,
see `HOK`. -/
theorem crep_step {sm : Store} {done : List JOp} {op : JOp} {st1 : RState} {l1 : Log}
    (h : CRep sm done) (hst : sm.st.apply op.r = .ok st1)
    (hidx : idxLogO op.r op.chunk op.seg sm.log = some l1)
    (hck : RecCheck op.r sm.st sm.log ∨ (sm.cache.items = [] ∧ ∃ x, op.r = .state x))
    (hN : (opsAppends (done ++ [op])).length ≤ sm.cache.maxItems)
    (hB : sumLen (opsAppends (done ++ [op])) ≤ sm.cache.capacity) :
    CRep { sm with st := st1, log := l1, cache := idxCache op.r sm.cache } (done ++ [op]) := by
  obtain ⟨rec, chunk, seg⟩ := op
  simp only at hst hidx hck ⊢
  have hcinv := h.cinv.replayStep hst hidx hck
  have hsorted := hcinv.ok.sorted
  have happ : opsAppends (done ++ [⟨rec, chunk, seg⟩]) = opsAppends done ++ appendsOf [rec] := by
    rw [opsAppends_append]; rfl
  rw [happ, List.length_append] at hN
  rw [happ, sumLen_append] at hB
  have hcnt := h.cnt
  have hbyt := h.byt
  have hins : ∀ id p, rec = .append id p → sm.cache.insert id p =
      { sm.cache with items := sm.cache.items ++ [(id, p)], size := sm.cache.size + p.length } := by
    rintro id p rfl
    simp only [appendsOf, sumLen, List.length_cons, List.length_nil] at hN hB
    exact Cache.insert_noevict sm.cache id p (items_lt_of_gt_last h.cinv (apply_append_last hst).2)
      (by omega) (by omega)
  obtain ⟨hg1, hg2⟩ := idxCache_grow rec sm.cache hins
  refine ⟨hcinv, fun e he => ?_, by rw [happ, List.length_append]; exact Nat.le_trans hg1 (by omega),
    by rw [happ, sumLen_append]; exact Nat.le_trans hg2 (by omega)⟩
  -- an entry that was there before and keeps its cache item stays resident
  have hkeep : e ∈ sm.log → (∀ p, (e.2.id, p) ∈ sm.cache.items → (e.2.id, p) ∈ (idxCache rec sm.cache).items) →
      ∃ p, opAt e p ∈ done ++ [⟨rec, chunk, seg⟩] ∧ (idxCache rec sm.cache).get e.2.id = some p := by
    intro he hk
    obtain ⟨p, k1, k2⟩ := h.res e he
    exact ⟨p, List.mem_append_left _ k1, Cache.get_of_mem hsorted (hk p (Cache.mem_of_get k2))⟩
  simp only at he
  cases rec with
  | append id p =>
    cases hidx
    simp only [idxCache, hins id p rfl] at hsorted hkeep ⊢
    rcases mem_logInsert he with rfl | h1
    · exact ⟨p, List.mem_append_right _ (List.mem_singleton.mpr rfl),
        Cache.get_of_mem hsorted (List.mem_append_right _ (List.mem_singleton.mpr rfl))⟩
    · exact hkeep h1 (fun q hq => List.mem_append_left _ hq)
  | truncateAfter o =>
    simp only [idxLogO] at hidx
    cases hn : nextIndexChecked o with
    | none => rw [hn] at hidx; cases hidx
    | some idx =>
      rw [hn] at hidx
      cases hidx
      simp only [List.mem_filter, decide_eq_true_eq] at he
      cases o with
      | none =>
        cases hn
        omega
      | some key =>
        have hidx' : idx = _ + 1 := nextIndexChecked_eq_some hn
        rcases hck with hck | ⟨_, x, hx⟩
        · exact hkeep he.1 (fun q hq =>
            (Cache.truncateAfter_facts sm.cache key).1 _ hq (hck e he.1 (by omega)))
        · cases hx
  | purgeUpto u =>
    simp only [idxLogO] at hidx
    cases hn : nextIndexChecked (some u) with
    | none => rw [hn] at hidx; cases hidx
    | some idx =>
      rw [hn] at hidx
      cases hidx
      simp only [List.mem_filter, decide_eq_true_eq] at he
      have hidx' : idx = _ + 1 := nextIndexChecked_eq_some hn
      rcases hck with hck | ⟨_, x, hx⟩
      · exact hkeep he.1 (fun q hq => (Cache.purgeUpto_facts sm.cache u).1 _ hq
          ((LogId.not_le_iff_lt _ _).2 (hck e he.1 (by omega))))
      · cases hx
  | _ =>
    cases hidx
    exact hkeep he (fun p hp => hp)

/-- The checks hold for the records still to replay; for the very first record
(the head of the oldest retained chunk) the cache is still empty instead. -/
def HOK (ops : List JOp) (sm : Store) : Prop :=
  RunOK ops sm.st sm.log ∨
    (sm.cache.items = [] ∧ ∃ hd tl x, ops = hd :: tl ∧ hd.r = .state x ∧ RunOK tl x sm.log)

theorem HOK.of_fields {ops : List JOp} {sm sm2 : Store} (h : HOK ops sm) (h1 : sm2.st = sm.st)
    (h2 : sm2.log = sm.log) (h3 : sm2.cache.items = sm.cache.items) : HOK ops sm2 := by
  unfold HOK
  rw [h1, h2, h3]
  exact h

theorem HOK.head {op : JOp} {ops : List JOp} {sm : Store} (h : HOK (op :: ops) sm) :
    RecCheck op.r sm.st sm.log ∨ (sm.cache.items = [] ∧ ∃ x, op.r = .state x) := by
  rcases h with h | ⟨he, hd, tl, x, heq, hx, _⟩
  · exact .inl h.1
  · cases heq
    exact .inr ⟨he, x, hx⟩

theorem HOK.tail {op : JOp} {ops : List JOp} {sm : Store} {st1 : RState} {l1 : Log} {c : Cache}
    (h : HOK (op :: ops) sm) (ha : sm.st.apply op.r = .ok st1)
    (hi : idxLogO op.r op.chunk op.seg sm.log = some l1) :
    HOK ops { sm with st := st1, log := l1, cache := c } := by
  rcases h with h | ⟨_, hd, tl, x, heq, hx, hrest⟩
  · exact .inl (h.2 st1 l1 ha hi)
  · cases heq
    rw [hx] at ha hi
    cases ha
    cases hi
    exact .inl hrest

theorem RepG.hok_empty {s : Store} {fs : Fs} {w : Worker} {jc : List (Closed × List Record)} {jo : List Record}
    (g : RepG s fs w jc jo) (gr : RunG s jc jo) (cfg : Cfg) : HOK (allOps s jc jo) (emptyStore cfg) := by
  obtain ⟨hd, tl, x, hhd, hx⟩ := allOps_head_state g
  exact .inr ⟨rfl, hd, tl, x, hhd, hx, gr hd tl hhd x hx⟩

theorem opsAppends_prefix_le (a b : List JOp) :
    (opsAppends a).length ≤ (opsAppends (a ++ b)).length ∧
    sumLen (opsAppends a) ≤ sumLen (opsAppends (a ++ b)) := by
  rw [opsAppends_append, List.length_append, sumLen_append]
  exact ⟨Nat.le_add_right _ _, Nat.le_add_right _ _⟩

/-- The invariant of `open` replaying the journal `all` into a cache with room for all its
`Append` records: `CRep` for the part replayed so far, the checks for the rest. -/
def CRepAll (all ops : List JOp) (sm : Store) : Prop :=
  (∃ done, done ++ ops = all ∧ CRep sm done) ∧ HOK ops sm ∧
    (opsAppends all).length ≤ sm.cache.maxItems ∧ sumLen (opsAppends all) ≤ sm.cache.capacity

theorem CRepAll.step (all : List JOp) : ReplayStep (CRepAll all) := by
  rintro op ops sm st1 l1 ⟨⟨done, hall, hc⟩, hok, hN, hB⟩ ha hi
  have hall' : (done ++ [op]) ++ ops = all := by rw [← hall]; simp
  have hle := opsAppends_prefix_le (done ++ [op]) ops
  rw [hall'] at hle
  have hlim := idxCache_limits op.r sm.cache
  exact ⟨⟨_, hall', crep_step hc ha hi hok.head (by omega) (by omega)⟩, hok.tail ha hi,
    by rw [hlim.1]; exact hN, by rw [hlim.2]; exact hB⟩

theorem CRepAll.congr (all : List JOp) : ReplayCongr (CRepAll all) := by
  rintro ops sm sm2 h1 h2 h3 h4 h5 h6 ⟨⟨done, hall, hc⟩, hok, hN, hB⟩
  exact ⟨⟨done, hall, hc.of_fields h1 h2 h3 h4⟩, hok.of_fields h1 h2 h3, by rw [h5]; exact hN,
    by rw [h6]; exact hB⟩

/-- All `Append` records (id, payload) in the linked chunk files, as `open`
will read them. -/
def fileAppends (fs : Fs) : Items :=
  fs.linkedIds.flatMap (fun id => match fs.find id with
    | some f => appendsOf ((parseChunk f.data).1.map (·.1))
    | none => [])

theorem flatRecs_append (a b : List (Closed × List Record)) : flatRecs (a ++ b) = flatRecs a ++ flatRecs b := by
  induction a with
  | nil => rfl
  | cons q rest ih =>
    obtain ⟨c, rs⟩ := q
    simp only [List.cons_append, flatRecs, ih, List.append_assoc]

theorem fileAppends_eq (fs : Fs) : ∀ (jl : List (Closed × List Record)),
    (∀ p ∈ jl, HoldsChunk fs p) →
    (jl.map (·.1.id)).flatMap (fun id => match fs.find id with
      | some f => appendsOf ((parseChunk f.data).1.map (·.1))
      | none => []) = appendsOf (flatRecs jl) := by
  intro jl
  induction jl with
  | nil => intro _; rfl
  | cons q rest ih =>
    intro hfiles
    obtain ⟨c, rs⟩ := q
    obtain ⟨f, hf, F⟩ := hfiles (c, rs) List.mem_cons_self
    have hd : f.data = encAll rs := F.data
    have hwf : AllWF rs := F.wf
    simp only at hf
    simp only [List.map_cons, List.flatMap_cons, hf, hd, parse_encAll' hwf, sized_map_fst, flatRecs,
      appendsOf_append]
    rw [ih (fun p hp => hfiles p (List.mem_cons_of_mem _ hp))]

theorem emptyStore_crep (cfg : Cfg) : CRep (emptyStore cfg) [] := by
  refine ⟨emptyStore_cacheInv cfg, fun e he => (by cases he), ?_, ?_⟩
  · simp [emptyStore]
  · simp [emptyStore, opsAppends, appendsOf, sumLen]

theorem openStore_refines (cfg : Cfg) {s : Store} {fs : Fs} {w : Worker} {r : RefLog}
    (h : RInv s fs w r) (hinf : ∀ id, w.inflight id = []) (hp : s.pending = [])
    (hlinked : fs.linkedIds = s.chunkIds)
    (hN : (fileAppends fs).length ≤ cfg.cacheItems) (hB : sumLen (fileAppends fs) ≤ cfg.cacheCap) :
    ∃ s', openStore cfg fs = (.ok (s', { files := [⟨s.openId, prevLastOf s.closed⟩] }),
        fs.syncAll s.chunkIds, syncEvs s.chunkIds) ∧
      Refines s' r ∧ s'.cache.items.length ≤ (fileAppends fs).length ∧
      s'.cache.size ≤ sumLen (fileAppends fs) := by
  obtain ⟨jc, jo, g, gp, gr⟩ := h.rep
  have hfiles := g.load_files h.j hinf hp
  have hmapids := g.liveChunks_ids
  have hflat := liveChunks_flatOps s jc jo
  -- the Append records of the files are those of the retained journal
  have hfa : fileAppends fs = opsAppends (allOps s jc jo) := by
    unfold fileAppends
    rw [hlinked, ← hmapids, fileAppends_eq fs _ hfiles, ← hflat, opsAppends, flatOps_map_r]
  rw [hfa] at hN hB ⊢
  obtain ⟨s', k0, k, ⟨done, hdone, hc⟩, _⟩ :=
    openStore_inv_sm (CRepAll.step _) (CRepAll.congr _) cfg g h.j hinf hp hlinked
      ⟨⟨[], rfl, emptyStore_crep cfg⟩, g.hok_empty gr cfg, hN, hB⟩
  rw [List.append_nil] at hdone
  subst hdone
  have habs := h.abs.of_fields k.st k.log k.openOffsets
  refine ⟨s', k0, ⟨habs.st, habs.log, fun e he => ?_, h.abs.wf, hc.cinv, habs.pf, ?_⟩, hc.cnt, hc.byt⟩
  · -- residency: the index entry for `e` is resident with the payload its record carries, and
    -- that payload is the reference log's (`PayG`)
    obtain ⟨le, hle, _, hlk⟩ := mem_log_of_keys h.abs.log he
    obtain ⟨p, k1', k2'⟩ := hc.res le (by rw [k.log]; exact hle)
    have hpe : (le.2.id, p) ∈ r.entries := gp le hle p k1'
    rw [hlk] at hpe k2'
    rcases pairwise_mem_cases h.abs.wf.mono hpe he with h1 | h1 | h1
    · rw [← h1]; exact k2'
    · simp only [LogId.lt_irrefl] at h1; cases h1.1
    · simp only [LogId.lt_irrefl] at h1; cases h1.1
  · rw [k.maxItems, k.capacity]
    exact ⟨Nat.le_trans hc.cnt hN, Nat.le_trans hc.byt hB⟩

end RaftLog
