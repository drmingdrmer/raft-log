/-
C03, `open` on a crash image of the directory of a live store. A successful `open` saw complete predecessors
(`openLoop_ok_complete`: the gap check of its successor forces every chunk file but the newest to hold all
records of its chunk), so the image is a directory the forward theorem `openStore_image_inv` describes, and
what `open` returns is the replay of a prefix of the journal that contains every record within the durable
part (`crash_open_prefix_of_live_C3`).
-/
import RaftLogModel.Proofs.Crash
import RaftLogModel.Proofs.ReplayRestart
namespace RaftLog

/-- Each chunk starts where the full previous one ends. -/
def AbutC3 : List (Closed × List Record) → Prop
  | [] => True
  | [_] => True
  | p :: q :: rest => q.1.id = p.1.id + (encAll p.2).length ∧ AbutC3 (q :: rest)

theorem AbutC3.tail {p : Closed × List Record} {rest : List (Closed × List Record)}
    (h : AbutC3 (p :: rest)) : AbutC3 rest := by
  cases rest with
  | nil => trivial
  | cons q rest' => exact h.2

theorem abut_lt_C3 : ∀ (rest : List (Closed × List Record)) (p : Closed × List Record),
    AbutC3 (p :: rest) → (∀ q ∈ p :: rest, q.2 ≠ []) → ∀ q ∈ rest, p.1.id < q.1.id := by
  intro rest
  induction rest with
  | nil => intro p _ _ q hq; cases hq
  | cons q0 rest ih =>
    intro p ha hne q hq
    have h0 : p.1.id < q0.1.id := by
      have := encAll_length_pos (hne p List.mem_cons_self)
      have := ha.1
      omega
    rcases List.mem_cons.mp hq with e | e
    · subst e; exact h0
    · have := ih q0 ha.2 (fun x hx => hne x (List.mem_cons_of_mem _ hx)) q e
      omega

theorem abut_of_chained_C3 : ∀ (jl : List (Closed × List Record)),
    Chained (jl.map (·.1.offsets)) →
    (∀ p ∈ jl, lastOff p.1.offsets = p.1.id + (encAll p.2).length) → AbutC3 jl := by
  intro jl
  induction jl with
  | nil => intro _ _; trivial
  | cons p rest ih =>
    intro hc hl
    cases rest with
    | nil => trivial
    | cons q rest' =>
      simp only [List.map_cons, Chained] at hc
      refine ⟨?_, ih (by simpa using hc.2) (fun x hx => hl x (List.mem_cons_of_mem _ hx))⟩
      have := hl p List.mem_cons_self
      have h1 := hc.1
      simp only [Closed.id]
      simp only [Closed.id] at this
      omega

theorem take_full_of_length_C3 {rs : List Record} {j : Nat}
    (h : (encAll (rs.take j)).length = (encAll rs).length) : rs.take j = rs := by
  have e := encAll_take_drop_C3 rs j
  have hl : (encAll (rs.drop j)).length = 0 := by
    have := congrArg List.length e
    simp only [List.length_append] at this
    omega
  have h0 : rs.drop j = [] := by
    have := encAll_length_ge (rs.drop j)
    rw [hl] at this
    exact List.eq_nil_of_length_eq_zero (by omega)
  have := List.take_append_drop j rs
  rw [h0, List.append_nil] at this
  exact this

theorem opsFrom_take_prefix_C3 (chunk start : Nat) (rs : List Record) (j : Nat) :
    opsFrom chunk start (rs.take j) <+: opsFrom chunk start rs := by
  have : opsFrom chunk start rs = opsFrom chunk start (rs.take j ++ rs.drop j) := by
    rw [List.take_append_drop]
  rw [this, opsFrom_append]
  exact List.prefix_append _ _

theorem openLoop_ok_gap_C3 {cfg : Cfg} {id : Nat} {rest : List Nat} {a x a' : OpenAcc}
    (h : openLoop cfg (id :: rest) a = (.ok x, a')) : gapCheck a id = false := by
  cases hg : gapCheck a id with
  | false => rfl
  | true =>
    rw [openLoop_gap cfg id rest a hg] at h
    cases h

theorem CutOf.length_le {f g : File} (h : CutOf f g) : g.data.length ≤ f.data.length := by
  obtain ⟨_, _, _, hcut⟩ := h
  rcases hcut with ⟨k, _, hk, hg⟩ | ⟨b, m, _, _, hm, hm2, hg⟩
  · rw [hg, List.length_take]; omega
  · rw [hg, List.length_append, List.length_take, List.length_replicate]; omega

/-- Chunk `p` (table entry and FULL record list) in a damaged directory: its file holds a prefix of the
records and then a tail, and is no longer than all of them. -/
def CutChunk (fs : Fs) (p : Closed × List Record) : Prop :=
  p.2 ≠ [] ∧ ∃ g, fs.find p.1.id = some g ∧ g.data.length ≤ (encAll p.2).length ∧
    ∃ j e rest, parseChunk g.data = (sized (p.2.take j), e, rest) ∧
      g.data = encAll (p.2.take j) ++ rest

/-- A successful `open` saw complete predecessors: the gap check of its successor forces every chunk file but
the newest to hold all records of its chunk. -/
theorem openLoop_ok_complete (cfg : Cfg) : ∀ (jl : List (Closed × List Record))
    (last : Closed × List Record) (a x a' : OpenAcc),
    openLoop cfg ((jl ++ [last]).map (·.1.id)) a = (.ok x, a') → AbutC3 (jl ++ [last]) →
    (∀ p ∈ jl ++ [last], CutChunk a.fs p) →
    (∀ p ∈ jl, ∀ g, a.fs.find p.1.id = some g → g.data = encAll p.2) ∧
    ∃ rs tr, ∀ g, a.fs.find last.1.id = some g →
      openChunk cfg last.1.id g.data = .ok ⟨rs, offsetsFrom last.1.id (sizes rs), tr⟩ := by
  intro jl
  induction jl with
  | nil =>
    intro last a x a' h _ _
    have hstep := openLoop_cons cfg last.1.id [] a
    generalize hr : openLoop cfg [last.1.id] a = r at hstep
    have h' : r = (.ok x, a') := hr ▸ h
    refine ⟨fun p hp => (nomatch hp), ?_⟩
    cases hstep with
    | drop _ hf hoc _ => exact ⟨[], _, fun g hg => by cases hf.symm.trans hg; exact hoc⟩
    | keep _ hf hoc _ _ => exact ⟨_, _, fun g hg => by cases hf.symm.trans hg; exact hoc⟩
    | _ => cases h'
  | cons p rest ih =>
    intro last a x a' h habut hcut
    obtain ⟨q, tl, hq⟩ : ∃ q tl, rest ++ [last] = q :: tl := by
      cases rest with
      | nil => exact ⟨last, [], rfl⟩
      | cons q tl => exact ⟨q, tl ++ [last], rfl⟩
    simp only [List.cons_append, List.map_cons] at h
    have hstep := openLoop_cons cfg p.1.id ((rest ++ [last]).map (·.1.id)) a
    generalize hr : openLoop cfg (p.1.id :: (rest ++ [last]).map (·.1.id)) a = r at hstep
    have h' : r = (.ok x, a') := hr ▸ h
    obtain ⟨_, g0, hfind, hlen, j, e, rst, hparse, hdata⟩ := hcut p List.mem_cons_self
    cases hstep with
    | drop _ _ _ hmore => rw [hq] at hmore; cases hmore
    | @keep _ rs tr sm2 _ hf hoc _ _ =>
      cases hfind.symm.trans hf
      obtain ⟨hrecs, _⟩ := openChunk_parse_ok hparse hoc
      simp only at hrecs
      subst hrecs
      -- the gap check of the successor passed: this chunk is complete
      have hnext : q.1.id = p.1.id + (encAll p.2).length := by
        rw [List.cons_append, hq] at habut; exact habut.1
      have hg2 : gapCheck (a.kept p.1.id (p.2.take j) tr sm2) q.1.id = false := by
        have h2 := h'
        rw [hq, List.map_cons] at h2
        exact openLoop_ok_gap_C3 h2
      simp only [gapCheck, OpenAcc.kept, bne_eq_false_iff_eq, lastOff_sized] at hg2
      have hfull : p.2.take j = p.2 := take_full_of_length_C3 (Nat.add_left_cancel (hg2.trans hnext))
      have hdata' : g0.data = encAll p.2 := by
        rw [hfull] at hdata
        rw [hdata, List.length_append] at hlen
        rw [hdata, List.eq_nil_of_length_eq_zero (Nat.le_zero.mp (Nat.le_of_add_le_add_left hlen)),
          List.append_nil]
      -- the other files are as they were
      have hother : ∀ p' ∈ rest ++ [last],
          (a.kept p.1.id (p.2.take j) tr sm2).fs.find p'.1.id = a.fs.find p'.1.id := by
        intro p' hp'
        have hlt := abut_lt_C3 _ p habut (fun x hx => (hcut x hx).1) p' hp'
        have hne : p'.1.id ≠ p.1.id := Nat.ne_of_gt hlt
        rw [(a.kept_fs_evs p.1.id _ tr sm2).1, ← Fs.find_cut_other a.fs hne tr]
        exact Fs.find_update_other _ hne _ (fun _ => rfl)
      obtain ⟨k1, rs', tr', k2⟩ := ih last _ x a' h' habut.tail
        (fun p' hp' => by
          obtain ⟨m2, g', m3, m4⟩ := hcut p' (List.mem_cons_of_mem _ hp')
          exact ⟨m2, g', by rw [hother p' hp']; exact m3, m4⟩)
      refine ⟨fun p' hp' g hg => ?_, rs', tr', fun g hg => k2 g ?_⟩
      · rcases List.mem_cons.mp hp' with rfl | hp''
        · cases hfind.symm.trans hg; exact hdata'
        · exact k1 p' hp'' g (by rw [hother p' (List.mem_append_left _ hp'')]; exact hg)
      · rw [hother last (by simp)]; exact hg
    | _ => cases h'

def headIdC3 : List (Closed × List Record) → Nat
  | [] => 0
  | p :: _ => p.1.id

def sizeSum (P : List JOp) : Nat := sumNat (P.map (·.seg.size))

theorem sizeSum_append (a b : List JOp) : sizeSum (a ++ b) = sizeSum a + sizeSum b := by
  simp [sizeSum, sumNat_append]

/-- The id of the oldest live chunk: where the retained journal starts. -/
def Store.jstart (s : Store) : Nat :=
  match s.closed with
  | c :: _ => c.id
  | [] => s.openId

theorem opsFrom_take_C3 (chunk : Nat) : ∀ (rs : List Record) (start n : Nat),
    (opsFrom chunk start rs).take n = opsFrom chunk start (rs.take n) := by
  intro rs
  induction rs with
  | nil => intro start n; simp [opsFrom]
  | cons r rs ih =>
    intro start n
    cases n with
    | zero => simp [opsFrom]
    | succ n => simp only [opsFrom, List.take_succ_cons, ih]

theorem opsFrom_length_C3 (chunk start : Nat) (rs : List Record) :
    (opsFrom chunk start rs).length = rs.length := by
  induction rs generalizing start with
  | nil => rfl
  | cons r rs ih => simp only [opsFrom, List.length_cons, ih]

theorem prefix_opsFrom_C3 {chunk start : Nat} {rs : List Record} {Q : List JOp}
    (h : Q <+: opsFrom chunk start rs) :
    Q = opsFrom chunk start (rs.take Q.length) ∧ Q.length ≤ rs.length := by
  have h1 := List.prefix_iff_eq_take.mp h
  have h2 := h.length_le
  rw [opsFrom_length_C3] at h2
  rw [opsFrom_take_C3] at h1
  exact ⟨h1, h2⟩

theorem sizeSum_opsFrom_eq_C3 (chunk start : Nat) (rs : List Record) :
    sizeSum (opsFrom chunk start rs) = (encAll rs).length := by
  induction rs generalizing start with
  | nil => rfl
  | cons r rs ih =>
    simp only [sizeSum] at ih
    simp only [sizeSum, opsFrom, List.map_cons, sumNat, encAll_cons, List.length_append, ih]

theorem liveChunks_recs_C3 {s : Store} {fs : Fs} {w : Worker} {jc : List (Closed × List Record)}
    {jo : List Record} (g : RepG s fs w jc jo) :
    ∀ p ∈ liveChunksC3 s jc jo, AllWF p.2 ∧ (∃ st rest, p.2 = .state st :: rest) ∧
      offsetsFrom p.1.id (recSizes p.2) = p.1.offsets ∧ p.1.id ∈ s.chunkIds ∧
      ∃ t, fdata fs p.1.id ++ t = encAll p.2 := by
  intro p hp
  have hid : p.1.id ∈ s.chunkIds := by
    rw [← g.liveChunks_ids]; exact List.mem_map.mpr ⟨p, hp, rfl⟩
  simp only [liveChunksC3, List.mem_append, List.mem_singleton] at hp
  rcases hp with h1 | h1
  · obtain ⟨k1, k2, k3, k4⟩ := g.closedRecs p h1
    refine ⟨k1, k2, k3, hid, w.inflight p.1.id ++ (if s.openId = p.1.id then s.pending else []), ?_⟩
    rw [← List.append_assoc]; exact k4
  · subst h1
    obtain ⟨k1, k2, k3, k4⟩ := g.openRecs
    refine ⟨k1, k2, k3, hid, w.inflight s.openId ++ (if s.openId = s.openId then s.pending else []), ?_⟩
    rw [← List.append_assoc]; exact k4

theorem liveChunks_head_C3 {s : Store} {fs : Fs} {w : Worker} {jc : List (Closed × List Record)}
    {jo : List Record} (g : RepG s fs w jc jo) : headIdC3 (liveChunksC3 s jc jo) = s.jstart := by
  unfold Store.jstart liveChunksC3
  rw [← g.closedEq]
  cases jc with
  | nil => rfl
  | cons p jc' => rfl

theorem liveChunks_abut_C3 {s : Store} {fs : Fs} {w : Worker} {jc : List (Closed × List Record)}
    {jo : List Record} (g : RepG s fs w jc jo) (hj : JInv s fs w) : AbutC3 (liveChunksC3 s jc jo) := by
  apply abut_of_chained_C3
  · rw [g.liveChunks_offsets]; exact hj.chained
  · intro p hp
    obtain ⟨_, _, k3, _, _⟩ := liveChunks_recs_C3 g p hp
    exact k3 ▸ lastOff_sized p.1.id p.2

theorem stRunO_flat_chunk_C5b {jc : List (Closed × List Record)} {stC : RState} {lC : Log}
    (hrep : RepC jc {} [] stC lC) (oid : Nat) (rs : List Record) :
    stRunO (flatOps jc ++ chunkOps oid rs) {} = stRun rs stC := by
  rw [stRunO_append]
  have : stRunO (flatOps jc) {} = some stC := by
    simp only [stRunO, flatOps_map_r]; exact hrep.st
  rw [this]
  simp only [Option.bind_some, stRunO, chunkOps, opsFrom_map_r]

theorem idxRun_flat_chunk_C5b {jc : List (Closed × List Record)} {stC : RState} {lC : Log}
    (hrep : RepC jc {} [] stC lC) (oid : Nat) (rs : List Record) :
    idxRun (flatOps jc ++ chunkOps oid rs) [] = idxRun (chunkOps oid rs) lC := by
  rw [idxRun_append, hrep.idx]
  rfl

theorem liveChunks_image_ids_C3 {s : Store} {fs : Fs} {w : Worker} {jc : List (Closed × List Record)}
    {jo : List Record} (g : RepG s fs w jc jo) (hlinked : fs.linkedIds = s.chunkIds) {img : Fs}
    (hc : CrashImage fs img) : img.linkedIds = jc.map (·.1.id) ++ [s.openId] := by
  rw [hc.linkedIds, hlinked, ← g.liveChunks_ids]
  simp only [liveChunksC3, List.map_append, List.map_cons, List.map_nil]
  rfl

theorem liveChunks_image_C3 {s : Store} {fs : Fs} {w : Worker} {jc : List (Closed × List Record)}
    {jo : List Record} (g : RepG s fs w jc jo) (hlive : ∀ id ∈ s.chunkIds, fs.has id = true) {img : Fs}
    (hc : CrashImage fs img) : ∀ p ∈ liveChunksC3 s jc jo, ∃ f g', fs.find p.1.id = some f ∧
      img.find p.1.id = some g' ∧ CutOf f g' ∧ (∃ t, f.data ++ t = encAll p.2) ∧
      ParsesToPrefix p.2 g'.data := by
  intro p hp
  obtain ⟨k1, _, _, k4, t, k5⟩ := liveChunks_recs_C3 g p hp
  obtain ⟨f, hf, hfl⟩ := Fs.has_eq_true_iff.mp (hlive _ k4)
  obtain ⟨g', hg1, hg2⟩ := hc.find hf hfl
  rw [fdata_of_find_C3 hf] at k5
  exact ⟨f, g', hf, hg1, hg2, ⟨t, k5⟩, cutOf_parses_C3 k1 k5 hg2⟩

theorem liveChunks_chained_C3 {s : Store} {fs : Fs} {w : Worker} {jc : List (Closed × List Record)}
    {jo : List Record} (g : RepG s fs w jc jo) (hj : JInv s fs w) :
    Chained (jc.map (·.1.offsets) ++ [s.openOffsets]) := by
  have := hj.chained
  rw [← g.liveChunks_offsets] at this
  simpa only [liveChunksC3, List.map_append, List.map_cons, List.map_nil] using this

theorem abut_start_C3 : ∀ (jl : List (Closed × List Record)) (q : Closed × List Record),
    AbutC3 (jl ++ [q]) → headIdC3 (jl ++ [q]) + sizeSum (flatOps jl) = q.1.id := by
  intro jl
  induction jl with
  | nil => intro q _; rfl
  | cons p jl ih =>
    intro q ha
    have hnext : headIdC3 (jl ++ [q]) = p.1.id + (encAll p.2).length := by
      cases jl with
      | nil => exact ha.1
      | cons p' jl' => exact ha.1
    have := ih q ha.tail
    simp only [List.cons_append, headIdC3, flatOps, sizeSum_append, chunkOps, sizeSum_opsFrom_eq_C3]
    omega

theorem liveChunks_start_C3 {s : Store} {fs : Fs} {w : Worker} {jc : List (Closed × List Record)}
    {jo : List Record} (g : RepG s fs w jc jo) (hj : JInv s fs w) :
    s.jstart + sizeSum (flatOps jc) = s.openId := by
  rw [← liveChunks_head_C3 g]
  exact abut_start_C3 jc _ (liveChunks_abut_C3 g hj)

theorem durable_of_le_C3 {start S T oid L D dur : Nat} (h1 : start + (S + T) ≤ D) (h2 : start + S = oid)
    (h3 : min L (D - oid) ≤ dur) (h4 : T ≤ L) : T ≤ dur := by
  omega

/-- Every prefix of the journal `pre ++ chunkOps oid jo` that ends at or below the position `D` lies
within the replayed part `pre ++ chunkOps oid (jo.take j)`: the newest file is durable up to `D`
(`hdur`), and the parse covers every record that ends within the durable part (`hlo`). -/
theorem prefix_replayed_C3 {pre Q : List JOp} {oid start D dur j : Nat} {jo : List Record}
    (hstart : start + sizeSum pre = oid) (hdur : min (encAll jo).length (D - oid) ≤ dur)
    (hlo : ∀ i, i ≤ jo.length → (encAll (jo.take i)).length ≤ dur → i ≤ j)
    (hQ : Q <+: pre ++ chunkOps oid jo) (hQD : start + sizeSum Q ≤ D) :
    Q <+: pre ++ chunkOps oid (jo.take j) := by
  rcases List.prefix_or_prefix_of_prefix hQ (List.prefix_append pre _) with k | k
  · exact k.trans (List.prefix_append _ _)
  · obtain ⟨Q', rfl⟩ := k
    obtain ⟨e1, e2⟩ := prefix_opsFrom_C3 ((List.prefix_append_right_inj _).mp hQ)
    rw [sizeSum_append, e1, sizeSum_opsFrom_eq_C3] at hQD
    have hij := hlo Q'.length e2 (durable_of_le_C3 hQD hstart hdur (encAll_take_le_C3 jo Q'.length))
    rw [e1, show jo.take Q'.length = (jo.take j).take Q'.length by
      rw [List.take_take]; congr 1; omega]
    exact (List.prefix_append_right_inj _).mpr (opsFrom_take_prefix_C3 _ _ _ _)

theorem crash_open_prefix_of_live_C3 {s : Store} {fs : Fs} {w : Worker}
    {jc : List (Closed × List Record)} {jo : List Record} (g : RepG s fs w jc jo) (hj : JInv s fs w)
    (hlive : ∀ id ∈ s.chunkIds, fs.has id = true)
    (hlinked : fs.linkedIds = s.chunkIds) {img : Fs} (hc : CrashImage fs img) (cfg' : Cfg) (D : Nat)
    (hD : ∀ p ∈ liveChunksC3 s jc jo, ∀ f, fs.find p.1.id = some f →
      min (encAll p.2).length (D - p.1.id) ≤ f.durable)
    {s' : Store} {w' : Worker} {fs' : Fs} {evs : List Ev}
    (hopen : openStore cfg' img = (.ok (s', w'), fs', evs)) :
    ∃ P, P <+: allOps s jc jo ∧ stRunO P {} = some s'.st ∧ idxRun P [] = some s'.log ∧
      ∀ Q, Q <+: allOps s jc jo → s.jstart + sizeSum Q ≤ D → Q <+: P := by
  obtain ⟨x, a, hloop, _⟩ := openStore_ok_shape hopen
  have hids := liveChunks_image_ids_C3 g hlinked hc
  have hrecs := liveChunks_recs_C3 g
  have habut := liveChunks_abut_C3 g hj
  have hfile := liveChunks_image_C3 g hlive hc
  -- `open` succeeded: the files of the closed chunks are complete, the newest chunk opened
  obtain ⟨hfull, rs, tr, hoc⟩ := openLoop_ok_complete cfg' jc (⟨s.openOffsets, s.st⟩, jo)
    { sm := emptyStore cfg', fs := img } x a
    (by rw [hids] at hloop
        simp only [List.map_append, List.map_cons, List.map_nil]
        exact hloop) habut
    (fun p hp => by
      obtain ⟨k1, ⟨st, tl, k2⟩, _⟩ := hrecs p hp
      obtain ⟨f, g', _, hg', hcut, ⟨t, ht⟩, j, _, e, rest, hp1, hp2, _⟩ := hfile p hp
      refine ⟨by rw [k2]; exact List.cons_ne_nil _ _, g', hg', ?_, j, e, rest, hp1, hp2⟩
      exact Nat.le_trans hcut.length_le (Nat.le.intro (List.length_append ▸ congrArg List.length ht)))
  have hlast : ((⟨s.openOffsets, s.st⟩ : Closed), jo) ∈ liveChunksC3 s jc jo :=
    List.mem_append_right _ (List.mem_singleton.mpr rfl)
  obtain ⟨hwfo, _, _⟩ := hrecs _ hlast
  obtain ⟨f0, g0, hf0, hg0, hcut0, ⟨t0, ht0⟩, _⟩ := hfile _ hlast
  obtain ⟨j, _, ⟨e, rst, hparse⟩, hlo⟩ := cutOf_parses_lo_C3 hwfo ht0 hcut0
  obtain rfl : rs = jo.take j := (openChunk_parse_ok hparse (hoc g0 hg0)).1
  -- the runs of the replayed prefix, and the forward theorem
  obtain ⟨stC, lC, r1, r2, r3, _⟩ := g.run
  have r2' : stRun (jo.take j ++ jo.drop j) stC = some s.st := by rw [List.take_append_drop]; exact r2
  obtain ⟨stJ, hstJ, _⟩ := Option.bind_eq_some_iff.1 (stRun_append _ _ _ ▸ r2')
  obtain ⟨lJ, hlJ, _⟩ := idxRun_prefix (a := chunkOps s.openId (jo.take j))
    (by rw [chunkOps, ← opsFrom_append, List.take_append_drop]; exact r3)
  obtain ⟨_, sm2, L, _, _, k⟩ :=
    openStore_image_inv .trivial cfg' [] hids
      (fun p hp => by
        have hp' : p ∈ liveChunksC3 s jc jo := List.mem_append_left _ hp
        obtain ⟨m1, ⟨st, tl, m2⟩, m3, _⟩ := hrecs p hp'
        obtain ⟨_, g', _, hg', _⟩ := hfile p hp'
        exact ⟨g', hg', { data := hfull p hp g' hg', wf := m1, head := ⟨st, tl, m2⟩, offsets := m3 }⟩)
      r1 (liveChunks_chained_C3 g hj)
      (show s.openOffsets.headD 0 = s.openId from rfl) hg0 (hoc g0 hg0) hstJ hlJ True.intro hopen
  refine ⟨flatOps jc ++ chunkOps s.openId (jo.take j),
    (List.prefix_append_right_inj _).mpr (opsFrom_take_prefix_C3 _ _ _ _),
    by rw [stRunO_flat_chunk_C5b r1, hstJ, k.st, L.st], by rw [idxRun_flat_chunk_C5b r1, hlJ, k.log, L.log],
    fun Q hQ hQD => ?_⟩
  exact prefix_replayed_C3 (liveChunks_start_C3 g hj) (hD _ hlast f0 hf0) hlo hQ hQD

end RaftLog
