/-
`open` on a directory described chunk by chunk: files that hold exactly the encodings of chunks that replay
(`RepC`), then a newest chunk of which only the result of `Chunk::open` is known (`openLoop_image_inv`,
`openStore_image_inv`). An invariant can ride along the replay (`LoadStep`). The files of a quiescent flushed
store are such a directory (`openStore_inv`).
-/
import RaftLogModel.Proofs.ReplaySys
import RaftLogModel.Proofs.Recover
namespace RaftLog

/-- What `replay` leaves untouched. -/
structure SameRest (s s' : Store) : Prop where
  closed : s'.closed = s.closed
  cfg : s'.cfg = s.cfg
  openOffsets : s'.openOffsets = s.openOffsets
  pending : s'.pending = s.pending
  removed : s'.removed = s.removed
  maxItems : s'.cache.maxItems = s.cache.maxItems
  capacity : s'.cache.capacity = s.cache.capacity

theorem SameRest.trans {s s1 s2 : Store} (h1 : SameRest s s1) (h2 : SameRest s1 s2) : SameRest s s2 :=
  ⟨h2.closed.trans h1.closed, h2.cfg.trans h1.cfg, h2.openOffsets.trans h1.openOffsets,
    h2.pending.trans h1.pending, h2.removed.trans h1.removed, h2.maxItems.trans h1.maxItems,
    h2.capacity.trans h1.capacity⟩

/-- `emptyStore cfg`, from which `open` starts, has the limits of `cfg`, and no replayed record changes them
(`SameRest`). -/
structure LimitsOf (cfg : Cfg) (s : Store) : Prop where
  cfgEq : s.cfg = cfg
  maxItems : s.cache.maxItems = cfg.cacheItems
  capacity : s.cache.capacity = cfg.cacheCap

theorem LimitsOf.same {cfg : Cfg} {s s' : Store} (h : LimitsOf cfg s) (e : SameRest s s') : LimitsOf cfg s' :=
  ⟨e.cfg.trans h.cfgEq, e.maxItems.trans h.maxItems, e.capacity.trans h.capacity⟩

theorem LimitsOf.congr {cfg : Cfg} {s s' : Store} (h : LimitsOf cfg s) (e1 : s'.cfg = s.cfg)
    (e2 : s'.cache = s.cache) : LimitsOf cfg s' :=
  ⟨e1.trans h.cfgEq, by rw [e2]; exact h.maxItems, by rw [e2]; exact h.capacity⟩

structure ChunkFile (f : File) (p : Closed × List Record) : Prop where
  data : f.data = encAll p.2
  wf : AllWF p.2
  head : ∃ st rest, p.2 = .state st :: rest
  offsets : offsetsFrom p.1.id (sizes p.2) = p.1.offsets

theorem ChunkFile.ne {f : File} {p : Closed × List Record} (h : ChunkFile f p) : p.2 ≠ [] := by
  obtain ⟨st, rest, e⟩ := h.head
  rw [e]; exact List.cons_ne_nil _ _

/-- What `Loads` asks of a file, said of a chunk of the journal. -/
@[reducible] def HoldsChunk (fs : Fs) (p : Closed × List Record) : Prop :=
  ∃ f, fs.find p.1.id = some f ∧ ChunkFile f p

theorem HoldsChunk.of_find {fs fs' : Fs} {p : Closed × List Record} (h : HoldsChunk fs p)
    (e : fs'.find p.1.id = fs.find p.1.id) : HoldsChunk fs' p :=
  let ⟨f, k, r⟩ := h; ⟨f, e.trans k, r⟩

/-! An invariant that rides along the replay in `open`. `P ops sm` is a property of the state machine and the
journal records `ops` still to come (`ReplayStep`: replaying the next record keeps it; `replay_inv`). Between
chunks `openLoop` works on its accumulator, hence `LoadStep`: `PB ops a` between chunks, `PM ops a` inside one;
setting the eviction boundary (`OpenAcc.pre`) leads from `PB` to `PM`, a record keeps `PM`, closing the chunk
(`OpenAcc.loaded`) leads back to `PB`. A `P` that looks only at state, index map and cache (`ReplayCongr`) is
such a pair (`LoadStep.of_store`). -/

def ReplayStep (P : List JOp → Store → Prop) : Prop :=
  ∀ (op : JOp) (ops : List JOp) (sm : Store) (st1 : RState) (l1 : Log), P (op :: ops) sm →
    sm.st.apply op.r = .ok st1 → idxLogO op.r op.chunk op.seg sm.log = some l1 →
    P ops { sm with st := st1, log := l1, cache := idxCache op.r sm.cache }

def ReplayCongr (P : List JOp → Store → Prop) : Prop :=
  ∀ (ops : List JOp) (sm sm2 : Store), sm2.st = sm.st → sm2.log = sm.log →
    sm2.cache.items = sm.cache.items → sm2.cache.size = sm.cache.size →
    sm2.cache.maxItems = sm.cache.maxItems → sm2.cache.capacity = sm.cache.capacity →
    P ops sm → P ops sm2

structure LoadStep (PB PM : List JOp → OpenAcc → Prop) : Prop where
  pre : ∀ (ops : List JOp) (a : OpenAcc), PB ops a → PM ops a.pre
  step : ∀ (op : JOp) (ops : List JOp) (a : OpenAcc) (st1 : RState) (l1 : Log), PM (op :: ops) a →
    a.sm.st.apply op.r = .ok st1 → idxLogO op.r op.chunk op.seg a.sm.log = some l1 →
    PM ops { a with sm := { a.sm with st := st1, log := l1, cache := idxCache op.r a.sm.cache } }
  /-- closing chunk `id` with records `rs`: what held at its start, and that the index entries
  added since point into it -/
  loaded : ∀ (ops : List JOp) (a : OpenAcc) (id : Nat) (rs : List Record) (sm2 : Store),
    SameRest a.pre.sm sm2 → (∀ e ∈ sm2.log, e ∈ a.sm.log ∨ e.2.chunk = id) →
    PB (chunkOps id rs ++ ops) a → PM ops { a.pre with sm := sm2 } → PB ops (a.loaded id rs sm2)

theorem LoadStep.of_store {P : List JOp → Store → Prop} (hstep : ReplayStep P)
    (hcongr : ReplayCongr P) : LoadStep (fun ops a => P ops a.sm) (fun ops a => P ops a.sm) :=
  ⟨fun ops a => hcongr ops a.sm _ rfl rfl rfl rfl rfl rfl, fun op ops a => hstep op ops a.sm,
    fun ops _ _ _ sm2 _ _ _ => hcongr ops sm2 _ rfl rfl rfl rfl rfl rfl⟩

theorem LoadStep.trivial : LoadStep (fun _ _ => True) (fun _ _ => True) :=
  ⟨fun _ _ _ => True.intro, fun _ _ _ _ _ _ _ _ => True.intro, fun _ _ _ _ _ _ _ _ _ => True.intro⟩

theorem replay_inv {P : List JOp → Store → Prop} (hstep : ReplayStep P) (chunk : Nat)
    (more : List JOp) : ∀ (rs : List Record) (start : Nat) (sm : Store) (st1 : RState) (l1 : Log),
    P (opsFrom chunk start rs ++ more) sm → stRun rs sm.st = some st1 →
    idxRun (opsFrom chunk start rs) sm.log = some l1 →
    ∃ s', replay chunk rs (offsetsFrom start (sizes rs)) sm = .ok s' ∧ s'.st = st1 ∧ s'.log = l1 ∧
      SameRest sm s' ∧ P more s' := by
  intro rs
  induction rs with
  | nil =>
    intro start sm st1 l1 hP h1 h2
    cases h1
    cases h2
    exact ⟨sm, by simp [replay], rfl, rfl, ⟨rfl, rfl, rfl, rfl, rfl, rfl, rfl⟩, hP⟩
  | cons r rs ih =>
    intro start sm st1 l1 hP h1 h2
    simp only [stRun] at h1
    simp only [opsFrom, idxRun] at h2
    cases ha : sm.st.apply r with
    | err k => rw [ha] at h1; cases h1
    | panic m => rw [ha] at h1; cases h1
    | ok sta =>
      cases hi : idxLogO r chunk ⟨start, (encRecord r).length⟩ sm.log with
      | none => rw [hi] at h2; cases h2
      | some la =>
        rw [ha] at h1
        rw [hi] at h2
        obtain ⟨s', hrep, g1, g2, g3, g4⟩ := ih (start + (encRecord r).length) _ st1 l1
          (hstep ⟨r, chunk, ⟨start, (encRecord r).length⟩⟩ _ sm sta la hP ha hi) h1 h2
        have hsr : SameRest sm { sm with st := sta, log := la, cache := idxCache r sm.cache } :=
          ⟨rfl, rfl, rfl, rfl, rfl, (idxCache_limits r sm.cache).1, (idxCache_limits r sm.cache).2⟩
        exact ⟨s', by rw [replay_cons, smApply_exact sm ha hi]; exact hrep,
          g1, g2, hsr.trans g3, g4⟩

theorem gapCheck_loaded (a : OpenAcc) (id : Nat) (rs : List Record) (sm2 : Store) (next : Nat)
    (h : lastOff (offsetsFrom id (sizes rs)) = next) : gapCheck (a.loaded id rs sm2) next = false := by
  simp [gapCheck, OpenAcc.loaded, h]

structure LoadedTo (cfg : Cfg) (jl : List (Closed × List Record)) (a a' : OpenAcc) (st' : RState) (l' : Log) :
    Prop where
  loads : Loads cfg (jl.map (·.1.id)) a a'
  st : a'.sm.st = st'
  log : a'.sm.log = l'
  closed : a'.sm.closed = a.sm.closed ++ jl.map (·.1)
  removed : a'.sm.removed = a.sm.removed
  cfgEq : a'.sm.cfg = a.sm.cfg
  maxItems : a'.sm.cache.maxItems = a.sm.cache.maxItems
  capacity : a'.sm.cache.capacity = a.sm.cache.capacity

/-- `more` are the journal records after `jl`, `nxt` the offset lists of the chunks after `jl`: the gap check
of the first of them will pass. The last conjunct: after at least one chunk the accumulator is `a1.loaded id rs sm2`
for the last chunk loaded, and `PM` held before it was closed (`openStore_inv` hands this on; `loads_prefixC9S`
reads `prevEnd` off it). -/
theorem loads_inv {PB PM : List JOp → OpenAcc → Prop} (hP : LoadStep PB PM) (cfg : Cfg)
    (more : List JOp) (nxt : List (List Nat)) :
    ∀ (jl : List (Closed × List Record)) (a : OpenAcc) (st' : RState) (l' : Log), RepC jl a.sm.st a.sm.log st' l' →
    (∀ p ∈ jl, HoldsChunk a.fs p) →
    Chained (jl.map (·.1.offsets) ++ nxt) →
    (∀ o, (jl.map (·.1.offsets) ++ nxt).head? = some o → gapCheck a (o.headD 0) = false) →
    PB (flatOps jl ++ more) a →
    ∃ a', LoadedTo cfg jl a a' st' l' ∧
      (∀ o, nxt.head? = some o → gapCheck a' (o.headD 0) = false) ∧ PB more a' ∧
      (jl ≠ [] → ∃ (a1 : OpenAcc) (id : Nat) (rs : List Record) (sm2 : Store),
        a' = a1.loaded id rs sm2 ∧ PM more { a1.pre with sm := sm2 }) := by
  intro jl
  induction jl with
  | nil =>
    intro a st' l' h _ _ hgap h0
    obtain ⟨rfl, rfl⟩ := h
    exact ⟨a, ⟨Loads.nil a, rfl, rfl, by simp, rfl, rfl, rfl, rfl⟩, hgap, h0, fun h => absurd rfl h⟩
  | cons p rest ih =>
    intro a st' l' h hfiles hch hgap h0
    obtain ⟨c, rs⟩ := p
    obtain ⟨st1, l1, g1, g2, g3, g4, _, g5⟩ := h
    obtain ⟨f, hf, F⟩ := hfiles (c, rs) List.mem_cons_self
    have hoffs : offsetsFrom c.id (sizes rs) = c.offsets := F.offsets
    simp only at hf
    simp only [flatOps, List.append_assoc] at h0
    -- replay the records of `c` to `sm2` (`replay_inv`, with `PM` riding along from `hP.pre`) …
    obtain ⟨sm2, hrep, k1, k2, k3, k4⟩ :=
      replay_inv (P := fun ops sm => PM ops { a.pre with sm := sm })
        (fun op ops sm => hP.step op ops { a.pre with sm := sm }) c.id (flatOps rest ++ more) rs c.id
        a.pre.sm st1 l1 (hP.pre _ a h0) g1 g2
    have hcl1 : (a.loaded c.id rs sm2).sm.closed = a.sm.closed ++ [c] := by
      simp only [OpenAcc.loaded, k3.closed, OpenAcc.pre, hoffs, k1, ← g3]
    have hgap1 : ∀ o, (rest.map (·.1.offsets) ++ nxt).head? = some o →
        gapCheck (a.loaded c.id rs sm2) (o.headD 0) = false := by
      intro o ho
      apply gapCheck_loaded
      rw [hoffs]
      simp only [List.map_cons, List.cons_append] at hch
      generalize rest.map (·.1.offsets) ++ nxt = L at hch ho
      cases L with
      | nil => cases ho
      | cons o' L' => cases ho; exact hch.1
    -- … close the chunk (`hP.loaded` gives `PB` back), and go on from `a.loaded c.id rs sm2` by the hypothesis
    obtain ⟨a', m, m10, m11, m12⟩ :=
      ih (a.loaded c.id rs sm2) st' l' (by rw [show (a.loaded c.id rs sm2).sm.st = st1 from k1,
          show (a.loaded c.id rs sm2).sm.log = l1 from k2]; exact g5)
        (fun q hq => by
          obtain ⟨f0, q1, Q⟩ := hfiles q (List.mem_cons_of_mem _ hq)
          obtain ⟨f', r1, r2, _⟩ := Fs.find_sync_some c.id q1
          exact ⟨f', r1, { Q with data := r2.trans Q.data }⟩)
        hch.tail hgap1 (hP.loaded _ a c.id rs sm2 k3
          (k2 ▸ idxRun_mem_chunk (fun op hop => (opsFrom_off_lt hop).2.2) g2) h0 k4)
    refine ⟨a', ⟨Loads.cons (hgap c.offsets rfl) hf F.data F.wf F.ne hrep m.loads, m.st, m.log,
      by rw [m.closed, hcl1]; simp, m.removed.trans k3.removed, m.cfgEq.trans k3.cfg,
      m.maxItems.trans k3.maxItems, m.capacity.trans k3.capacity⟩, m10, m11, fun _ => ?_⟩
    · cases rest with
      | nil => cases m.loads; exact ⟨a, c.id, rs, sm2, rfl, k4⟩
      | cons q rest' => exact m12 (by simp)

/-- What the loop of `open` did on a directory described chunk by chunk (`openLoop_image_inv`): it loaded the
chunks `jc` (accumulator `a1`: state `stC`, index map `lC`), replayed the records `rs` of the newest chunk `oid`
to `sm2` (state `stJ`, index map `lJ`) and closed that chunk or, without a record, removed it. -/
structure ImageLoop (cfg : Cfg) (fs : Fs) (jc : List (Closed × List Record)) (oid : Nat) (rs : List Record)
    (tr : Option Nat) (stC : RState) (lC : Log) (stJ : RState) (lJ : Log) (a1 : OpenAcc) (sm2 : Store) :
    Prop where
  loaded : LoadedTo cfg jc { sm := emptyStore cfg, fs := fs } a1 stC lC
  gap : gapCheck a1 oid = false
  replay : replay oid rs (offsetsFrom oid (sizes rs)) a1.pre.sm = .ok sm2
  st : sm2.st = stJ
  log : sm2.log = lJ
  same : SameRest a1.pre.sm sm2
  loop : openLoop cfg fs.linkedIds { sm := emptyStore cfg, fs := fs } =
    if rs = [] then (.ok (a1.dropHeadless oid tr), a1.dropHeadless oid tr)
    else (.ok (a1.kept oid rs tr sm2), a1.kept oid rs tr sm2)

section
variable {cfg : Cfg} {fs : Fs} {jc : List (Closed × List Record)} {oid : Nat} {rs : List Record}
  {tr : Option Nat} {stC stJ : RState} {lC lJ : Log} {a1 : OpenAcc} {sm2 : Store}

theorem ImageLoop.loads (h : ImageLoop cfg fs jc oid rs tr stC lC stJ lJ a1 sm2) :
    Loads cfg (jc.map (·.1.id)) { sm := emptyStore cfg, fs := fs } a1 := h.loaded.loads

theorem ImageLoop.closed (h : ImageLoop cfg fs jc oid rs tr stC lC stJ lJ a1 sm2) :
    a1.sm.closed = jc.map (·.1) := by simpa [emptyStore] using h.loaded.closed

theorem ImageLoop.removed (h : ImageLoop cfg fs jc oid rs tr stC lC stJ lJ a1 sm2) : a1.sm.removed = [] :=
  h.loaded.removed

/-- `a1.pre` sets the eviction boundary and nothing else. -/
theorem ImageLoop.limits_pre (h : ImageLoop cfg fs jc oid rs tr stC lC stJ lJ a1 sm2) :
    LimitsOf cfg a1.pre.sm := ⟨h.loaded.cfgEq, h.loaded.maxItems, h.loaded.capacity⟩

theorem ImageLoop.limits_sm2 (h : ImageLoop cfg fs jc oid rs tr stC lC stJ lJ a1 sm2) : LimitsOf cfg sm2 :=
  h.limits_pre.same h.same

end

/-- The loop of `open` on a directory described chunk by chunk: undamaged files `jc` that replay, then a
newest chunk `oid` of which only what `Chunk::open` returns is known (`hoc`). Clean directories, crash images,
torn and headless newest chunks differ only in how they know `hoc` (`openChunk_tail`). `PB` holds of the
accumulator `a1` after `jc`, `PM` at the end of the newest chunk. -/
theorem openLoop_image_inv {PB PM : List JOp → OpenAcc → Prop} (hP : LoadStep PB PM) (cfg : Cfg)
    (more : List JOp) {fs : Fs} {jc : List (Closed × List Record)} {oid : Nat} {o : List Nat}
    {g0 : File} {rs : List Record} {tr : Option Nat} {stC stJ : RState} {lC lJ : Log}
    (hids : fs.linkedIds = jc.map (·.1.id) ++ [oid])
    (hfiles : ∀ p ∈ jc, HoldsChunk fs p)
    (hrep : RepC jc {} [] stC lC)
    (hch : Chained (jc.map (·.1.offsets) ++ [o])) (ho : o.headD 0 = oid)
    (hg0 : fs.find oid = some g0)
    (hoc : openChunk cfg oid g0.data = .ok ⟨rs, offsetsFrom oid (sizes rs), tr⟩)
    (hstJ : stRun rs stC = some stJ) (hlJ : idxRun (chunkOps oid rs) lC = some lJ)
    (h0 : PB (flatOps jc ++ (chunkOps oid rs ++ more)) { sm := emptyStore cfg, fs := fs }) :
    ∃ a1 sm2, ImageLoop cfg fs jc oid rs tr stC lC stJ lJ a1 sm2 ∧ PB (chunkOps oid rs ++ more) a1 ∧
      PM more { a1.pre with sm := sm2 } := by
  obtain ⟨a1, m, m10, m11, _⟩ :=
    loads_inv hP cfg (chunkOps oid rs ++ more) [o] jc { sm := emptyStore cfg, fs := fs } stC lC hrep
      hfiles hch (fun _ _ => rfl) h0
  obtain ⟨sm2, hrep2, k1, k2, k3, k4⟩ :=
    replay_inv (P := fun ops sm => PM ops { a1.pre with sm := sm })
      (fun op ops sm => hP.step op ops { a1.pre with sm := sm }) oid more rs oid a1.pre.sm stJ lJ
      (hP.pre _ a1 m11) (m.st ▸ hstJ) (m.log ▸ hlJ)
  have hg : gapCheck a1 oid = false := ho ▸ m10 o rfl
  exact ⟨a1, sm2, ⟨m, hg, hrep2, k1, k2, k3, hids ▸ m.loads.openLoop_last hg hg0 hoc hrep2⟩, m11, k4⟩

/-- What a successful `openStore` returned on such a directory: `sm2` is the store reached at the end of the newest
chunk; the open chunk is `oid` (reused) or a later, fresh one. -/
structure ImageStore (jc : List (Closed × List Record)) (oid : Nat) (sm2 s' : Store) (w' : Worker) : Prop where
  cache : s'.cache = sm2.cache
  st : s'.st = sm2.st
  log : s'.log = sm2.log
  worker : w' = { files := [⟨s'.openId, prevLastOf s'.closed⟩] }
  closed : jc.map (·.1) <+: s'.closed
  openId : oid ≤ s'.openId

theorem openStore_image_inv {PB PM : List JOp → OpenAcc → Prop} (hP : LoadStep PB PM) (cfg : Cfg)
    (more : List JOp) {fs : Fs} {jc : List (Closed × List Record)} {oid : Nat} {o : List Nat}
    {g0 : File} {rs : List Record} {tr : Option Nat} {stC stJ : RState} {lC lJ : Log}
    (hids : fs.linkedIds = jc.map (·.1.id) ++ [oid])
    (hfiles : ∀ p ∈ jc, HoldsChunk fs p)
    (hrep : RepC jc {} [] stC lC)
    (hch : Chained (jc.map (·.1.offsets) ++ [o])) (ho : o.headD 0 = oid)
    (hg0 : fs.find oid = some g0)
    (hoc : openChunk cfg oid g0.data = .ok ⟨rs, offsetsFrom oid (sizes rs), tr⟩)
    (hstJ : stRun rs stC = some stJ) (hlJ : idxRun (chunkOps oid rs) lC = some lJ)
    (h0 : PB (flatOps jc ++ (chunkOps oid rs ++ more)) { sm := emptyStore cfg, fs := fs })
    {s' : Store} {w' : Worker} {fs' : Fs} {evs : List Ev}
    (hopen : openStore cfg fs = (.ok (s', w'), fs', evs)) :
    ∃ a1 sm2, ImageLoop cfg fs jc oid rs tr stC lC stJ lJ a1 sm2 ∧ PB (chunkOps oid rs ++ more) a1 ∧
      PM more { a1.pre with sm := sm2 } ∧ ImageStore jc oid sm2 s' w' := by
  obtain ⟨a1, sm2, L, m9, k4⟩ :=
    openLoop_image_inv hP cfg more hids hfiles hrep hch ho hg0 hoc hstJ hlJ h0
  obtain ⟨x, a, hl, c1, c2, c3, c4, c5⟩ := openStore_ok_shape hopen
  have hcl2 : sm2.closed = jc.map (·.1) := L.same.closed.trans L.closed
  have hloop := L.loop
  have hrep2 := L.replay
  refine ⟨a1, sm2, L, m9, k4, ?_⟩
  by_cases hnil : rs = []
  · subst hnil
    cases hrep2
    rw [if_pos rfl, hl] at hloop
    cases hloop
    rw [a1.dropHeadless_sm] at c1 c2 c3 c5
    suffices h : jc.map (·.1) <+: s'.closed ∧ oid ≤ s'.openId from ⟨c1, c2, c3, c4, h.1, h.2⟩
    rcases c5 with ⟨_, _, h, _⟩ | ⟨h1, h2⟩
    · cases h
    · rw [h1, h2]; exact ⟨hcl2 ▸ List.prefix_refl _, Nat.le_refl _⟩
  · rw [if_neg hnil, hl] at hloop
    cases hloop
    suffices h : jc.map (·.1) <+: s'.closed ∧ oid ≤ s'.openId from ⟨c1, c2, c3, c4, h.1, h.2⟩
    rcases c5 with ⟨lastC, h1, _, h2, h3⟩ | ⟨h1, h2⟩
    · simp only [OpenAcc.kept, List.getLast?_append, List.getLast?_singleton, Option.some_or,
        Option.some.injEq, List.dropLast_concat] at h1 h2
      subst h1
      rw [h2, h3]
      exact ⟨hcl2 ▸ List.prefix_refl _, Nat.le_of_eq (offsetsFrom_headD _ _).symm⟩
    · rw [h1, h2]
      exact ⟨hcl2 ▸ List.prefix_append _ _, by simp [OpenAcc.kept, lastOff_sized]⟩

/-- The live chunks with their records as one list, the open chunk (with the current state as
its closing state) last: what `open` will load. -/
def liveChunksC3 (s : Store) (jc : List (Closed × List Record)) (jo : List Record) :
    List (Closed × List Record) :=
  jc ++ [((⟨s.openOffsets, s.st⟩ : Closed), jo)]

theorem RepG.liveChunks_offsets {s : Store} {fs : Fs} {w : Worker} {jc : List (Closed × List Record)}
    {jo : List Record} (g : RepG s fs w jc jo) : (liveChunksC3 s jc jo).map (·.1.offsets) = s.chunks := by
  simp only [liveChunksC3, Store.chunks, List.map_append, List.map_cons, List.map_nil, ← g.closedEq,
    List.map_map]
  rfl

theorem RepG.liveChunks_ids {s : Store} {fs : Fs} {w : Worker} {jc : List (Closed × List Record)}
    {jo : List Record} (g : RepG s fs w jc jo) : (liveChunksC3 s jc jo).map (·.1.id) = s.chunkIds := by
  simp only [Store.chunkIds, ← g.liveChunks_offsets, List.map_map]
  rfl

theorem liveChunks_flatOps (s : Store) (jc : List (Closed × List Record)) (jo : List Record) :
    flatOps (liveChunksC3 s jc jo) = allOps s jc jo := by
  simp only [liveChunksC3, flatOps_append, flatOps, List.append_nil, allOps]
  rfl

theorem RepG.load_files {s : Store} {fs : Fs} {w : Worker} {jc : List (Closed × List Record)}
    {jo : List Record} (g : RepG s fs w jc jo) (hj : JInv s fs w)
    (hinf : ∀ id, w.inflight id = []) (hp : s.pending = []) :
    ∀ p ∈ liveChunksC3 s jc jo, HoldsChunk fs p := by
  have hfile : ∀ (offs : List Nat) (rs : List Record) (id : Nat), id ∈ Fs.ids fs →
      ChunkRecs offs rs (chunkBytes s fs w id) → offs.headD 0 = id →
      ∃ f, fs.find id = some f ∧ ChunkFile f (⟨offs, s.st⟩, rs) := by
    intro offs rs id hid hc hhd
    have hsome := (Fs.find_isSome_iff fs id).mpr hid
    cases hf : fs.find id with
    | none => rw [hf] at hsome; cases hsome
    | some f =>
      obtain ⟨h1, h2, h3, h4⟩ := hc
      have hfd : chunkBytes s fs w id = f.data := by simp [chunkBytes, hinf, hp, fdata, hf]
      exact ⟨f, rfl, { data := hfd ▸ h4, wf := h1, head := h2, offsets := h3 }⟩
  intro p hp'
  rcases List.mem_append.mp hp' with h1 | h1
  · obtain ⟨f, hf, F⟩ := hfile p.1.offsets p.2 p.1.id (hj.closedFs _ (g.mem_closed h1)) (g.closedRecs p h1) rfl
    exact ⟨f, hf, ⟨F.data, F.wf, F.head, F.offsets⟩⟩
  · cases List.mem_singleton.mp h1
    exact hfile s.openOffsets jo s.openId (hj.annFs _ hj.openId_mem) g.openRecs rfl

theorem RInv.load_data {s : Store} {fs : Fs} {w : Worker} {r : RefLog}
    (h : RInv s fs w r) (hinf : ∀ id, w.inflight id = []) (hp : s.pending = []) :
    ∃ jc jo, RepG s fs w jc jo ∧ RepC (liveChunksC3 s jc jo) {} [] s.st s.log ∧
      ∀ p ∈ liveChunksC3 s jc jo, HoldsChunk fs p := by
  obtain ⟨jc, jo, g, _, _⟩ := h.rep
  obtain ⟨stC, lC, g1, g2, g3, g4⟩ := g.run
  exact ⟨jc, jo, g, g1.snoc g2 g3 rfl h.abs.log_below g4, g.load_files h.j hinf hp⟩

/-- What `open` with configuration `cfg` returns (`s'`) on the files of the quiescent flushed store `s`. Nothing is
said of the cache contents. -/
structure ReopenedAs (cfg : Cfg) (s s' : Store) : Prop extends LimitsOf cfg s' where
  st : s'.st = s.st
  log : s'.log = s.log
  closed : s'.closed = s.closed
  openOffsets : s'.openOffsets = s.openOffsets
  pending : s'.pending = []
  removed : s'.removed = []

/-- The accumulator `a'` in which the loop ends on the files of the quiescent flushed store `s`: every chunk of
`s` closed, the open one last; `openStore` returns `a'.sm` with the last chunk taken off the table again. -/
structure ReopenedAcc (cfg : Cfg) (s : Store) (a' : OpenAcc) : Prop where
  store : ReopenedAs cfg s { a'.sm with closed := s.closed, openOffsets := s.openOffsets, pending := [] }
  closed : a'.sm.closed = s.closed ++ [⟨s.openOffsets, s.st⟩]

theorem openStore_inv {PB PM : List JOp → OpenAcc → Prop} (hP : LoadStep PB PM)
    (cfg : Cfg) {s : Store} {fs : Fs} {w : Worker} {jc : List (Closed × List Record)}
    {jo : List Record} (g : RepG s fs w jc jo) (hj : JInv s fs w)
    (hinf : ∀ id, w.inflight id = []) (hp : s.pending = [])
    (hlinked : fs.linkedIds = s.chunkIds)
    (h0 : PB (allOps s jc jo) { sm := emptyStore cfg, fs := fs }) :
    ∃ a', openStore cfg fs =
        (.ok ({ a'.sm with closed := s.closed, openOffsets := s.openOffsets, pending := [] },
          { files := [⟨s.openId, prevLastOf s.closed⟩] }), fs.syncAll s.chunkIds, syncEvs s.chunkIds) ∧
      ReopenedAcc cfg s a' ∧ PB [] a' ∧
      ∃ (a1 : OpenAcc) (id : Nat) (rs : List Record) (sm2 : Store),
        a' = a1.loaded id rs sm2 ∧ PM [] { a1.pre with sm := sm2 } := by
  have hfiles := g.load_files hj hinf hp
  have hmapoffs := g.liveChunks_offsets
  have hmapids := g.liveChunks_ids
  obtain ⟨stC, lC, g1, g2, g3, _⟩ := g.run
  obtain ⟨f, hf, F⟩ := hfiles (⟨s.openOffsets, s.st⟩, jo) (by simp [liveChunksC3])
  change fs.find s.openId = some f at hf
  have hoffs : offsetsFrom s.openId (sizes jo) = s.openOffsets := F.offsets
  have hne : jo ≠ [] := F.ne
  have hoc := (show f.data = encAll jo from F.data) ▸ openChunk_clean cfg s.openId F.wf
  simp only [liveChunksC3, List.map_append, List.map_cons, List.map_nil] at hmapoffs hmapids
  change _ ++ [s.openId] = _ at hmapids
  obtain ⟨a1, sm2, L, m9, k4⟩ :=
    openLoop_image_inv hP cfg [] (by rw [hlinked, ← hmapids])
      (fun p hp' => hfiles p (List.mem_append_left _ hp')) g1
      (hmapoffs ▸ hj.chained)
      (show s.openOffsets.headD 0 = s.openId from rfl) hf hoc g2 g3
      (by rw [List.append_nil]; exact h0)
  have hloop := L.loop
  rw [if_neg hne] at hloop
  have hcl : (a1.kept s.openId jo none sm2).sm.closed = s.closed ++ [⟨s.openOffsets, s.st⟩] := by
    show sm2.closed ++ [⟨offsetsFrom s.openId (sizes jo), sm2.st⟩] = _
    rw [L.same.closed, L.st, hoffs]
    show a1.sm.closed ++ _ = _
    rw [L.closed, g.closedEq]
  obtain ⟨hfs', hevs'⟩ := a1.kept_fs_evs s.openId jo none sm2
  rw [L.loads.fs_evs.1, Fs.cut, ← Fs.syncAll_concat, hmapids] at hfs'
  rw [L.loads.fs_evs.2, cutEvs, List.append_nil, List.nil_append, ← syncEvs_concat, hmapids] at hevs'
  exact ⟨_, openStore_of_loads cfg hloop hcl rfl hfs' hevs',
    { closed := hcl
      store :=
        { toLimitsOf := L.limits_sm2.congr rfl rfl, st := L.st, log := L.log, closed := rfl, openOffsets := rfl
          pending := rfl, removed := L.same.removed.trans L.removed } },
    hP.loaded [] a1 s.openId jo sm2 L.same
      (L.log ▸ idxRun_mem_chunk (fun op hop => (opsFrom_off_lt hop).2.2) (L.loaded.log ▸ g3)) m9 k4,
    a1, s.openId, jo, sm2, rfl, k4⟩

theorem openStore_inv_sm {P : List JOp → Store → Prop} (hstep : ReplayStep P) (hcongr : ReplayCongr P)
    (cfg : Cfg) {s : Store} {fs : Fs} {w : Worker} {jc : List (Closed × List Record)}
    {jo : List Record} (g : RepG s fs w jc jo) (hj : JInv s fs w)
    (hinf : ∀ id, w.inflight id = []) (hp : s.pending = [])
    (hlinked : fs.linkedIds = s.chunkIds) (h0 : P (allOps s jc jo) (emptyStore cfg)) :
    ∃ s' , openStore cfg fs = (.ok (s', { files := [⟨s.openId, prevLastOf s.closed⟩] }),
        fs.syncAll s.chunkIds, syncEvs s.chunkIds) ∧ ReopenedAs cfg s s' ∧ P [] s' := by
  obtain ⟨a', k0, k, k9, _⟩ :=
    openStore_inv (LoadStep.of_store hstep hcongr) cfg g hj hinf hp hlinked h0
  exact ⟨_, k0, k.store, hcongr _ a'.sm _ rfl rfl rfl rfl rfl rfl k9⟩

theorem openStore_of_rep (cfg : Cfg) {s : Store} {fs : Fs} {w : Worker} {r : RefLog}
    (h : RInv s fs w r) (hinf : ∀ id, w.inflight id = []) (hp : s.pending = [])
    (hlinked : fs.linkedIds = s.chunkIds) :
    ∃ s' , openStore cfg fs = (.ok (s', { files := [⟨s.openId, prevLastOf s.closed⟩] }),
        fs.syncAll s.chunkIds, syncEvs s.chunkIds) ∧ ReopenedAs cfg s s' := by
  obtain ⟨jc, jo, g, _, _⟩ := h.rep
  obtain ⟨a', k0, k, _⟩ := openStore_inv .trivial cfg g h.j hinf hp hlinked True.intro
  exact ⟨_, k0, k.store⟩

end RaftLog
