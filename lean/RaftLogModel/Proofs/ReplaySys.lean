/-
C02: the replay invariant `RInv` under every step. The call is `call_accepted` at `RInv.applied/.rotated/.popped`
(`call_R`); what happens between calls leaves every chunk's byte string alone (`SameChunks`), and that is all
`Rep` looks at (`RInv.frame`). `RSys y r` is the system-level form, `run_RSys` its history theorem.
-/
import RaftLogModel.Proofs.Replay
import RaftLogModel.Proofs.CallRef
import RaftLogModel.Proofs.History
namespace RaftLog

theorem RInv.popped {s : Store} {fs : Fs} {w : Worker} {r : RefLog} (h : RInv s fs w r) (upto : LogId)
    (habove : ∀ e ∈ s.log, optLt (some upto) (some e.2.id) = true) : RInv (s.popped upto) fs w r :=
  ⟨JInv.callerInv.popped upto h.j, h.abs.of_fields rfl rfl rfl, h.rep.pop upto habove rfl rfl rfl rfl rfl⟩

theorem call_R {s : Store} {fs : Fs} {w : Worker} {r r' : RefLog} (fsHas : Nat → Bool) {op : Op}
    (h : RInv s fs w r) (hfs : ∀ i, s.openEnd ≤ i → fsHas i = false)
    (hl : r.legal op = true) (hc : r.call op = .ok r') (hsm : op.small) (hwf : op.WF) :
    ∃ seg s' effs, s.call fsHas op = (.ok seg, s', effs) ∧
      RInv s' (effFs effs fs) (w.push (effQ effs)) r' := by
  obtain ⟨seg, s', effs, heq, hi, _⟩ := call_accepted (I := fun r s fs w => RInv s fs w r) fsHas
    (abs := RInv.abs) (applied := fun h ok hw => h.applied ok (hw hwf h.j.stWF h.j.logWF))
    (rotated := fun h _ => h.rotated) (popped := fun upto h ha => h.popped upto ha) h hfs hl hc hsm
  exact ⟨seg, s', effs, heq, hi⟩

/-- `s'` is `s` up to cache, pending buffer, removal list and hit/miss counters. -/
structure Store.SameJournal (s s' : Store) : Prop where
  cfg : s'.cfg = s.cfg
  st : s'.st = s.st
  log : s'.log = s.log
  openOffsets : s'.openOffsets = s.openOffsets
  closed : s'.closed = s.closed

/-- What happens between calls moves bytes from the pending buffer to the queue and from the queue to the
files, and nothing else of the journal: the journal fields of the store, the set of files and every
chunk's byte string (file ++ in flight ++ pending) stay. -/
structure SameChunks (s : Store) (fs : Fs) (w : Worker) (s' : Store) (fs' : Fs) (w' : Worker) : Prop where
  journal : s.SameJournal s'
  ids : Fs.ids fs' = Fs.ids fs
  bytes : ∀ id, chunkBytes s' fs' w' id = chunkBytes s fs w id

theorem SameChunks.flush {s : Store} {fs : Fs} {w : Worker} (h : JInv s fs w) (cb : Option Nat) :
    SameChunks s fs w (s.flush cb).1 (effFs (s.flush cb).2 fs) (w.push (effQ (s.flush cb).2)) :=
  ⟨⟨rfl, rfl, rfl, rfl, rfl⟩, by rw [effFs_flush], flush_bytes h cb⟩

theorem SameChunks.settle (s : Store) (fs : Fs) (w : Worker) : SameChunks s fs w s fs w.settle :=
  ⟨⟨rfl, rfl, rfl, rfl, rfl⟩, rfl, settle_bytes _ _ _⟩

theorem SameChunks.worker (s : Store) {c c' : WCtx} (g : StepGood c c') (hids : Fs.ids c'.fs = Fs.ids c.fs)
    (ca : Cache) : SameChunks s c.fs c.w { s with cache := ca } c'.fs c'.w :=
  ⟨⟨rfl, rfl, rfl, rfl, rfl⟩, hids, g.chunkBytes_eq _⟩

theorem SameChunks.cache (s : Store) (fs : Fs) (w : Worker) (ca : Cache) :
    SameChunks s fs w { s with cache := ca } fs w :=
  ⟨⟨rfl, rfl, rfl, rfl, rfl⟩, rfl, fun id => chunkBytes_congr _ _ id rfl rfl⟩

/-- A further invariant `K` that sees the journal only through what `SameChunks` keeps: one transport
lemma is its whole frame, on top of an `I` that gives the journal invariant. -/
theorem SysFrame.and_chunks {I K : Store → Fs → Worker → Prop} (hI : SysFrame I)
    (hj : ∀ {s fs w}, I s fs w → JInv s fs w)
    (tr : ∀ {s fs w s' fs' w'}, K s fs w → SameChunks s fs w s' fs' w' → K s' fs' w') :
    SysFrame fun s fs w => I s fs w ∧ K s fs w :=
  hI.and (flush := fun cb h k => tr k (.flush (hj h) cb)) (settle := fun _ k => tr k (.settle _ _ _))
    (wstep := fun out h k _ hnd => tr k (.worker _ ((hj h).step_good out hnd) (WCtx.step_ids _ out) _))
    (drain := fun _ k => tr k (.cache _ _ _ _))

theorem Rep.sameChunks {s s' : Store} {fs fs' : Fs} {w w' : Worker} {r : RefLog} (h : Rep s fs w r)
    (c : SameChunks s fs w s' fs' w') : Rep s' fs' w' r :=
  h.transport c.journal.st c.journal.log c.journal.openOffsets c.journal.closed c.bytes

theorem flush_R {s : Store} {fs : Fs} {w : Worker} {r : RefLog} (h : RInv s fs w r) (cb : Option Nat) :
    RInv (s.flush cb).1 (effFs (s.flush cb).2 fs) (w.push (effQ (s.flush cb).2)) r :=
  ⟨flush_J h.j cb, h.abs.of_fields rfl rfl rfl, h.rep.sameChunks (.flush h.j cb)⟩

theorem RInv.settle {s : Store} {fs : Fs} {w : Worker} {r : RefLog} (h : RInv s fs w r) :
    RInv s fs w.settle r :=
  ⟨h.j.settle, h.abs, h.rep.sameChunks (.settle _ _ _)⟩

theorem RInv.of_cache {s : Store} {fs : Fs} {w : Worker} {r : RefLog} (h : RInv s fs w r)
    (c : Cache) : RInv { s with cache := c } fs w r :=
  ⟨h.j.of_fields rfl rfl rfl rfl rfl, h.abs.of_fields rfl rfl rfl, h.rep.sameChunks (.cache _ _ _ c)⟩

theorem RInv.worker {s : Store} {c c' : WCtx} {r : RefLog} (h : RInv s c.fs c.w r)
    (g : StepGood c c') (hids : Fs.ids c'.fs = Fs.ids c.fs) : RInv s c'.fs c'.w r :=
  ⟨h.j.worker g hids, h.abs, h.rep.sameChunks (.worker s g hids s.cache)⟩

/-- The replay invariant of a system with a live store and worker, relative to the reference log `r`. -/
def RSys (y : Sys) (r : RefLog) : Prop :=
  ∃ s, y.store = some s ∧ y.worker.pc ≠ .dead ∧ RInv s y.fs y.worker r

theorem RSys.J {y : Sys} {r : RefLog} (h : RSys y r) : J y :=
  Sys.Live.imp (I := (RInv · · · r)) h RInv.j

theorem RSys.abs {y : Sys} {r : RefLog} (h : RSys y r) : ∃ s, y.store = some s ∧ Abs s r :=
  h.imp fun _ k => ⟨k.1, k.2.2.abs⟩

theorem RInv.frame (r : RefLog) : SysFrame (RInv · · · r) where
  flush cb h := flush_R h cb
  settle h := h.settle
  wstep out h _ hnd := (h.worker (h.j.step_good out hnd) (WCtx.step_ids _ out)).of_cache _
  drain h := h.of_cache _

/-- `call_R` in the form of the lifting theorems. -/
theorem RInv.call {s : Store} {fs : Fs} {w : Worker} {r r' : RefLog} {op : Op}
    (hop : op.WF ∧ op.small) (hl : r.legal op = true) (hc : r.call op = .ok r') (h : RInv s fs w r) :
    RInv (s.call fs.has op).2.1 (effFs (s.call fs.has op).2.2 fs)
      (w.push (effQ (s.call fs.has op).2.2)) r' := by
  obtain ⟨_, _, _, heq, hi⟩ := call_R fs.has h (Fs.has_false_of_lt h.j.fsLt) hl hc hop.2 hop.1
  rw [heq]
  exact hi

theorem RSys.call {y : Sys} {r r' : RefLog} (h : RSys y r) {op : Op}
    (hl : r.legal op = true) (hc : r.call op = .ok r') (hsm : op.small) (hwf : op.WF) :
    RSys (y.call op).2.1 r' ∧ ∃ seg, (y.call op).1 = .ok seg := by
  obtain ⟨s, hs, hd, hi⟩ := h
  obtain ⟨seg, s', effs, heq, hi'⟩ := call_R y.fs.has hi (Fs.has_false_of_lt hi.j.fsLt) hl hc hsm hwf
  rw [(Sys.call_eq y op hs hd).1, (Sys.call_eq y op hs hd).2, heq]
  exact ⟨⟨s', rfl, mt (Worker.settle_dead_iff _).1 hd, hi'.settle⟩, seg, rfl⟩

theorem RSys.flush {y : Sys} {r : RefLog} (h : RSys y r) (cb : Option Nat) :
    RSys (y.flush cb).2.1 r :=
  Sys.Live.flush (RInv.frame r) h cb

theorem RSys.worker {y : Sys} {r : RefLog} (h : RSys y r) (out : Outcome)
    (hnd : (y.workerStep out).1.worker.pc ≠ .dead) : RSys (y.workerStep out).1 r :=
  Sys.Live.worker (RInv.frame r) h out hnd

theorem RSys.workerIdle {y : Sys} {r : RefLog} (h : RSys y r)
    (hnd : y.workerIdle.1.worker.pc ≠ .dead) : RSys y.workerIdle.1 r :=
  Sys.Live.workerIdle (RInv.frame r) h hnd

theorem RSys.drain {y : Sys} {r : RefLog} (h : RSys y r) : RSys y.drain r :=
  Sys.Live.drain (RInv.frame r) h

theorem RepG.fresh (cfg : Cfg) : RepG (Store.fresh cfg) Fs.fresh Worker.fresh [] [.state {}] := by
  refine ⟨rfl, fun _ hp => absurd hp List.not_mem_nil, ?_, {}, [], ⟨rfl, rfl⟩, by simp [stRun, RState.apply, emptyStore],
    by simp [chunkOps, opsFrom, idxRun, idxLogO, emptyStore], fun hne => absurd rfl hne⟩
  show ChunkRecs [0, 0 + _] _ (chunkBytes (Store.fresh cfg) Fs.fresh Worker.fresh 0)
  rw [chunkBytes_fresh]
  exact ChunkRecs.fresh 0 RState.wf_empty

theorem RInv.fresh (cfg : Cfg) : RInv (Store.fresh cfg) Fs.fresh Worker.fresh {} := by
  refine ⟨JInv.fresh cfg, (Refines.fresh cfg).abs, [], [.state {}], RepG.fresh cfg,
    fun _ he => absurd he List.not_mem_nil, ?_⟩
  intro hd tl hall x _
  simp only [allOps, flatOps, chunkOps, opsFrom, List.nil_append, List.cons.injEq] at hall
  rw [← hall.2]; trivial

theorem fresh_RSys (cfg : Cfg) : RSys (Sys.fresh cfg) {} :=
  Sys.Live.fresh (I := (RInv · · · {})) (RInv.fresh cfg)

theorem run_RSys (steps : List Step) : ∀ (y : Sys) (r r' : RefLog), RSys y r →
    (∀ st ∈ steps, st.journal = true) → r.run (stepOps steps) = some r' →
    (∀ op ∈ stepOps steps, op.WF ∧ op.small) → (y.run steps).worker.pc ≠ .dead →
    RSys (y.run steps) r' :=
  fun _ _ _ h hst hr hwf hnd =>
    Sys.Live.run_ref (I := fun r s fs w => RInv s fs w r) RInv.frame RInv.call steps h hst hr hwf hnd

end RaftLog
