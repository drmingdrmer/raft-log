/-
C03, the ghost store: a chunk that a purge dropped from the chunk table keeps its file until the worker unlinks
it; `s.liftC3b cs` is `s` with such chunks `cs` put back in front of its chunk table. The caller thread looks at
the closed chunks only in `popObsolete` (purge), so the lift follows its moves: `Store.liftC3b_applied` (by
definition), `Store.liftC3b_rotated`, `flush_lift_C3b`. It does not follow `popped`, which would pop the chunks put
back: the ghost invariant is proved under a call on the real store (`GInvC3b.call`). Also here: what the caller
does to the ids still to unlink (a call sends no removal request, a flush sends the removal list).
-/
import RaftLogModel.Proofs.ReplayLinked
namespace RaftLog

def Store.liftC3b (s : Store) (cs : List Closed) : Store := { s with closed := cs ++ s.closed }

@[simp] theorem Store.liftC3b_nil (s : Store) : s.liftC3b [] = s := rfl
@[simp] theorem Store.liftC3b_closed (s : Store) (cs : List Closed) :
    (s.liftC3b cs).closed = cs ++ s.closed := rfl
@[simp] theorem Store.liftC3b_st (s : Store) (cs : List Closed) : (s.liftC3b cs).st = s.st := rfl
@[simp] theorem Store.liftC3b_log (s : Store) (cs : List Closed) : (s.liftC3b cs).log = s.log := rfl
@[simp] theorem Store.liftC3b_cache (s : Store) (cs : List Closed) : (s.liftC3b cs).cache = s.cache := rfl
@[simp] theorem Store.liftC3b_openOffsets (s : Store) (cs : List Closed) :
    (s.liftC3b cs).openOffsets = s.openOffsets := rfl
@[simp] theorem Store.liftC3b_pending (s : Store) (cs : List Closed) :
    (s.liftC3b cs).pending = s.pending := rfl
@[simp] theorem Store.liftC3b_removed (s : Store) (cs : List Closed) :
    (s.liftC3b cs).removed = s.removed := rfl
@[simp] theorem Store.liftC3b_openEnd (s : Store) (cs : List Closed) :
    (s.liftC3b cs).openEnd = s.openEnd := rfl
@[simp] theorem Store.liftC3b_openId (s : Store) (cs : List Closed) :
    (s.liftC3b cs).openId = s.openId := rfl
@[simp] theorem Store.liftC3b_isOpenFull (s : Store) (cs : List Closed) :
    (s.liftC3b cs).isOpenFull = s.isOpenFull := rfl

theorem Store.liftC3b_lift (s : Store) (a b : List Closed) :
    (s.liftC3b b).liftC3b a = s.liftC3b (a ++ b) := by
  simp [Store.liftC3b, List.append_assoc]

theorem Store.liftC3b_applied (s : Store) (cs : List Closed) (rec : Record) (st : RState) :
    (s.applied rec st).liftC3b cs = (s.liftC3b cs).applied rec st := rfl

theorem Store.liftC3b_rotated (s : Store) (cs : List Closed) :
    s.rotated.liftC3b cs = (s.liftC3b cs).rotated := by
  simp [Store.rotated, Store.liftC3b, Store.openEnd]

theorem logGet_lift_C3b (s : Store) (cs : List Closed) (idx : Nat) :
    (s.liftC3b cs).logGet idx = s.logGet idx := rfl

theorem flush_lift_C3b (s : Store) (cs : List Closed) (cb : Option Nat) :
    (s.liftC3b cs).flush cb = ((s.flush cb).1.liftC3b cs, (s.flush cb).2) := rfl

theorem liftC3b_chunkIds (s : Store) (cs : List Closed) :
    (s.liftC3b cs).chunkIds = cs.map Closed.id ++ s.chunkIds := by
  rw [Store.chunkIds_eq, Store.chunkIds_eq]
  simp [Store.liftC3b_closed, List.append_assoc]

theorem toRemove_push_C3b (w : Worker) (q : List WReq) :
    (w.push q).toRemove = w.toRemove ++ rmIds q := by
  simp only [Worker.toRemove, Worker.push, ← List.append_assoc, rmIds_append]

def NoRmC3b (effs : List Eff) : Prop := rmIds (effQ effs) = []

theorem NoRmC3b.nil : NoRmC3b [] := rfl

theorem NoRmC3b.append {a b : List Eff} (ha : NoRmC3b a) (hb : NoRmC3b b) : NoRmC3b (a ++ b) := by
  unfold NoRmC3b at *
  rw [effQ_append, rmIds_append, ha, hb]; rfl

theorem NoRmC3b.tryCloseFull (s : Store) (fsHas : Nat → Bool) : NoRmC3b (s.tryCloseFull fsHas).2.2 := by
  unfold NoRmC3b
  rcases s.tryCloseFull_outcomes fsHas with ⟨_, e⟩ | ⟨_, _, e⟩ | ⟨_, _, e⟩ <;> rw [e]
  · rfl
  · rfl
  · rw [effQ_rotateEffs]
    split <;> rfl

theorem NoRmC3b.closed : EffsClosed NoRmC3b := ⟨.nil, .append, .tryCloseFull⟩

theorem NoRmC3b.appendAndApply (s : Store) (fsHas : Nat → Bool) (r : Record) :
    NoRmC3b (s.appendAndApply fsHas r).2.2 :=
  NoRmC3b.closed.appendAndApply s fsHas r

theorem NoRmC3b.call (s : Store) (fsHas : Nat → Bool) (op : Op) : NoRmC3b (s.call fsHas op).2.2 :=
  NoRmC3b.closed.call s fsHas op

theorem flush_rmIds_C3b (s : Store) (cb : Option Nat) : rmIds (effQ (s.flush cb).2) = s.removed := by
  rw [effQ_flush]
  by_cases hrm : s.removed.isEmpty = true
  · have : s.removed = [] := by simpa using hrm
    simp [rmIds, this]
  · simp [hrm, rmIds]

theorem effFs_has_mono_C3b (effs : List Eff) : ∀ (fs : Fs) (id : Nat), fs.has id = true →
    (effFs effs fs).has id = true := by
  induction effs with
  | nil => intro fs id h; exact h
  | cons e rest ih =>
    intro fs id h
    cases e with
    | create n =>
      simp only [effFs]
      apply ih
      rw [Fs.has_create]
      by_cases hx : id = n <;> simp [hx, h]
    | createFailed n => simp only [effFs]; exact ih _ _ h
    | writeHead n bs =>
      simp only [effFs]
      apply ih
      rw [Fs.has_write]; exact h
    | send q => simp only [effFs]; exact ih _ _ h

end RaftLog
