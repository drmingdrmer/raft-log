/-
C14 (busy drop), run and system level: `drop` issued while the worker still has
work leaves the system in exactly the state that `workerIdle` followed by `drop`
leaves it (`Sys.dropStore_busy_C14b`); the sender half of the channel exists
along every history without `drop`; an all-ok run keeps "no failed sync, nothing
postponed".
-/
import RaftLogModel.Proofs.BusyDropWorker
namespace RaftLog

theorem WCtx.step_senderAliveC14b (c : WCtx) (out : Outcome) :
    (c.step out).w.senderAlive = c.w.senderAlive :=
  c.step_landed_elim (P := fun w' => w'.senderAlive = c.w.senderAlive) out (fun _ _ => rfl) (fun _ => rfl)
    fun _ _ h => h

theorem WCtx.runQuiet_senderAliveC14b (n : Nat) (c : WCtx) :
    (WCtx.runQuiet n c).w.senderAlive = c.w.senderAlive :=
  WCtx.runQuiet_induct (P := fun c' => c'.w.senderAlive = c.w.senderAlive)
    (fun c' h => (c'.step_senderAliveC14b .ok).trans h) n c rfl

theorem applyEffs_senderAliveC14b (effs : List Eff) (fs : Fs) (w : Worker) (evs : List Ev) :
    (applyEffs effs fs w evs).2.2.1.senderAlive = w.senderAlive := by
  obtain ⟨q, e, _⟩ := applyEffs_worker effs fs w evs
  rw [e]

/-- Only `drop` closes the channel, and it drops the store too. -/
def SysSenderAlive (y : Sys) : Prop := y.store ≠ none → y.worker.senderAlive = true

theorem SysSenderAlive.step {y : Sys} (h : SysSenderAlive y) (st : Step) : SysSenderAlive (y.step st) :=
  Sys.step_worker_inv (I := fun w => w.senderAlive = true) (C := fun _ => True) trivial
    (fun c out _ h => (c.step_senderAliveC14b out).trans h)
    (fun effs fs w evs h => (applyEffs_senderAliveC14b effs fs w evs).trans h)
    (fun w h => w.settle_senderAlive.trans h) (fun _ => rfl) h st fun _ _ => trivial

theorem SysSenderAlive.run {y : Sys} (h : SysSenderAlive y) (steps : List Step) :
    SysSenderAlive (y.run steps) :=
  Sys.run_induct (C := fun _ => True) (fun _ st _ h => h.step st) h fun _ _ => trivial

theorem SysSenderAlive.fresh (cfg : Cfg) : SysSenderAlive (Sys.fresh cfg) := fun _ => by rw [Sys.fresh_eq]

theorem Sys.fresh_run_senderAliveC14b (cfg : Cfg) (steps : List Step)
    (hst : ∀ st ∈ steps, st.journal = true) :
    ((Sys.fresh cfg).run steps).worker.senderAlive = true := by
  refine (SysSenderAlive.fresh cfg).run steps fun h0 => ?_
  have := Sys.run_store_isSome (fun st h => Step.keepsStore_of_journal (hst st h))
    (Sys.fresh_store_isSome cfg)
  rw [h0] at this; cases this

theorem WCtx.closeC14b_quiet (c : WCtx) (h : c.w.quiet = true) : c.closeC14b.w.quiet = true := by
  rcases Worker.quiet_cases h with ⟨hpc, hqe⟩ | hpc
  · rw [WCtx.closeC14b_idle _ hpc hqe]
    rfl
  · rw [WCtx.closeC14b_of_ne _ (by simp [hpc])]
    simp [Worker.quiet, hpc]

theorem WCtx.closeC14b_not_quiet (c : WCtx) (h : c.w.quiet = false) :
    c.closeC14b = c.killC14b ∧ c.killC14b.w.quiet = false := by
  have h2 : c.killC14b.w.quiet = false := h
  refine ⟨?_, h2⟩
  by_cases hpc : c.w.pc = .idle
  · apply WCtx.closeC14b_of_queue
    intro hq
    simp [Worker.quiet, hpc, hq] at h
  · exact WCtx.closeC14b_of_ne _ hpc

theorem WCtx.runQuiet_closeC14b (n : Nat) (c : WCtx) :
    WCtx.runQuiet n c.closeC14b = (WCtx.runQuiet n c).closeC14b := by
  induction n generalizing c with
  | zero => rfl
  | succ n ih =>
    cases hq : c.w.quiet with
    | true =>
      rw [WCtx.runQuiet_of_quiet _ _ hq, WCtx.runQuiet_of_quiet _ _ (c.closeC14b_quiet hq)]
    | false =>
      obtain ⟨h1, h2⟩ := c.closeC14b_not_quiet hq
      rw [WCtx.runQuiet_succ_of_not_quiet _ _ hq, h1, WCtx.runQuiet_succ_of_not_quiet _ _ h2,
        c.step_killC14b .ok]
      exact ih _

theorem WCtx.runQuiet_addC14b (n k : Nat) (c : WCtx) (h : (WCtx.runQuiet n c).w.quiet = true) :
    WCtx.runQuiet (n + k) c = WCtx.runQuiet n c := by
  induction n generalizing c with
  | zero =>
    have : c.w.quiet = true := h
    rw [WCtx.runQuiet_of_quiet _ _ this, WCtx.runQuiet_of_quiet _ _ this]
  | succ n ih =>
    cases hq : c.w.quiet with
    | true => rw [WCtx.runQuiet_of_quiet _ _ hq, WCtx.runQuiet_of_quiet _ _ hq]
    | false =>
      rw [WCtx.runQuiet_succ_of_not_quiet _ _ hq] at h ⊢
      rw [show n + 1 + k = (n + k) + 1 by omega, WCtx.runQuiet_succ_of_not_quiet _ _ hq]
      exact ih _ h

theorem WCtx.runQuiet_fuel_irrelC14b (n m : Nat) (c : WCtx) (hn : c.w.drainCost ≤ n)
    (hm : c.w.drainCost ≤ m) : WCtx.runQuiet n c = WCtx.runQuiet m c := by
  rcases Nat.le_total n m with h | h
  · obtain ⟨k, rfl⟩ := Nat.exists_eq_add_of_le h
    exact (WCtx.runQuiet_addC14b n k c (WCtx.runQuiet_quiet n c hn)).symm
  · obtain ⟨k, rfl⟩ := Nat.exists_eq_add_of_le h
    exact WCtx.runQuiet_addC14b m k c (WCtx.runQuiet_quiet m c hm)

theorem WCtx.runQuiet_stepC14b (n m : Nat) (c : WCtx) (hq : c.w.quiet = false) (hn : c.w.drainCost ≤ n)
    (hm : c.w.drainCost ≤ m + 1) : WCtx.runQuiet n c = WCtx.runQuiet m (c.step .ok) := by
  rw [WCtx.runQuiet_fuel_irrelC14b n (m + 1) c hn hm, WCtx.runQuiet_succ_of_not_quiet _ _ hq]

theorem WCtx.runQuiet_close_fuelC14b (n m : Nat) (c : WCtx) (hn : c.closeC14b.w.drainCost ≤ n)
    (hm : c.w.drainCost ≤ m) : WCtx.runQuiet n c.closeC14b = (WCtx.runQuiet m c).closeC14b := by
  rw [WCtx.runQuiet_fuel_irrelC14b n (max n m) _ hn (Nat.le_trans hn (Nat.le_max_left _ _)),
    WCtx.runQuiet_fuel_irrelC14b m (max n m) _ hm (Nat.le_trans hm (Nat.le_max_right _ _))]
  exact WCtx.runQuiet_closeC14b _ _

/-- Whatever `closeC14b` did, forcing `pc := dead` gives the same worker. -/
theorem WCtx.closeC14b_w_dead (c : WCtx) :
    ({ c.closeC14b.w with pc := .dead } : Worker) = { c.w with pc := .dead, senderAlive := false } := by
  unfold WCtx.closeC14b
  split <;> rfl

@[simp] theorem WCtx.closeC14b_fs (c : WCtx) : c.closeC14b.fs = c.fs := by
  unfold WCtx.closeC14b
  split <;> rfl

@[simp] theorem WCtx.closeC14b_cache (c : WCtx) : c.closeC14b.cache = c.cache := by
  unfold WCtx.closeC14b
  split <;> rfl

theorem WCtx.closeC14b_evs (c : WCtx) :
    c.closeC14b.evs = c.evs ++ (if c.w.pc = .idle ∧ c.w.queue = [] then [.workerExit true] else []) := by
  unfold WCtx.closeC14b
  split
  · rfl
  · simp

theorem WCtx.toRecv_idle_emptyC14b (c : WCtx) (hpc : c.w.pc = .idle) (hq : c.w.queue = [])
    (ha : c.w.senderAlive = true) : c.toRecv = c := by
  obtain ⟨⟨files, pc, queue, lsf, post, alive⟩, fs, cache, evs⟩ := c
  simp only at hpc hq ha
  subst hpc hq ha
  rfl

/-- The join in `drop` is the idle run, then the exit. -/
theorem Sys.dropEnd_eq_closeC14b (y : Sys) (s : Store) (ha : y.worker.senderAlive = true)
    (ht : y.worker.TodoOK) : y.dropEnd s = (y.idleEnd s).closeC14b := by
  have hfuel0 : (y.wctx s).w.drainCost ≤ (y.wctx s).w.fuel := by
    have := (y.wctx s).w.drainCost_le_fuel ht
    omega
  have hfuel1 : (y.dropCtx s).w.drainCost ≤ (y.dropCtx s).w.fuel := by
    have := (y.dropCtx s).w.drainCost_le_fuel (y.dropCtx_todoOK s ht)
    omega
  -- the closed-channel worker starts from the close of `c'`, the idle worker or its first step,
  -- and both run to the same state
  suffices h : ∃ c' : WCtx, y.dropCtx s = c'.closeC14b ∧ c'.w.drainCost ≤ (y.wctx s).w.fuel ∧
      WCtx.runQuiet (y.wctx s).w.fuel c' = y.idleEnd s by
    obtain ⟨c', e, hc, hr⟩ := h
    rw [Sys.dropEnd, ← hr, e]
    exact WCtx.runQuiet_close_fuelC14b _ _ c' (e ▸ hfuel1) hc
  rcases y.dropCtx_cases s with ⟨hpc, he⟩ | ⟨hpc, he⟩
  · -- blocked in `recv`: the closed-channel worker has taken the step `toRecv`
    have hstep : (y.wctx s).step .ok = (y.wctx s).toRecv := (y.wctx s).step_idle .ok hpc
    refine ⟨(y.wctx s).step .ok, by rw [he, hstep]; exact WCtx.toRecv_killC14b (y.wctx s), ?_⟩
    by_cases hq : y.worker.queue = []
    · rw [hstep, WCtx.toRecv_idle_emptyC14b (y.wctx s) hpc hq ha]
      exact ⟨hfuel0, rfl⟩
    · have hnq : (y.wctx s).w.quiet = false := by
        simp [Worker.quiet, Sys.wctx, hpc, hq]
      have hdec := (y.wctx s).step_ok_decreases hnq
      exact ⟨by omega, (WCtx.runQuiet_stepC14b _ _ _ hnq hfuel0 (by omega)).symm⟩
  · exact ⟨y.wctx s, by rw [he, WCtx.closeC14b_of_ne _ hpc]; rfl, hfuel0, rfl⟩

/-- `drop` in terms of the idle run, componentwise; `Sys.dropStore_busy_C14b` below is the
equation of system states. -/
theorem Sys.dropStore_busy_eqC14b (y : Sys) (s : Store) (hs : y.store = some s)
    (ha : y.worker.senderAlive = true) (ht : y.worker.TodoOK) :
    y.dropStore.1 = { y with worker := { (y.idleEnd s).w with pc := .dead, senderAlive := false },
                             fs := (y.idleEnd s).fs, store := none, locked := false } ∧
    y.dropStore.2 = (y.idleEnd s).evs ++
      (if (y.idleEnd s).w.pc = .idle ∧ (y.idleEnd s).w.queue = [] then [.workerExit true] else []) := by
  rw [y.dropStore_eq hs, y.dropEnd_eq_closeC14b s ha ht, WCtx.closeC14b_w_dead, WCtx.closeC14b_fs,
    WCtx.closeC14b_evs]
  exact ⟨rfl, rfl⟩

theorem Sys.dropStore_busy_C14b (y : Sys) (s : Store) (hs : y.store = some s)
    (ha : y.worker.senderAlive = true) (ht : y.worker.TodoOK) :
    y.step .drop = (y.step .workerIdle).step .drop ∧
    (y.step .drop).fs = (y.step .workerIdle).fs ∧
    (y.step .drop).store = none ∧ (y.step .drop).locked = false ∧
    (y.step .drop).worker.pc = .dead ∧
    (y.step .drop).worker = { (y.step .workerIdle).worker with pc := .dead, senderAlive := false } := by
  have h1 := (y.dropStore_busy_eqC14b s hs ha ht).1
  have hI : y.step .workerIdle = y.withCtx s (y.idleEnd s) := y.step_workerIdle_eq hs
  have hquiet : (y.idleEnd s).w.quiet = true := WCtx.runQuiet_fuel_quiet _ ht
  have haI : (y.idleEnd s).w.senderAlive = true := by
    unfold Sys.idleEnd
    rw [WCtx.runQuiet_senderAliveC14b]; exact ha
  have htI : (y.idleEnd s).w.TodoOK := WCtx.runQuiet_todoOK _ _ ht
  -- the second drop starts from a quiet worker
  have h2 := ((y.step .workerIdle).dropStore_busy_eqC14b { s with cache := (y.idleEnd s).cache }
    (by rw [hI]; rfl) (by rw [hI]; exact haI) (by rw [hI]; exact htI)).1
  have hend : (y.step .workerIdle).idleEnd { s with cache := (y.idleEnd s).cache } =
      { w := (y.idleEnd s).w, fs := (y.idleEnd s).fs, cache := (y.idleEnd s).cache } := by
    unfold Sys.idleEnd
    rw [WCtx.runQuiet_of_quiet _ _ (by rw [hI]; exact hquiet), hI]
    rfl
  rw [hend] at h2
  have hd : y.step .drop = y.dropStore.1 := rfl
  have hd2 : (y.step .workerIdle).step .drop = (y.step .workerIdle).dropStore.1 := rfl
  refine ⟨?_, ?_, ?_, ?_, ?_, ?_⟩
  · rw [hd, hd2, h1, h2, hI]; rfl
  · rw [hd, h1, hI]; rfl
  · rw [hd, h1]
  · rw [hd, h1]
  · rw [hd, h1]
  · rw [hd, h1, hI]; rfl

theorem WCtx.runQuiet_noPostponedC14b (n : Nat) (c : WCtx) (hw : c.w.WF) (hl : c.w.lastSyncFailed = false)
    (hp : c.w.postponed = []) :
    (WCtx.runQuiet n c).w.lastSyncFailed = false ∧ (WCtx.runQuiet n c).w.postponed = [] :=
  (WCtx.runQuiet_induct_wf (P := fun c => c.w.lastSyncFailed = false ∧ c.w.postponed = [])
    (fun c hw hc => c.step_clean .ok hw (by simp) hc.1 hc.2) n c hw ⟨hl, hp⟩).2

theorem Sys.workerIdle_noPostponedC14b (y : Sys) (s : Store) (hs : y.store = some s) (hw : y.worker.WF)
    (hl : y.worker.lastSyncFailed = false) (hp : y.worker.postponed = []) :
    (y.step .workerIdle).worker.postponed = [] := by
  rw [y.step_workerIdle_eq hs]
  exact (WCtx.runQuiet_noPostponedC14b _ _ hw hl hp).2

theorem Sys.workerIdle_quietC14b (y : Sys) (s : Store) (hs : y.store = some s) (ht : y.worker.TodoOK) :
    (y.step .workerIdle).worker.quiet = true := by
  rw [y.step_workerIdle_eq hs]
  exact WCtx.runQuiet_fuel_quiet _ ht

theorem Sys.workerIdle_storeC14b (y : Sys) (s : Store) (hs : y.store = some s) :
    ∃ sI, (y.step .workerIdle).store = some sI ∧ sI.pending = s.pending ∧ sI.removed = s.removed ∧
      sI.st = s.st ∧ sI.log = s.log ∧ sI.closed = s.closed ∧ sI.openOffsets = s.openOffsets := by
  rw [y.step_workerIdle_eq hs]
  exact ⟨_, rfl, rfl, rfl, rfl, rfl, rfl, rfl⟩

end RaftLog
