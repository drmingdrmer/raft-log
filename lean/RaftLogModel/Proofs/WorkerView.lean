/-
The flush worker seen through its VIEW (`WView`): what it holds, wherever its program counter cuts it. Bytes in
flight, announced files, requests held, ids to remove are functions of view and file system. Through the view a step
under `WPc.ok` is ONE action on the file system (`VAct`) followed by quiet moves (`WView.Prim`), or it kills the
worker: `WCtx.step_view`. A property of view and file system is proved per action and per move, and nothing else of
`WCtx.step` is looked at (DESIGN.md §2.1 says how).
-/
import RaftLogModel.Proofs.WorkerBlocks
namespace RaftLog

/-- Data of the batch in hand that is not written yet (all of it goes to the
newest file). -/
def WPc.todoBytes : WPc → Bytes
  | .writing todo _ _ => todo.flatten
  | _ => []

/-- Requests already taken from the channel but not handled yet: the request
at the gate, or the non-write request that ended the batch. -/
def WPc.inHand : WPc → List WReq
  | .got r => [r]
  | .writing _ _ tail => tail.toList
  | .syncOld _ tail => tail.toList
  | .syncNew _ tail => tail.toList
  | _ => []

def Worker.rest (w : Worker) : List WReq := w.pc.inHand ++ w.queue

/-- The file the next write goes to. -/
def Worker.cur (w : Worker) : Nat := newestId w.files

/-- The write requests of the batch in hand. (`WPc.batch` of `WorkerBlocks` also counts the
request of `.got r`, which is not yet part of a batch.) -/
def WPc.batchW : WPc → List WReq
  | .writing _ b _ => b
  | .syncOld b _ => b
  | .syncNew b _ => b
  | _ => []

def WPc.unl : WPc → List Nat
  | .unlinking ids => ids
  | _ => []

def tailOK (t : Option WReq) : Prop := ∀ r, t = some r → r.isWrite = false

/-- Shape facts about the worker's control state: the request that ended a
batch is not a write; `sync_all_files` is at an old file only while there is a
newer one. -/
def WPc.ok (files : List FileEnt) : WPc → Prop
  | .writing _ _ tail => tailOK tail
  | .syncOld _ tail => tailOK tail ∧ 2 ≤ files.length
  | .syncNew _ tail => tailOK tail
  | _ => True

theorem WPc.inHand_eq_held (pc : WPc) : pc.inHand = pc.held := by cases pc <;> rfl

theorem collectBatch_cons (n : Nat) (r : WReq) (q : List WReq) (hr : r.isWrite = true) :
    r :: q = (r :: (collectBatch n q).1) ++ ((collectBatch n q).2.1.toList ++ (collectBatch n q).2.2) ∧
      ∀ y ∈ r :: (collectBatch n q).1, y.isWrite = true := by
  obtain ⟨h1, h2, _⟩ := collectBatch_specW n q
  refine ⟨by rw [List.cons_append, ← List.append_assoc, ← h1], fun y hy => ?_⟩
  rcases List.mem_cons.mp hy with e | e
  · rw [e]
    exact hr
  · exact h2 y e

theorem flatten_filter_nonempty (l : List Bytes) :
    (l.filter (fun d => !d.isEmpty)).flatten = l.flatten := by
  induction l with
  | nil => rfl
  | cons d l ih =>
    cases d with
    | nil => simpa using ih
    | cons x xs => simp [ih]

theorem newestId_append (files : List FileEnt) (f : FileEnt) : newestId (files ++ [f]) = f.id := by
  simp [newestId]

theorem newestId_cons (f : FileEnt) {rest : List FileEnt} (h : rest ≠ []) :
    newestId (f :: rest) = newestId rest := by
  cases rest with
  | nil => exact absurd rfl h
  | cons g gs => simp [newestId, List.getLast?_cons_cons]

/-- `tailOK` read off the program counter. -/
def WPc.tailNotWriteD14 : WPc → Prop
  | .writing _ _ t => ∀ r, t = some r → r.isWrite = false
  | .syncOld _ t => ∀ r, t = some r → r.isWrite = false
  | .syncNew _ t => ∀ r, t = some r → r.isWrite = false
  | _ => True

theorem WPc.isRest.tailNotWriteD14 {pc : WPc} (h : pc.isRest) : pc.tailNotWriteD14 := by
  cases pc <;> first | trivial | cases h

theorem WPc.tailNotWriteD14.of_batch {pc : WPc} {b : List WReq} {t : Option WReq} (h : pc.tailNotWriteD14)
    (e : (∃ todo, pc = .writing todo b t) ∨ pc = .syncOld b t ∨ pc = .syncNew b t) :
    ∀ r, t = some r → r.isWrite = false := by
  rcases e with ⟨todo, rfl⟩ | rfl | rfl <;> exact h

theorem WPc.ok_iff {files : List FileEnt} {pc : WPc} :
    pc.ok files ↔ pc.tailNotWriteD14 ∧ ∀ b t, pc = .syncOld b t → 2 ≤ files.length := by
  cases pc <;> simp [WPc.ok, WPc.tailNotWriteD14, tailOK]

theorem WPc.ok.tail {files : List FileEnt} {pc : WPc} {b : List WReq} {t : Option WReq} (h : pc.ok files)
    (e : (∃ todo, pc = .writing todo b t) ∨ pc = .syncOld b t ∨ pc = .syncNew b t) : tailOK t :=
  (WPc.ok_iff.1 h).1.of_batch e

/-- What the worker holds, whatever its program counter. -/
structure WView where
  files : List FileEnt
  /-- bytes of the batch in hand still to write -/
  tb : Bytes
  /-- the batch in hand -/
  bw : List WReq
  /-- the requests still to handle: in hand, then queued -/
  rest : List WReq
  /-- `lastSyncFailed` -/
  lsf : Bool
  /-- `postponed` -/
  post : List Nat
  /-- ids being unlinked -/
  unl : List Nat

def Worker.view (w : Worker) : WView :=
  ⟨w.files, w.pc.todoBytes, w.pc.batchW, w.rest, w.lastSyncFailed, w.postponed, w.pc.unl⟩

/-- The view at a point of the step where `tb`, `bw`, `held` are in hand and nothing is being
unlinked (the program counter of `w` is stale there). -/
def Worker.viewAt (w : Worker) (tb : Bytes) (bw held : List WReq) : WView :=
  ⟨w.files, tb, bw, held ++ w.queue, w.lastSyncFailed, w.postponed, []⟩

/-- The `removeChunks` branch of `nonFlush`: postponed while the last sync failed, else the removal starts. -/
def WView.removing (v : WView) (ids : List Nat) : WView :=
  if v.lsf then { v with post := v.post ++ ids } else { v with post := [], unl := v.post ++ ids }

/-- The view once a request taken from `rest` is handled. -/
def WView.handle (v : WView) : WReq → WView
  | .appendFile n p => { v with files := v.files ++ [⟨n, p⟩] }
  | .removeChunks ids => v.removing ids
  | .write .. => v

@[simp] theorem WView.removing_files (v : WView) (ids : List Nat) : (v.removing ids).files = v.files := by
  unfold WView.removing; split <;> rfl
@[simp] theorem WView.removing_tb (v : WView) (ids : List Nat) : (v.removing ids).tb = v.tb := by
  unfold WView.removing; split <;> rfl
@[simp] theorem WView.removing_bw (v : WView) (ids : List Nat) : (v.removing ids).bw = v.bw := by
  unfold WView.removing; split <;> rfl
@[simp] theorem WView.removing_rest (v : WView) (ids : List Nat) : (v.removing ids).rest = v.rest := by
  unfold WView.removing; split <;> rfl

/-- The quiet moves: what happens to the view between two system calls. -/
inductive WView.Prim : WView → WView → Prop
  /-- the writes `b` at the head of `rest` become the batch -/
  | batch {v : WView} (b R : List WReq) : v.tb = [] → v.bw = [] → v.rest = b ++ R →
      (∀ r ∈ b, r.isWrite = true) →
      Prim v { v with tb := (b.map WReq.data).flatten, bw := b, rest := R }
  | ack {v : WView} (ok : Bool) : Prim v { v with bw := [], lsf := !ok }
  | append {v : WView} (n : Nat) (p : Option LogId) (q : List WReq) : v.tb = [] → v.bw = [] →
      v.rest = .appendFile n p :: q → Prim v { v with files := v.files ++ [⟨n, p⟩], rest := q }
  | remove {v : WView} (ids : List Nat) (q : List WReq) : v.unl = [] →
      v.rest = .removeChunks ids :: q → Prim v ({ v with rest := q }.removing ids)
  /-- the removal postponed by a failed sync is tried again -/
  | retry {v : WView} : v.unl = [] → Prim v (v.removing [])

inductive WView.Quiet : WView → WView → Prop
  | refl (v : WView) : Quiet v v
  | step {a b c : WView} : Prim a b → Quiet b c → Quiet a c

theorem WView.Prim.quiet {a b : WView} (h : Prim a b) : Quiet a b := .step h (.refl b)

theorem WView.Quiet.lift {R : WView → WView → Prop} (hr : ∀ v, R v v)
    (ht : ∀ {a b c}, R a b → R b c → R a c) (hp : ∀ {a b}, Prim a b → R a b) {v v' : WView}
    (h : Quiet v v') : R v v' := by
  induction h with
  | refl v => exact hr v
  | step p _ ih => exact ht (hp p) ih

/-- What the system call of a step does to view and file system. -/
inductive VAct (v : WView) (fs : Fs) : WView → Fs → Prop
  | none : VAct v fs v fs
  | write (bs tb' : Bytes) : v.tb = bs ++ tb' → VAct v fs { v with tb := tb' } (fs.write (newestId v.files) bs)
  | syncOld (f : FileEnt) (rest : List FileEnt) : v.files = f :: rest → rest ≠ [] →
      VAct v fs { v with files := rest } (fs.sync f.id)
  | syncNew (f : FileEnt) (rest : List FileEnt) : v.files = f :: rest → VAct v fs v (fs.sync f.id)
  | unlink (i : Nat) (rest : List Nat) : v.unl = i :: rest → VAct v fs { v with unl := rest } (fs.unlink i)

theorem Worker.view_eq (w : Worker) {pc : WPc} (h : w.pc = pc) :
    w.view = ⟨w.files, pc.todoBytes, pc.batchW, pc.inHand ++ w.queue, w.lastSyncFailed, w.postponed, pc.unl⟩ := by
  subst h
  rfl

theorem WCtx.toRecv_view (c : WCtx) : c.toRecv.w.view = c.w.viewAt [] [] [] := by
  rcases c.toRecv_cases with ⟨r, q, hq, e⟩ | ⟨hq, _, e⟩ | ⟨hq, _, e⟩ <;> rw [e] <;>
    simp [Worker.view, Worker.viewAt, Worker.rest, WPc.inHand, WPc.todoBytes, WPc.batchW, WPc.unl, hq]

theorem WCtx.nonFlush_view (c : WCtx) (r : WReq) : (c.nonFlush r).w.view = (c.w.viewAt [] [] []).handle r := by
  rcases c.nonFlush_cases r with ⟨c0, e, _, _, hq, hf, hl, _, hp⟩ | ⟨ids, rfl, hl, _, e⟩
  · rw [e, WCtx.toRecv_view]
    rcases hp with ⟨hp, hz⟩ | ⟨ids, rfl, ht, hp⟩
    · cases r with
      | removeChunks ids =>
        obtain ⟨hf0, h0⟩ := hz ids rfl
        simp [Worker.viewAt, WView.handle, WView.removing, hq, hf, hl, hp, hf0, WReq.ents,
          List.append_eq_nil_iff.mp h0]
      | _ => simp [Worker.viewAt, WView.handle, hq, hf, hl, hp, WReq.ents]
    · simp [Worker.viewAt, WView.handle, WView.removing, hq, hf, hl, hp, ht, WReq.ents]
  · rw [e]
    simp [Worker.view, Worker.viewAt, Worker.rest, WPc.inHand, WPc.todoBytes, WPc.batchW, WPc.unl,
      WView.handle, WView.removing, hl]

/-- The view once the batch in hand is finished: acknowledged, the trailing request `t` handled,
the postponed removal retried; `q` is what is left of `rest`. -/
def WView.finished (v : WView) (ok : Bool) (t : Option WReq) (q : List WReq) : WView :=
  ({ v with files := v.files ++ tailEnts t, bw := [], rest := q, lsf := !ok }).handle (tailReq t)

theorem WView.finished_quiet {v : WView} (ok : Bool) {t : Option WReq} {q : List WReq} (ht : tailOK t)
    (h1 : v.tb = []) (h2 : v.unl = []) (hr : v.rest = t.toList ++ q) : v.Quiet (v.finished ok t q) := by
  obtain ⟨files, tb, bw, rest, lsf, post, unl⟩ := v
  simp only at h1 h2 hr
  subst h1 h2 hr
  cases t with
  | none => exact .step (.ack ok) (.step (.retry rfl) (by simpa [WView.finished, WView.handle] using .refl _))
  | some r =>
    cases r with
    | write u d cb => exact absurd (ht _ rfl) (by simp [WReq.isWrite])
    | appendFile n p =>
      exact .step (.ack ok) (.step (.append n p q rfl rfl rfl) (.step (.retry rfl)
        (by simpa [WView.finished, WView.handle, WReq.ents] using .refl _)))
    | removeChunks ids =>
      exact .step (.ack ok) (.step (.remove ids q rfl rfl)
        (by simpa [WView.finished, WView.handle, WReq.ents] using .refl _))

theorem WCtx.finishBatch_view (c : WCtx) (b : List WReq) (t : Option WReq) (ok : Bool) :
    (c.finishBatch b t ok).w.view = (c.w.viewAt [] b t.toList).finished ok t c.w.queue := by
  rw [WCtx.finishBatch_eq, WCtx.nonFlush_view]
  simp [Worker.viewAt, WView.finished]

theorem WCtx.finishBatch_quiet (c : WCtx) (b : List WReq) {t : Option WReq} (ok : Bool) (ht : tailOK t) :
    (c.w.viewAt [] b t.toList).Quiet (c.finishBatch b t ok).w.view := by
  rw [c.finishBatch_view]
  exact WView.finished_quiet ok ht rfl rfl rfl

theorem WCtx.startSync_quiet (c : WCtx) (b : List WReq) {t : Option WReq} (ht : tailOK t) :
    (c.w.viewAt [] b t.toList).Quiet (c.startSync b t).w.view := by
  rcases c.startSync_cases b t with ⟨_, e⟩ | ⟨f, _, e⟩ | ⟨_, e⟩ <;> rw [e]
  · exact c.finishBatch_quiet b true ht
  · exact .refl _
  · exact .refl _

theorem WCtx.startWrites_quiet (c : WCtx) (b : List WReq) {t : Option WReq} (ht : tailOK t) :
    (c.w.viewAt (b.map WReq.data).flatten b t.toList).Quiet (c.startWrites b t).w.view := by
  have hfl : (todoOf b).flatten = (b.map WReq.data).flatten := flatten_filter_nonempty _
  rcases c.startWrites_cases b t with ⟨h0, e⟩ | ⟨_, e⟩ <;> rw [e, ← hfl]
  · rw [h0]
    exact c.startSync_quiet b ht
  · exact .refl _

def WCtx.VStep (c c' : WCtx) : Prop := ∃ v1, VAct c.w.view c.fs v1 c'.fs ∧ v1.Quiet c'.w.view

theorem WCtx.VStep.of {c c' : WCtx} {v v1 : WView} {fs1 : Fs} (hv : c.w.view = v) (ha : VAct v c.fs v1 fs1)
    (hfs : c'.fs = fs1) (hq : v1.Quiet c'.w.view) : c.VStep c' :=
  ⟨v1, hv ▸ hfs ▸ ha, hq⟩

/-- Used as in `WCtx.VStep.good` (Proofs/JournalWorker.lean); the dying case is `WCtx.step_dies`. -/
theorem WCtx.step_view (c : WCtx) (out : Outcome) (hok : c.w.pc.ok c.w.files) :
    c.dies out = true ∨ c.VStep (c.step out) := by
  apply c.step_elim (P := fun c' => c.dies out = true ∨ c.VStep c') out
  case dead => exact fun _ _ => .inr ⟨_, .none, .refl _⟩
  case idle | ulNil =>
    intro hpc _
    exact .inr (.of (c.w.view_eq hpc) .none (by simp) (by rw [c.toRecv_view]; exact .refl _))
  case gotW =>
    intro r hpc hr _
    obtain ⟨h1, h2⟩ := collectBatch_cons 1024 r c.w.queue hr
    exact .inr (.of (c.w.view_eq hpc) .none (by simp)
      (.step (.batch _ _ rfl rfl h1 h2) ((c.setQueue _).startWrites_quiet _ (collectBatch_tail 1024 c.w.queue))))
  case gotN =>
    intro r hpc hr _
    refine .inr (.of (c.w.view_eq hpc) .none (by simp) ?_)
    rw [c.nonFlush_view]
    cases r with
    | write u d cb => cases hr
    | appendFile n p => exact (WView.Prim.append n p c.w.queue rfl rfl rfl).quiet
    | removeChunks ids => exact (WView.Prim.remove ids c.w.queue rfl rfl).quiet
  case wrNil =>
    intro b t hpc _
    exact .inr (.of (c.w.view_eq hpc) .none (by simp) (c.startSync_quiet b (hok.tail (.inl ⟨_, hpc⟩))))
  case wrEio | ulEio =>
    intros
    rename_i hpc ho _
    exact .inl (by simp [WCtx.dies, hpc, ho])
  case wrPart =>
    intro d rest b t k hpc _ _ _ _
    refine .inr (.of (c.w.view_eq hpc) (.write (d.take k) (d.drop k :: rest).flatten ?_) rfl
      (by rw [Worker.view_eq _ rfl]; exact .refl _))
    simp [WPc.todoBytes, ← List.append_assoc]
  case wrLast =>
    intro d b t hpc _ _
    exact .inr (.of (c.w.view_eq hpc) (.write d [] rfl) (by simp)
      ((c.wrote _ d).startSync_quiet b (hok.tail (.inl ⟨_, hpc⟩))))
  case wrMore =>
    intro d d' rest b t hpc _ _
    exact .inr (.of (c.w.view_eq hpc) (.write d (d' :: rest).flatten rfl) rfl
      (by rw [Worker.view_eq _ rfl]; exact .refl _))
  case soNil =>
    intro b t hpc hf _
    rw [hpc, hf] at hok
    exact absurd hok.2 (by simp)
  case soEio | snEio =>
    intro b t f rest hpc _ _ _
    exact .inr (.of (c.w.view_eq hpc) .none (by simp)
      ((c.emit _).finishBatch_quiet b false (hok.tail (b := b) (t := t) (by simp [hpc]))))
  case soOk =>
    intro b t f rest hpc hf _ _
    have hne : rest ≠ [] := by
      rintro rfl
      rw [hpc, hf] at hok
      exact absurd hok.2 (by simp)
    exact .inr (.of (c.w.view_eq hpc) (.syncOld f rest hf hne) (by simp)
      (((c.setFiles rest).synced f.id).startSync_quiet b (hok.tail (.inr (.inl hpc)))))
  case snNil =>
    intro b t hpc _ _
    exact .inr (.of (c.w.view_eq hpc) .none (by simp) (c.finishBatch_quiet b true (hok.tail (.inr (.inr hpc)))))
  case snOk =>
    intro b t f rest hpc hf _ _
    exact .inr (.of (c.w.view_eq hpc) (.syncNew f rest hf) (by simp)
      ((c.synced f.id).finishBatch_quiet b true (hok.tail (.inr (.inr hpc)))))
  case ulLast =>
    intro i hpc _ _
    exact .inr (.of (c.w.view_eq hpc) (.unlink i [] rfl) (by simp)
      (by rw [WCtx.toRecv_view]; exact .refl _))
  case ulMore =>
    intro i j rest hpc _ _
    exact .inr (.of (c.w.view_eq hpc) (.unlink i (j :: rest) rfl) rfl
      (by rw [Worker.view_eq _ rfl]; exact .refl _))

theorem WCtx.startSync_tail (c : WCtx) (b : List WReq) {t : Option WReq} (ht : tailOK t) :
    (c.startSync b t).w.pc.tailNotWriteD14 := by
  rcases c.startSync_cases b t with ⟨_, e⟩ | ⟨f, _, e⟩ | ⟨_, e⟩ <;> rw [e]
  · exact (c.finishBatch_pc b t true).1.tailNotWriteD14
  · exact ht
  · exact ht

theorem WCtx.startWrites_tail (c : WCtx) (b : List WReq) {t : Option WReq} (ht : tailOK t) :
    (c.startWrites b t).w.pc.tailNotWriteD14 := by
  rcases c.startWrites_cases b t with ⟨_, e⟩ | ⟨_, e⟩ <;> rw [e]
  · exact c.startSync_tail b ht
  · exact ht

/-- The request that ends a batch is not a write: `collectBatch` makes it so, the batch phases keep it. -/
theorem WCtx.step_tail (c : WCtx) (out : Outcome) (h : c.w.pc.tailNotWriteD14) :
    (c.step out).w.pc.tailNotWriteD14 := by
  apply c.step_w_elim (P := fun w => w.pc.tailNotWriteD14) out
  case dead => exact fun _ => h
  case recv => intro c0 _ _; exact c0.toRecv_pc.isRest.tailNotWriteD14
  case gotW => intro r _ _; exact WCtx.startWrites_tail _ _ (collectBatch_tail 1024 c.w.queue)
  case gotN => intro r _ _; exact (c.nonFlush_pc r).1.tailNotWriteD14
  case sync => intro c0 todo b t _ hpc _; exact c0.startSync_tail b (h.of_batch (.inl ⟨_, hpc⟩))
  case write => intro d rest todo' b t hpc _ _; exact h.of_batch (b := b) (.inl ⟨_, hpc⟩)
  case die => intro _; trivial
  case finish => intro c0 b t ok _ _ _ _; exact (c0.finishBatch_pc b t ok).1.tailNotWriteD14
  case soOk => intro c0 b t f rest hpc _ _ _; exact c0.startSync_tail b (h.of_batch (.inr (.inl hpc)))
  case ulMore => intro i j rest _ _; trivial

/-- `WPc.ok` is kept: its tail half by `step_tail`; at an old file the blocks park only while there is
a newer one (`Worker.Landed`). -/
theorem WCtx.step_ok (c : WCtx) (out : Outcome) (hok : c.w.pc.ok c.w.files) :
    (c.step out).w.pc.ok (c.step out).w.files := by
  refine WPc.ok_iff.2 ⟨c.step_tail out (WPc.ok_iff.1 hok).1, ?_⟩
  apply c.step_landed_elim (P := fun w => ∀ b t, w.pc = .syncOld b t → 2 ≤ w.files.length) out
  case stay =>
    rintro pc' (⟨rfl, hd⟩ | ⟨_, _, _, rfl⟩ | ⟨_, _, _, rfl⟩) b t e
    · exact nomatch hd.symm.trans e
    · exact nomatch e
    · exact nomatch e
  case die => exact fun _ b t e => nomatch e
  case land =>
    intro w' hl _ b t e
    simp only [Worker.Landed, e] at hl
    exact hl

end RaftLog
