/-
Histories relative to the reference log: `RefLog.run` over `++`, induction along a history with the reference log
moving at calls and a ghost following the ops (`Sys.run_induction_ghost`; `Sys.run_induction_ref` is the case
without ghost), and the lifting theorems of Proofs/SysLive.lean for an invariant of
store, files and worker indexed by the reference log (`Sys.Live.step_ref`, `Sys.Live.run_ref`).
-/
import RaftLogModel.Proofs.SysLive
import RaftLogModel.Proofs.Refine
namespace RaftLog

theorem Sys.alive_of_run {y : Sys} {steps : List Step} (hst : ∀ st ∈ steps, st.journal = true)
    (h : (y.run steps).worker.pc ≠ .dead) : y.worker.pc ≠ .dead :=
  fun hdead => h (Sys.run_dead steps y hst hdead)

theorem Sys.alive_prefix {y : Sys} {a b : List Step} (hb : ∀ st ∈ b, st.journal = true)
    (h : (y.run (a ++ b)).worker.pc ≠ .dead) : (y.run a).worker.pc ≠ .dead := by
  rw [Sys.run_append] at h
  exact Sys.alive_of_run hb h

theorem RefLog.run_single {r r' : RefLog} {op : Op} :
    r.run [op] = some r' ↔ r.legal op = true ∧ r.call op = .ok r' := by
  simp only [RefLog.run]
  cases r.legal op <;> cases r.call op <;> simp

theorem RefLog.run_append (r : RefLog) (a b : List Op) :
    r.run (a ++ b) = (r.run a).bind (fun r1 => r1.run b) := by
  induction a generalizing r with
  | nil => rfl
  | cons op rest ih =>
    simp only [List.cons_append, RefLog.run]
    split
    · split
      · exact ih _
      · rfl
    · rfl

theorem RefLog.run_append_some {r r' : RefLog} {a b : List Op} :
    r.run (a ++ b) = some r' ↔ ∃ r1, r.run a = some r1 ∧ r1.run b = some r' := by
  rw [RefLog.run_append]
  exact Option.bind_eq_some_iff

theorem RefLog.run_stepOps_cons (r : RefLog) (st : Step) (rest : List Step) :
    r.run (stepOps (st :: rest)) = (r.run (stepOps [st])).bind fun r1 => r1.run (stepOps rest) := by
  rw [stepOps_cons, RefLog.run_append]

/-- `gr g r ops g'`: the ops `ops`, applied from reference log `r`, take the ghost from `g` to `g'`. `Q y st` is
whatever a step establishes besides (e.g. "if `st` is a call it returned `ok`"): it comes back for every step. -/
theorem Sys.run_induction_ghost {G : Type} {P : Sys → RefLog → G → Prop} {Q : Sys → Step → Prop}
    {C : Op → Prop} {gr : G → RefLog → List Op → G → Prop}
    (gr_nil : ∀ {g g' r}, gr g r [] g' → g' = g)
    (gr_split : ∀ {g g' r r1 a b}, gr g r (a ++ b) g' → r.run a = some r1 → ∃ g1, gr g r a g1 ∧ gr g1 r1 b g')
    (steps : List Step) (hj : ∀ st ∈ steps, st.journal = true)
    (hstep : ∀ y r r' g g', ∀ st ∈ steps, P y r g → r.run (stepOps [st]) = some r' →
      (∀ op ∈ stepOps [st], C op) → gr g r (stepOps [st]) g' → (y.step st).worker.pc ≠ .dead →
      P (y.step st) r' g' ∧ Q y st) :
    ∀ y r r' g g', P y r g → r.run (stepOps steps) = some r' → (∀ op ∈ stepOps steps, C op) →
      gr g r (stepOps steps) g' → (y.run steps).worker.pc ≠ .dead →
      P (y.run steps) r' g' ∧ ∀ pre st post, steps = pre ++ st :: post → Q (y.run pre) st := by
  induction steps with
  | nil =>
    intro y r r' g g' h hr _ hg _
    cases hr
    cases gr_nil hg
    exact ⟨h, fun pre st post e => by cases pre <;> cases e⟩
  | cons st rest ih =>
    intro y r r' g g' h hr hC hg hnd
    have hrest := fun st hm => hj st (List.mem_cons_of_mem _ hm)
    rw [stepOps_cons] at hr hC hg
    obtain ⟨r1, hr1, hr⟩ := RefLog.run_append_some.mp hr
    obtain ⟨g1, hg1, hg⟩ := gr_split hg hr1
    obtain ⟨h1, hq⟩ := hstep y r r1 g g1 st List.mem_cons_self h hr1
      (fun op hop => hC op (List.mem_append_left _ hop)) hg1
      (fun hd => hnd (Sys.run_dead rest _ hrest hd))
    obtain ⟨k1, k2⟩ := ih hrest (fun y r r' g g' st hm => hstep y r r' g g' st (List.mem_cons_of_mem _ hm))
      _ r1 r' g1 g' h1 hr (fun op hop => hC op (List.mem_append_right _ hop)) hg hnd
    refine ⟨k1, fun pre st' post e => ?_⟩
    cases pre with
    | nil => cases e; exact hq
    | cons p pre' =>
      obtain ⟨rfl, e'⟩ := List.cons.inj e
      exact k2 pre' st' post e'

theorem Sys.run_induction_ref {P : Sys → RefLog → Prop} (steps : List Step)
    (hj : ∀ st ∈ steps, st.journal = true)
    (hstep : ∀ y r r', ∀ st ∈ steps, P y r → r.run (stepOps [st]) = some r' →
      (y.step st).worker.pc ≠ .dead → P (y.step st) r') :
    ∀ y r r', P y r → r.run (stepOps steps) = some r' → (y.run steps).worker.pc ≠ .dead →
      P (y.run steps) r' :=
  fun y r r' h hr hnd =>
    (Sys.run_induction_ghost (G := Unit) (P := fun y r _ => P y r) (Q := fun _ _ => True) (C := fun _ => True)
      (gr := fun _ _ _ _ => True) (fun _ => rfl) (fun _ _ => ⟨(), trivial, trivial⟩) steps hj
      (fun y r r' _ _ st hm h hr _ _ hnd => ⟨hstep y r r' st hm h hr hnd, trivial⟩)
      y r r' () () h hr (fun _ _ => trivial) trivial hnd).1

/-- `Sys.Live.step` for an invariant relative to the reference log: a call of class `C` that the
reference log accepts moves it along, every other step leaves it. -/
theorem Sys.Live.step_ref {I : RefLog → Store → Fs → Worker → Prop} {C : Op → Prop}
    (hF : ∀ r, SysFrame (I r))
    (hcall : ∀ {r r' s fs w} {op : Op}, C op → r.legal op = true → r.call op = .ok r' → I r s fs w →
      I r' (s.call fs.has op).2.1 (effFs (s.call fs.has op).2.2 fs) (w.push (effQ (s.call fs.has op).2.2)))
    {y : Sys} {r r' : RefLog} (h : y.Live (I r)) (st : Step) (hst : st.journal = true)
    (hr : r.run (stepOps [st]) = some r') (hC : ∀ op, st = .call op → C op)
    (hnd : (y.step st).worker.pc ≠ .dead) : (y.step st).Live (I r') := by
  by_cases hc : ∃ op, st = .call op
  · obtain ⟨op, rfl⟩ := hc
    obtain ⟨hl, hc⟩ := RefLog.run_single.1 hr
    exact h.call (hcall (hC op rfl) hl hc) (hF r').settle
  · rw [stepOps_noncall fun op e => hc ⟨op, e⟩] at hr
    cases hr
    exact h.step_noncall (hF r) hst (fun op e => hc ⟨op, e⟩) hnd

theorem Sys.Live.run_ref {I : RefLog → Store → Fs → Worker → Prop} {C : Op → Prop}
    (hF : ∀ r, SysFrame (I r))
    (hcall : ∀ {r r' s fs w} {op : Op}, C op → r.legal op = true → r.call op = .ok r' → I r s fs w →
      I r' (s.call fs.has op).2.1 (effFs (s.call fs.has op).2.2 fs) (w.push (effQ (s.call fs.has op).2.2)))
    (steps : List Step) {y : Sys} {r r' : RefLog} (h : y.Live (I r))
    (hst : ∀ st ∈ steps, st.journal = true) (hr : r.run (stepOps steps) = some r')
    (hC : ∀ op ∈ stepOps steps, C op) (hnd : (y.run steps).worker.pc ≠ .dead) :
    (y.run steps).Live (I r') :=
  Sys.run_induction_ref (P := fun y r => y.Live (I r)) steps hst
    (fun _ _ _ st hm h hr hnd =>
      h.step_ref hF hcall st (hst st hm) hr (fun op e => hC op (mem_stepOps.2 (e ▸ hm))) hnd)
    y r r' h hr hnd

end RaftLog
