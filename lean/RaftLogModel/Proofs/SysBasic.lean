/-
The system, before any invariant: the freshly opened system as an equation (`Sys.fresh_eq`: its store, files and
worker are `Store.fresh`, `Fs.fresh`, `Worker.fresh`), `Sys.run` over `[]`, `::`, `++` and induction along a
history, the steps of a live store and their ops `stepOps`, and what `open`, a call, a flush and `drain` do to a
system with store `s`, whether or not the worker is alive (with a live worker: Proofs/SysLive.lean; the worker's
steps: Proofs/IdleRun.lean; `drop`: Proofs/WorkerCaller.lean).
-/
import RaftLogModel.Model.Sys
namespace RaftLog

/-- Store, files and worker of `Sys.fresh cfg`: one chunk, file 0, holding the head record of the empty state. -/
abbrev Store.fresh (cfg : Cfg) : Store :=
  { emptyStore cfg with openOffsets := [0, 0 + (encRecord (.state {})).length], pending := [] }
abbrev Fs.fresh : Fs := [{ id := 0, data := encRecord (.state {}) }]
abbrev Worker.fresh : Worker := { files := [⟨0, none⟩] }

theorem Sys.fresh_eq (cfg : Cfg) : Sys.fresh cfg =
    { fs := Fs.fresh, locked := true, store := some (Store.fresh cfg), worker := Worker.fresh, cfg := cfg } := by
  simp [Sys.fresh, Sys.open, openStore, Fs.linkedIds, openLoop, emptyStore, Fs.has, Fs.find,
    Fs.create, Fs.write, Fs.update]

theorem Sys.open_cases (y : Sys) :
    (y.locked = true ∧ y.open = (.err .locked, y, [])) ∨
    (y.locked = false ∧ ∃ s w fs' evs, openStore y.cfg y.fs = (.ok (s, w), fs', evs) ∧
      y.open = (.ok (), { y with fs := fs', store := some s, worker := w, locked := true }, evs)) ∨
    (y.locked = false ∧ ∃ k fs' evs, openStore y.cfg y.fs = (.err k, fs', evs) ∧
      y.open = (.err k, { y with fs := fs' }, evs)) ∨
    (y.locked = false ∧ ∃ m fs' evs, openStore y.cfg y.fs = (.panic m, fs', evs) ∧
      y.open = (.panic m, { y with fs := fs' }, evs)) := by
  unfold Sys.open
  cases hl : y.locked with
  | true => exact .inl ⟨rfl, rfl⟩
  | false =>
    simp only [Bool.false_eq_true, if_false]
    split
    · exact .inr (.inl ⟨trivial, _, _, _, _, ‹_›, rfl⟩)
    · exact .inr (.inr (.inl ⟨trivial, _, _, _, ‹_›, rfl⟩))
    · exact .inr (.inr (.inr ⟨trivial, _, _, _, ‹_›, rfl⟩))

theorem Sys.open_panic {y : Sys} {m : String} (h : y.open.1 = .panic m) :
    (openStore y.cfg y.fs).1 = .panic m := by
  rcases y.open_cases with ⟨_, e⟩ | ⟨_, _, _, _, _, _, e⟩ | ⟨_, _, _, _, _, e⟩ | ⟨_, _, _, _, ho, e⟩ <;>
    rw [e] at h <;> cases h
  rw [ho]

theorem Sys.run_nil (y : Sys) : y.run [] = y := rfl

theorem Sys.run_cons (y : Sys) (st : Step) (rest : List Step) :
    y.run (st :: rest) = (y.step st).run rest := rfl

theorem Sys.run_append (y : Sys) (a b : List Step) : y.run (a ++ b) = (y.run a).run b :=
  List.foldl_append

theorem Sys.run_snoc (y : Sys) (steps : List Step) (st : Step) :
    y.run (steps ++ [st]) = (y.run steps).step st := by
  simp only [Sys.run, List.foldl_append, List.foldl_cons, List.foldl_nil]

theorem Sys.step_flags (y : Sys) (st : Step) (ho : ∀ cfg, st ≠ .openWith cfg) (hd : st ≠ .drop) :
    (y.step st).store.isSome = y.store.isSome ∧ (y.step st).locked = y.locked ∧
      (y.step st).dump = y.dump := by
  cases st with
  | openWith cfg => exact absurd rfl (ho cfg)
  | drop => exact absurd rfl hd
  | _ => cases hs : y.store <;> simp [Sys.step, Sys.call, Sys.flush, Sys.workerStep, Sys.workerIdle, Sys.drain, hs]

/-! The steps that neither drop nor open the store — the histories of a live store. Three definitions, one per
layer, with the same values (`Step.live_eq_journal`, `Step.keepsStore_eq_journal`; not by `rfl`): `Step.journal`
(Proofs/SysLive.lean and the journal chains), `Step.keepsStore` (Proofs/WorkerSys.lean, the worker's side),
`Step.live` (Proofs/StoreSys.lean, the store's side). -/

def Step.journal : Step → Bool
  | .call _ => true
  | .flush _ => true
  | .worker _ => true
  | .workerIdle => true
  | .drain => true
  | _ => false

def Step.keepsStore : Step → Bool
  | .call _ => true
  | .flush _ => true
  | .worker _ => true
  | .workerIdle => true
  | .drain => true
  | _ => false

def Step.live : Step → Bool
  | .drop => false
  | .openWith _ => false
  | _ => true

theorem Step.live_eq_journal (st : Step) : st.live = st.journal := by cases st <;> rfl

theorem Step.keepsStore_eq_journal (st : Step) : st.keepsStore = st.journal := by cases st <;> rfl

theorem Step.live_of_journal {st : Step} (h : st.journal = true) : st.live = true :=
  (Step.live_eq_journal st).trans h

theorem Step.keepsStore_of_journal {st : Step} (h : st.journal = true) : st.keepsStore = true :=
  (Step.keepsStore_eq_journal st).trans h

def stepOps : List Step → List Op
  | [] => []
  | .call op :: rest => op :: stepOps rest
  | _ :: rest => stepOps rest

theorem mem_stepOps {op : Op} {steps : List Step} : op ∈ stepOps steps ↔ Step.call op ∈ steps := by
  induction steps with
  | nil => simp [stepOps]
  | cons st rest ih => cases st <;> simp [stepOps, ih]

theorem stepOps_nil : stepOps [] = [] := rfl

theorem stepOps_call (op : Op) (rest : List Step) :
    stepOps (.call op :: rest) = op :: stepOps rest := rfl

theorem stepOps_cons (st : Step) (rest : List Step) :
    stepOps (st :: rest) = stepOps [st] ++ stepOps rest := by
  cases st <;> simp [stepOps]

theorem stepOps_append (a b : List Step) : stepOps (a ++ b) = stepOps a ++ stepOps b := by
  induction a with
  | nil => rfl
  | cons st rest ih =>
    rw [List.cons_append, stepOps_cons, stepOps_cons st rest, ih, List.append_assoc]

theorem stepOps_noncall {st : Step} (h : ∀ op, st ≠ .call op) : stepOps [st] = [] := by
  cases st <;> first | rfl | exact absurd rfl (h _)

theorem Sys.step_eq_workerStep (y : Sys) (out : Outcome) : y.step (.worker out) = (y.workerStep out).1 := rfl
theorem Sys.step_eq_drain (y : Sys) : y.step .drain = y.drain := rfl

/-- Whether or not the worker is alive; with a live worker the effects all go through (`Sys.call_eq`,
Proofs/SysLive.lean). -/
theorem Sys.call_some (y : Sys) (op : Op) {s : Store} (hs : y.store = some s) :
    (y.call op).2.1 = { y with store := some (s.call y.fs.has op).2.1,
                               fs := (applyEffs (s.call y.fs.has op).2.2 y.fs y.worker []).2.1,
                               worker := (applyEffs (s.call y.fs.has op).2.2 y.fs y.worker []).2.2.1.settle } ∧
    (y.call op).2.2 = (applyEffs (s.call y.fs.has op).2.2 y.fs y.worker []).2.2.2 := by
  simp only [Sys.call, hs, and_self]

theorem Sys.call_result (y : Sys) (op : Op) {s : Store} (hs : y.store = some s) :
    (y.call op).1 =
      if (applyEffs (s.call y.fs.has op).2.2 y.fs y.worker []).1 then (s.call y.fs.has op).1
      else match (s.call y.fs.has op).1 with
        | .panic m => .panic m
        | _ => .err .sendFailed := by
  simp only [Sys.call, hs]
  rfl

theorem Sys.call_store (y : Sys) (op : Op) :
    (y.call op).2.1.store = y.store.map (fun s => (s.call y.fs.has op).2.1) := by
  cases hs : y.store <;> simp only [Sys.call, hs, Option.map]

theorem Sys.flush_some (y : Sys) (cb : Option Nat) {s : Store} (hs : y.store = some s) :
    (y.flush cb).2.1 = { y with
        store := some (if (applyEffs (s.flush cb).2 y.fs y.worker []).1 then (s.flush cb).1
          else { (s.flush cb).1 with removed := s.removed }),
        fs := (applyEffs (s.flush cb).2 y.fs y.worker []).2.1,
        worker := (applyEffs (s.flush cb).2 y.fs y.worker []).2.2.1.settle } ∧
    (y.flush cb).2.2 = (applyEffs (s.flush cb).2 y.fs y.worker []).2.2.2 := by
  simp only [Sys.flush, hs, and_self]

theorem Sys.drain_eq (y : Sys) {s : Store} (hs : y.store = some s) :
    y.drain = { y with store := some { s with cache := s.cache.drainEvictable } } := by
  simp only [Sys.drain, hs]

theorem Sys.run_induct {P : Sys → Prop} {C : Step → Prop} (hstep : ∀ y st, C st → P y → P (y.step st))
    {y : Sys} (h : P y) {steps : List Step} (hst : ∀ st ∈ steps, C st) : P (y.run steps) := by
  induction steps generalizing y with
  | nil => exact h
  | cons st rest ih =>
    exact ih (hstep y st (hst st List.mem_cons_self) h) fun x hx => hst x (List.mem_cons_of_mem _ hx)

end RaftLog
