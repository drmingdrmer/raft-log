/-
C05: the invariants of the recovered store from the journal prefix it replayed: well-formed and small state and
index map, the replay checks (`RunG`), the replay invariant (`RecovC5b.rinv_of_prefix`). Payload mirroring as a
property of a store's journal (`JPayC5b`) and of every ghost store of a system (`GPayC5b`). The system `open`
builds (`recoveredSysC5b`).
-/
import RaftLogModel.Proofs.RecovGhost
import RaftLogModel.Proofs.ReadNoPanic
namespace RaftLog

theorem idxRun_ids_C5b (Pr : LogId → Prop) : ∀ (ops : List JOp) (l l' : Log),
    (∀ e ∈ l, Pr e.2.id) → (∀ op ∈ ops, ∀ id p, op.r = .append id p → Pr id) →
    idxRun ops l = some l' → ∀ e ∈ l', Pr e.2.id := by
  intro ops l l' hl hops h e he
  rcases idxRun_srcRN h e he with k | ⟨p, k⟩
  · exact hl e k
  · exact hops _ k e.2.id p rfl

theorem stRun_small_C5b : ∀ (rs : List Record) (st st' : RState), (∀ r ∈ rs, RecSmall r) → StSmall st →
    stRun rs st = some st' → StSmall st' :=
  stRun_induct fun hr hs ha => apply_small hr hs ha

theorem RepG.ops_wf_C5b {s : Store} {fs : Fs} {w : Worker} {jc : List (Closed × List Record)}
    {jo : List Record} (g : RepG s fs w jc jo) : ∀ op ∈ allOps s jc jo, op.r.WF := by
  intro op hop
  have : op.r ∈ (allOps s jc jo).map (·.r) := List.mem_map.mpr ⟨op, hop, rfl⟩
  rw [allOps_map_r] at this
  rcases List.mem_append.mp this with k | k
  · exact flatRecs_wf_C5b (fun p hp => (g.closedRecs p hp).wf) _ k
  · exact g.openRecs.wf _ k

theorem RepG.ops_small_C5b {s : Store} {fs : Fs} {w : Worker} {jc : List (Closed × List Record)}
    {jo : List Record} (g : RepG s fs w jc jo) (hj : JInv s fs w) (hS : SmallJ s fs w) :
    ∀ op ∈ allOps s jc jo, RecSmall op.r := by
  intro op hop
  have : op.r ∈ (allOps s jc jo).map (·.r) := List.mem_map.mpr ⟨op, hop, rfl⟩
  rw [allOps_map_r] at this
  rcases List.mem_append.mp this with k | k
  · obtain ⟨p, hp, hr⟩ := mem_flatRecs_C5b.mp k
    obtain ⟨k1, _, _, k4⟩ := g.closedRecs p hp
    obtain ⟨rs, m1, m2, m3⟩ := hS p.1.id (hj.closedFs _ (g.mem_closed hp))
    have : p.2 = rs := encAll_inj_C3b k1 m1 (by rw [← k4, m3])
    rw [this] at hr
    exact m2 _ hr
  · obtain ⟨k1, _, _, k4⟩ := g.openRecs
    obtain ⟨rs, m1, m2, m3⟩ := hS s.openId (hj.annFs _ hj.openId_mem)
    have : jo = rs := encAll_inj_C3b k1 m1 (by rw [← k4, m3])
    rw [this] at k
    exact m2 _ k

theorem smallJ_lift_C5b {s : Store} {fs : Fs} {w : Worker} (h : SmallJ s fs w) (cs : List Closed) :
    SmallJ (s.liftC3b cs) fs w := by
  intro id hid
  obtain ⟨rs, h1, h2, h3⟩ := h id hid
  exact ⟨rs, h1, h2, h3⟩

theorem prefix_good_C5b {L P : List JOp} (hP : P <+: L) (hwf : ∀ op ∈ L, op.r.WF)
    (hsm : ∀ op ∈ L, RecSmall op.r) {st : RState} {l : Log}
    (h1 : stRunO P {} = some st) (h2 : idxRun P [] = some l) :
    st.WF ∧ (∀ e ∈ l, e.2.id.WF) ∧ StSmall st ∧ ∀ e ∈ l, smallId e.2.id := by
  have hmem : ∀ op ∈ P, op ∈ L := fun op hop => hP.subset hop
  refine ⟨?_, ?_, ?_, ?_⟩
  · apply stRun_wf_C5b _ _ _ _ emptyState_wf_C5b h1
    intro r hr
    obtain ⟨op, hop, e⟩ := List.mem_map.mp hr
    rw [← e]; exact hwf op (hmem op hop)
  · apply idxRun_ids_C5b LogId.WF P [] l (fun e he => by cases he) _ h2
    intro op hop id p hr
    have := hwf op (hmem op hop)
    rw [hr] at this
    exact this.1
  · apply stRun_small_C5b _ _ _ _ (show StSmall {} from ⟨trivial, trivial⟩) h1
    intro r hr
    obtain ⟨op, hop, e⟩ := List.mem_map.mp hr
    rw [← e]; exact hsm op (hmem op hop)
  · apply idxRun_ids_C5b smallId P [] l (fun e he => by cases he) _ h2
    intro op hop id p hr
    have := (hsm op (hmem op hop)).1
    rw [hr] at this
    exact this

/-- `RunG`: after the first record, which states `x`, the rest of the journal runs from `x` (`RunOK`). A prefix of
a run runs (`RunOK_append`); the extra record, the head of a fresh chunk, states the state the prefix reaches
(`hst`), which `RunOK` accepts. -/
theorem runG_recovered_C5b {G s' : Store} {jc jc' : List (Closed × List Record)} {jo jo' : List Record}
    {P : List JOp} (hrun : RunG G jc jo) (hP : P <+: allOps G jc jo)
    (hst : stRunO P {} = some s'.st)
    (hall : KeptC5b P (allOps s' jc' jo') s'.st s'.openId) :
    RunG s' jc' jo' := by
  intro hd tl hcons x hx
  cases P with
  | nil =>
    rcases hall with e | e
    · rw [e] at hcons; cases hcons
    · rw [e] at hcons
      simp only [List.nil_append, List.cons.injEq] at hcons
      rw [← hcons.2]; trivial
  | cons p0 P' =>
    obtain ⟨t, ht⟩ := hP
    have hG : allOps G jc jo = p0 :: (P' ++ t) := by rw [← ht]; rfl
    have hhd : hd = p0 := by
      rcases hall with e | e
      · rw [e] at hcons
        exact (List.cons.inj hcons).1.symm
      · rw [e, List.cons_append] at hcons
        exact (List.cons.inj hcons).1.symm
    subst hhd
    have hok := hrun hd (P' ++ t) hG x hx
    have hokP := (RunOK_append.mp hok).1
    rcases hall with e | e
    · rw [e] at hcons
      simp only [List.cons.injEq, true_and] at hcons
      rw [← hcons]; exact hokP
    · rw [e] at hcons
      simp only [List.cons_append, List.cons.injEq, true_and] at hcons
      rw [← hcons]
      apply RunOK_append.mpr
      refine ⟨hokP, ?_⟩
      intro st' l' h1 _
      have : stRunO (hd :: P') {} = stRunO P' x := by
        simp only [stRunO, List.map_cons, stRun, hx, RState.apply]
      rw [this, h1] at hst
      injection hst with hst
      subst hst
      exact ⟨rfl, fun _ _ _ _ => trivial⟩

theorem RecovC5b.smallJ {s' : Store} {w' : Worker} {fs' : Fs} {jc' : List (Closed × List Record)}
    {jo' : List Record} (h : RecovC5b s' w' fs' jc' jo')
    (hsm : ∀ op ∈ allOps s' jc' jo', RecSmall op.r) : SmallJ s' fs' w' := by
  have hrec : ∀ r ∈ flatRecs jc' ++ jo', RecSmall r := by
    intro r hr
    rw [← allOps_map_r s'] at hr
    obtain ⟨op, hop, e⟩ := List.mem_map.mp hr
    rw [← e]; exact hsm op hop
  intro id hid
  obtain ⟨f, hf, hfid⟩ := List.mem_map.mp hid
  have hhas : fs'.has id = true := (Fs.has_iff h.nodup id).mpr ⟨f, hf, h.allLinked f hf, hfid⟩
  have hmem := h.has id hhas
  rw [Store.chunkIds_eq] at hmem
  rcases List.mem_append.mp hmem with k | k
  · obtain ⟨c, hc, e⟩ := List.mem_map.mp k
    obtain ⟨p, hp, e2⟩ := h.mem_closed hc
    obtain ⟨f', hf', F⟩ := h.closedFile p hp
    have hid' : p.1.id = id := by rw [e2]; exact e
    refine ⟨p.2, F.recs.1, fun r hr => hrec r (List.mem_append_left _ (mem_flatRecs_C5b.mpr ⟨_, hp, hr⟩)), ?_⟩
    rw [h.chunkBytes_eq, ← hid', fdata_of_find_C3 hf', F.data]
  · simp only [List.mem_singleton] at k
    subst k
    obtain ⟨f', hf', F⟩ := h.openChunkFile
    refine ⟨jo', F.recs.1, fun r hr => hrec r (List.mem_append_right _ hr), ?_⟩
    rw [h.chunkBytes_eq, fdata_of_find_C3 hf', F.data]

/-- Payload mirroring. For every prefix `P` of the journal of `G`: an index entry of the replay of `P` that
points to an `Append` record of `P` carries the payload the reference log holds for that id after the
corresponding prefix of the writes. -/
def JPayC5b (G : Store) (fs : Fs) (w : Worker) (W : List Op) : Prop :=
  ∀ jc jo N0, RepG G fs w jc jo → W.length = N0 + cntW (allOps G jc jo) →
    ∀ P, P <+: allOps G jc jo → ∀ r' l, RefLog.run {} (W.take (N0 + cntW P)) = some r' →
      idxRun P [] = some l → ∀ e ∈ l, ∀ p, opAt e p ∈ P → (e.2.id, p) ∈ r'.entries

theorem payG_recovered_C5b {s' : Store} {jc' : List (Closed × List Record)} {jo' : List Record}
    {P : List JOp} {r' : RefLog}
    (hpay : ∀ e ∈ s'.log, ∀ p, opAt e p ∈ P → (e.2.id, p) ∈ r'.entries)
    (hall : KeptC5b P (allOps s' jc' jo') s'.st s'.openId) :
    PayG s' r' jc' jo' := by
  intro e he p hop
  apply hpay e he p
  rcases hall with k | k
  · rw [k] at hop; exact hop
  · rw [k] at hop
    rcases List.mem_append.mp hop with k2 | k2
    · exact k2
    · simp only [List.mem_singleton, opAt, headOpC5b, JOp.mk.injEq] at k2
      cases k2.1

/-- The state and index map of `s'` are the replay of a prefix `P` of the journal of `G` that mirrors `r'`; its
own journal is `P`, possibly followed by the head of a fresh chunk. -/
theorem RecovC5b.rinv_of_prefix {G s' : Store} {fs fs' : Fs} {w w' : Worker} {r r' : RefLog}
    {jc jc' : List (Closed × List Record)} {jo jo' : List Record} {P : List JOp}
    (h : RecovC5b s' w' fs' jc' jo') (g : RepG G fs w jc jo) (hinv : RInv G fs w r) (hS : SmallJ G fs w)
    (hP : P <+: allOps G jc jo) (hst : stRunO P {} = some s'.st) (hidx : idxRun P [] = some s'.log)
    (hall : KeptC5b P (allOps s' jc' jo') s'.st s'.openId)
    (hwf : r'.WF) (h1 : s'.st = r'.state) (h2 : logKeys s'.log = entKeys r'.entries)
    (hpay : ∀ e ∈ s'.log, ∀ p, opAt e p ∈ P → (e.2.id, p) ∈ r'.entries) :
    RInv s' fs' w' r' ∧ SmallJ s' fs' w' := by
  obtain ⟨jc0, jo0, g0, _, gr0⟩ := hinv.rep
  obtain ⟨e1, e2⟩ := g.unique_C3b g0
  subst e1; subst e2
  have hsmG := g.ops_small_C5b hinv.j hS
  obtain ⟨w1, w2, w3, w4⟩ := prefix_good_C5b hP g.ops_wf_C5b hsmG hst hidx
  refine ⟨h.rinv w1 w2 h1 h2 hwf w3 w4 (payG_recovered_C5b hpay hall)
    (runG_recovered_C5b gr0 hP hst hall), h.smallJ ?_⟩
  intro op hop
  rcases hall with k | k
  · rw [k] at hop; exact hsmG op (hP.subset hop)
  · rw [k] at hop
    rcases List.mem_append.mp hop with k2 | k2
    · exact hsmG op (hP.subset k2)
    · simp only [List.mem_singleton] at k2
      subst k2
      exact ⟨trivial, fun x hx => by
        simp only [headOpC5b, Record.state.injEq] at hx; subst hx; exact w3⟩

/-- Payload mirroring for every ghost store of the system. -/
def GPayC5b (y : Sys) (W : List Op) : Prop :=
  ∀ s r A E K Bh gs, y.store = some s → GInvC3b s y.fs y.worker r W A E K Bh gs →
    JPayC5b (s.liftC3b (ghostClosedC3b gs)) y.fs y.worker W

/-- The system `Sys.open` builds from a successful `openStore`. -/
def recoveredSysC5b (cfg' : Cfg) (s' : Store) (w' : Worker) (fs' : Fs) : Sys :=
  { fs := fs', store := some s', worker := w', cfg := cfg', locked := true }

theorem open_eq_recovered_C5b {cfg' : Cfg} {img fs' : Fs} {s' : Store} {w' : Worker} {evs : List Ev}
    (h : openStore cfg' img = (.ok (s', w'), fs', evs)) :
    ({ fs := img, cfg := cfg' } : Sys).open = (.ok (), recoveredSysC5b cfg' s' w' fs', evs) := by
  rw [Sys.open_of_openStore rfl h]; rfl

end RaftLog
