/-
CRC-32 error-detection lemmas (helpers for property C09).

The bit step `crcBit` of the reflected CRC-32 register is a bijection of
`BitVec 32`: `crcPoly` has bit 31 set and `c >>> 1` has it clear, so bit 31 of
`crcBit c` records whether the polynomial was xored in; `uncrcBit` undoes the
step. Everything else (byte step, feeding a byte string, one-byte
substitution) follows by composing injective maps. The right inverse
(`crcBit_uncrcBit`) is what `crc_tableC9S` runs backwards from the final register.
-/
import RaftLogModel.Proofs.Codec
namespace RaftLog

def uncrcBit (d : BitVec 32) : BitVec 32 :=
  if d.getLsbD 31 then ((d ^^^ crcPoly) <<< 1) ||| 1#32 else d <<< 1

theorem crcPoly_getLsbD_31 : crcPoly.getLsbD 31 = true := by decide

theorem ushiftRight_one_getLsbD_31 (c : BitVec 32) : (c >>> 1).getLsbD 31 = false := by
  simp

theorem shr_shl_or_one (c : BitVec 32) (h : c.getLsbD 0 = true) :
    ((c >>> 1) <<< 1) ||| 1#32 = c := by
  apply BitVec.eq_of_getLsbD_eq
  intro i hi
  simp only [BitVec.getLsbD_or, BitVec.getLsbD_shiftLeft, BitVec.getLsbD_ushiftRight,
    BitVec.getLsbD_one]
  by_cases h0 : i = 0
  · subst h0; simp [h]
  · have : 1 + (i - 1) = i := by omega
    simp [h0, hi, this]

theorem shr_shl (c : BitVec 32) (h : c.getLsbD 0 = false) : (c >>> 1) <<< 1 = c := by
  apply BitVec.eq_of_getLsbD_eq
  intro i hi
  simp only [BitVec.getLsbD_shiftLeft, BitVec.getLsbD_ushiftRight]
  by_cases h0 : i = 0
  · subst h0; simp [-BitVec.getLsbD_eq_getElem, h]
  · have : 1 + (i - 1) = i := by omega
    simp [h0, hi, this]

theorem uncrcBit_crcBit (c : BitVec 32) : uncrcBit (crcBit c) = c := by
  unfold crcBit
  by_cases h : c.getLsbD 0 = true
  · rw [if_pos h]
    unfold uncrcBit
    have h31 : ((c >>> 1) ^^^ crcPoly).getLsbD 31 = true := by
      rw [BitVec.getLsbD_xor, ushiftRight_one_getLsbD_31, crcPoly_getLsbD_31]; rfl
    rw [if_pos h31, BitVec.xor_assoc, BitVec.xor_self, BitVec.xor_zero]
    exact shr_shl_or_one c h
  · have h' : c.getLsbD 0 = false := by simpa using h
    rw [if_neg h]
    unfold uncrcBit
    rw [ushiftRight_one_getLsbD_31]
    simp only [Bool.false_eq_true, if_false]
    exact shr_shl c h'

theorem crcBit_injective (a b : BitVec 32) (h : crcBit a = crcBit b) : a = b := by
  rw [← uncrcBit_crcBit a, ← uncrcBit_crcBit b, h]

theorem shl_shr (x : BitVec 32) (h : x.getLsbD 31 = false) : (x <<< 1) >>> 1 = x := by
  apply BitVec.eq_of_getLsbD_eq
  intro i hi
  simp only [BitVec.getLsbD_ushiftRight, BitVec.getLsbD_shiftLeft]
  by_cases hi31 : i = 31
  · subst hi31
    simp [-BitVec.getLsbD_eq_getElem, h]
  · have h1 : 1 + i < 32 := by omega
    have h2 : 1 + i - 1 = i := by omega
    have h3 : ¬ (1 + i < 1) := by omega
    simp [-BitVec.getLsbD_eq_getElem, h1, h2, h3]

theorem crcBit_uncrcBit (d : BitVec 32) : crcBit (uncrcBit d) = d := by
  unfold uncrcBit
  by_cases h : d.getLsbD 31 = true
  · have h0 : (((d ^^^ crcPoly) <<< 1) ||| 1#32).getLsbD 0 = true := by simp
    have h31 : (d ^^^ crcPoly).getLsbD 31 = false := by
      rw [BitVec.getLsbD_xor, h, crcPoly_getLsbD_31]; rfl
    rw [if_pos h, crcBit, if_pos h0, BitVec.ushiftRight_or_distrib, shl_shr _ h31,
      show (1#32 >>> 1) = 0#32 by decide, BitVec.or_zero, BitVec.xor_assoc, BitVec.xor_self,
      BitVec.xor_zero]
  · have h' : d.getLsbD 31 = false := by simpa using h
    have h0 : (d <<< 1).getLsbD 0 = false := by simp
    rw [if_neg h, crcBit, h0]
    exact shl_shr d h'

theorem crcBits_injective (n : Nat) (a b : BitVec 32) (h : crcBits n a = crcBits n b) :
    a = b := by
  induction n generalizing a b with
  | zero => exact h
  | succ n ih => exact crcBit_injective a b (ih _ _ h)

theorem xor_right_cancel (a b k : BitVec 32) (h : a ^^^ k = b ^^^ k) : a = b := by
  have := congrArg (· ^^^ k) h
  simpa [BitVec.xor_assoc] using this

theorem xor_left_cancel (c x y : BitVec 32) (h : c ^^^ x = c ^^^ y) : x = y := by
  have := congrArg (c ^^^ ·) h
  simpa [← BitVec.xor_assoc] using this

theorem byteToBV_injective (x y : UInt8)
    (h : BitVec.ofNat 32 x.toNat = BitVec.ofNat 32 y.toNat) : x = y := by
  have := congrArg BitVec.toNat h
  simp only [BitVec.toNat_ofNat] at this
  have hx := x.toNat_lt
  have hy := y.toNat_lt
  apply UInt8.toNat_inj.mp
  omega

theorem crcByte_injective_left {a b : BitVec 32} {x : UInt8}
    (h : crcByte a x = crcByte b x) : a = b :=
  xor_right_cancel _ _ _ (crcBits_injective 8 _ _ h)

theorem crcByte_injective_right {c : BitVec 32} {x y : UInt8}
    (h : crcByte c x = crcByte c y) : x = y :=
  byteToBV_injective x y (xor_left_cancel _ _ _ (crcBits_injective 8 _ _ h))

theorem crcFeed_append (c : BitVec 32) (xs ys : Bytes) :
    crcFeed c (xs ++ ys) = crcFeed (crcFeed c xs) ys := by
  simp [crcFeed, List.foldl_append]

theorem crcFeed_cons (c : BitVec 32) (x : UInt8) (xs : Bytes) :
    crcFeed c (x :: xs) = crcFeed (crcByte c x) xs := rfl

theorem crcFeed_injective_left (bs : Bytes) {a b : BitVec 32}
    (h : crcFeed a bs = crcFeed b bs) : a = b := by
  induction bs generalizing a b with
  | nil => exact h
  | cons x xs ih => exact crcByte_injective_left (ih h)

theorem crcFeed_single_byte (c : BitVec 32) (pre post : Bytes) {x y : UInt8} (hxy : x ≠ y) :
    crcFeed c (pre ++ x :: post) ≠ crcFeed c (pre ++ y :: post) := by
  intro h
  rw [crcFeed_append, crcFeed_append, crcFeed_cons, crcFeed_cons] at h
  exact hxy (crcByte_injective_right (crcFeed_injective_left post h))

theorem crc32_eq_iff (as bs : Bytes) :
    crc32 as = crc32 bs ↔ crcFeed 0xFFFFFFFF#32 as = crcFeed 0xFFFFFFFF#32 bs := by
  unfold crc32
  constructor
  · intro h
    exact xor_right_cancel _ _ _ (BitVec.eq_of_toNat_eq h)
  · intro h; rw [h]

theorem crc32_single_byte (pre post : Bytes) (x y : UInt8) (hxy : x ≠ y) :
    crc32 (pre ++ x :: post) ≠ crc32 (pre ++ y :: post) := by
  intro h
  exact crcFeed_single_byte _ pre post hxy ((crc32_eq_iff _ _).1 h)

theorem natToBE_injective (w : Nat) {m n : Nat} (hm : m < 256 ^ w) (hn : n < 256 ^ w)
    (h : natToBE w m = natToBE w n) : m = n := by
  have := congrArg beToNat h
  rwa [beToNat_natToBE, beToNat_natToBE, Nat.mod_eq_of_lt hm, Nat.mod_eq_of_lt hn] at this

theorem encRecord_eq_split {r' : Record} {tb sum : Bytes} (hs : sum.length = 8)
    (h : encRecord r' = tb ++ sum) : encTB r' = tb ∧ sum = natToBE 8 (crc32 tb) := by
  rw [encRecord_eq] at h
  obtain ⟨h1, h2⟩ := List.append_inj' h (by rw [natToBE_length, hs])
  subst h1
  exact ⟨rfl, h2.symm⟩

end RaftLog
