/-
Order facts about log ids (`(term, index)` lexicographic) and `Option` of them.
Everything reduces to linear arithmetic over the two components.
-/
import RaftLogModel.Model.State
namespace RaftLog

theorem LogId.lt_iff (a b : LogId) :
    a.lt b = true ↔ a.term < b.term ∨ (a.term = b.term ∧ a.index < b.index) := by
  simp [LogId.lt]

theorem LogId.le_iff (a b : LogId) :
    a.le b = true ↔ a.term < b.term ∨ (a.term = b.term ∧ a.index ≤ b.index) := by
  simp [LogId.le]

theorem LogId.ext_iff' (a b : LogId) : a = b ↔ a.term = b.term ∧ a.index = b.index := by
  cases a; cases b; simp

theorem LogId.lt_irrefl (a : LogId) : a.lt a = false := by
  simp [LogId.lt]

theorem LogId.le_refl (a : LogId) : a.le a = true := by
  simp [LogId.le]

theorem LogId.lt_trans {a b c : LogId} (h1 : a.lt b = true) (h2 : b.lt c = true) : a.lt c = true := by
  rw [LogId.lt_iff] at h1 h2 ⊢
  omega

theorem LogId.le_trans {a b c : LogId} (h1 : a.le b = true) (h2 : b.le c = true) : a.le c = true := by
  rw [LogId.le_iff] at h1 h2 ⊢
  omega

theorem LogId.lt_of_lt_of_le {a b c : LogId} (h1 : a.lt b = true) (h2 : b.le c = true) : a.lt c = true := by
  rw [LogId.lt_iff] at h1 ⊢
  rw [LogId.le_iff] at h2
  omega

theorem LogId.lt_of_le_of_lt {a b c : LogId} (h1 : a.le b = true) (h2 : b.lt c = true) : a.lt c = true := by
  rw [LogId.lt_iff] at h2 ⊢
  rw [LogId.le_iff] at h1
  omega

theorem LogId.le_of_lt {a b : LogId} (h : a.lt b = true) : a.le b = true := by
  rw [LogId.lt_iff] at h
  rw [LogId.le_iff]
  omega

theorem LogId.not_le_iff_lt (a b : LogId) : a.le b = false ↔ b.lt a = true := by
  rw [← Bool.not_eq_true, LogId.le_iff, LogId.lt_iff]
  omega

theorem LogId.not_lt_iff_le (a b : LogId) : a.lt b = false ↔ b.le a = true := by
  rw [← Bool.not_eq_true, LogId.le_iff, LogId.lt_iff]
  omega

theorem LogId.le_antisymm {a b : LogId} (h1 : a.le b = true) (h2 : b.le a = true) : a = b := by
  rw [LogId.le_iff] at h1 h2
  rw [LogId.ext_iff']
  omega

theorem LogId.lt_ne {a b : LogId} (h : a.lt b = true) : a ≠ b := by
  intro e
  subst e
  simp [LogId.lt_irrefl] at h

theorem LogId.le_iff_lt_or_eq (a b : LogId) : a.le b = true ↔ a.lt b = true ∨ a = b := by
  rw [LogId.le_iff, LogId.lt_iff, LogId.ext_iff']; omega

@[simp] theorem optLe_none (o : Option LogId) : optLe none o = true := by
  cases o <;> rfl
@[simp] theorem optLe_some_none (a : LogId) : optLe (some a) none = false := rfl
@[simp] theorem optLe_some_some (a b : LogId) : optLe (some a) (some b) = a.le b := rfl
@[simp] theorem optLt_none_none : optLt none none = false := rfl
@[simp] theorem optLt_none_some (a : LogId) : optLt none (some a) = true := rfl
@[simp] theorem optLt_some_none (a : LogId) : optLt (some a) none = false := rfl
@[simp] theorem optLt_some_some (a b : LogId) : optLt (some a) (some b) = a.lt b := rfl

theorem optLe_refl (o : Option LogId) : optLe o o = true := by
  cases o <;> simp [LogId.le_refl]

theorem optLe_trans {a b c : Option LogId} (h1 : optLe a b = true) (h2 : optLe b c = true) :
    optLe a c = true := by
  cases a with
  | none => exact optLe_none c
  | some x =>
    cases b with
    | none => cases h1
    | some y =>
      cases c with
      | none => cases h2
      | some z => exact LogId.le_trans h1 h2

theorem optLe_false_of_le {a b c : Option LogId} (h : optLe b c = true) (hac : optLe a c = false) :
    optLe a b = false := by
  cases hle : optLe a b with
  | false => rfl
  | true => rw [optLe_trans hle h] at hac; cases hac

theorem optLt_iff_not_le (a b : Option LogId) : optLt a b = true ↔ optLe b a = false := by
  cases a <;> cases b <;> simp [LogId.not_le_iff_lt]

theorem optLe_iff_not_lt (a b : Option LogId) : optLe a b = true ↔ optLt b a = false := by
  cases a <;> cases b <;> simp [LogId.not_lt_iff_le]

theorem optLe_of_lt {a b : Option LogId} (h : optLt a b = true) : optLe a b = true := by
  cases a with
  | none => exact optLe_none b
  | some x =>
    cases b with
    | none => cases h
    | some y => exact LogId.le_of_lt h

theorem optLe_total (a b : Option LogId) : optLe a b = true ∨ optLe b a = true := by
  by_cases h : optLe a b = true
  · exact .inl h
  · right
    have : optLe a b = false := by simpa using h
    exact optLe_of_lt ((optLt_iff_not_le _ _).2 this)

theorem optLt_of_le_of_lt {a b c : Option LogId} (h1 : optLe a b = true) (h2 : optLt b c = true) :
    optLt a c = true := by
  cases c with
  | none => cases b <;> cases h2
  | some z =>
    cases a with
    | none => rfl
    | some x =>
      cases b with
      | none => cases h1
      | some y => exact LogId.lt_of_le_of_lt h1 h2

theorem optLe_of_not_lt {a b : Option LogId} (h : optLt a b = false) : optLe b a = true := by
  rw [optLe_iff_not_lt]; exact h

theorem optLt_irrefl (a : Option LogId) : optLt a a = false := by
  cases a <;> simp [LogId.lt_irrefl]

theorem optLt_trans {a b c : Option LogId} (h1 : optLt a b = true) (h2 : optLt b c = true) :
    optLt a c = true := by
  cases c with
  | none => cases b <;> cases h2
  | some z =>
    cases a with
    | none => rfl
    | some x =>
      cases b with
      | none => cases h1
      | some y => exact LogId.lt_trans h1 h2

theorem optLt_ne {a b : Option LogId} (h : optLt a b = true) : b ≠ a := by
  intro e
  subst e
  rw [optLt_irrefl] at h
  cases h

end RaftLog
