/-
The payload cache by itself: `Cache.OK` (the byte counter is the sum of the resident payload sizes, keys
strictly increasing) is kept by every operation, and trimming drops a prefix at or below the boundary. The
evict, drain, purge and truncate loops are instances of one loop, `dropLoop`.
-/
import RaftLogModel.Proofs.Order
import RaftLogModel.Model.Cache
namespace RaftLog

abbrev Items := List (LogId × Bytes)

def sumLen : Items → Nat
  | [] => 0
  | e :: rest => e.2.length + sumLen rest

theorem sumLen_append (a b : Items) : sumLen (a ++ b) = sumLen a + sumLen b := by
  induction a with
  | nil => simp [sumLen]
  | cons e rest ih => simp [sumLen, ih]; omega

theorem sumLen_reverse (a : Items) : sumLen a.reverse = sumLen a := by
  induction a with
  | nil => rfl
  | cons e rest ih => simp [sumLen_append, sumLen, ih]; omega

def Sorted (l : Items) : Prop := l.Pairwise (fun a b => a.1.lt b.1 = true)

structure Cache.OK (c : Cache) : Prop where
  size_eq : c.size = sumLen c.items
  sorted : Sorted c.items

def KeysLe (l : Items) (o : Option LogId) : Prop := ∀ e ∈ l, optLe (some e.1) o = true

def KeysGt (l : Items) (o : Option LogId) : Prop := ∀ e ∈ l, optLe (some e.1) o = false

/-- Drop leading entries while the test (on the counter, the entries behind and the entry) holds,
subtracting their payload sizes from the counter. -/
def dropLoop (p : Nat → Items → LogId × Bytes → Bool) : Nat → Items → Nat × Items
  | size, [] => (size, [])
  | size, e :: rest => if p size rest e then dropLoop p (size - e.2.length) rest else (size, e :: rest)

theorem evictLoop_eq (mx cap : Nat) (le : Option LogId) (size : Nat) (l : Items) :
    evictLoop mx cap le size l = dropLoop (fun size rest e =>
      (decide (rest.length + 1 > mx) || decide (size > cap)) && optLe (some e.1) le) size l := by
  induction l generalizing size <;> simp [evictLoop, dropLoop, *]

theorem drainLoop_eq (le : Option LogId) (size : Nat) (l : Items) :
    drainLoop le size l = dropLoop (fun _ _ e => optLe (some e.1) le) size l := by
  induction l generalizing size <;> simp [drainLoop, dropLoop, *]

theorem purgeLoop_eq (key : LogId) (le : Option LogId) (size : Nat) (l : Items) :
    purgeLoop key le size l = dropLoop (fun _ _ e => e.1.le key && optLe (some e.1) le) size l := by
  induction l generalizing size <;> simp [purgeLoop, dropLoop, *]

theorem truncLoop_eq (key : LogId) (size : Nat) (l : Items) :
    truncLoop key size l = dropLoop (fun _ _ e => key.lt e.1) size l := by
  induction l generalizing size <;> simp [truncLoop, dropLoop, *]

theorem dropLoop_spec (p : Nat → Items → LogId × Bytes → Bool) (size : Nat) (l : Items)
    (h : size = sumLen l) :
    ∃ pre, l = pre ++ (dropLoop p size l).2 ∧ (dropLoop p size l).1 = sumLen (dropLoop p size l).2 ∧
      ∀ e ∈ pre, ∃ sz rest, p sz rest e = true := by
  induction l generalizing size with
  | nil => exact ⟨[], rfl, h, nofun⟩
  | cons e rest ih =>
    unfold dropLoop
    split
    · rename_i hp
      obtain ⟨pre, h1, h2, h3⟩ := ih (size - e.2.length) (by simp only [sumLen] at h; omega)
      refine ⟨e :: pre, by rw [List.cons_append, ← h1], h2, fun x hx => ?_⟩
      rcases List.mem_cons.mp hx with rfl | hx
      · exact ⟨_, _, hp⟩
      · exact h3 x hx
    · exact ⟨[], rfl, h, nofun⟩

theorem dropLoop_head (p : Nat → Items → LogId × Bytes → Bool) (size : Nat) (l : Items) :
    ∀ e, (dropLoop p size l).2.head? = some e →
      p (dropLoop p size l).1 (dropLoop p size l).2.tail e = false := by
  induction l generalizing size with
  | nil => exact nofun
  | cons e rest ih =>
    unfold dropLoop
    split
    · exact ih _
    · rename_i hp
      exact fun x hx => by cases hx; simpa using hp

theorem dropLoop_fst_le (p : Nat → Items → LogId × Bytes → Bool) (size : Nat) (l : Items) :
    (dropLoop p size l).1 ≤ size := by
  induction l generalizing size with
  | nil => exact Nat.le_refl _
  | cons e rest ih =>
    unfold dropLoop
    split
    · exact Nat.le_trans (ih _) (Nat.sub_le _ _)
    · exact Nat.le_refl _

theorem dropLoop_snd (q : LogId × Bytes → Bool) (size : Nat) (l : Items) :
    (dropLoop (fun _ _ e => q e) size l).2 = l.dropWhile q := by
  induction l generalizing size with
  | nil => rfl
  | cons e rest ih => cases h : q e <;> simp [dropLoop, h, ih]

theorem evictLoop_spec (mx cap : Nat) (le : Option LogId) (size : Nat) (l : Items)
    (h : size = sumLen l) :
    ∃ pre, l = pre ++ (evictLoop mx cap le size l).2 ∧
      (evictLoop mx cap le size l).1 = sumLen (evictLoop mx cap le size l).2 ∧
      KeysLe pre le := by
  rw [evictLoop_eq]
  obtain ⟨pre, h1, h2, h3⟩ := dropLoop_spec _ size l h
  refine ⟨pre, h1, h2, fun e he => ?_⟩
  obtain ⟨_, _, hp⟩ := h3 e he
  exact (Bool.and_eq_true _ _ ▸ hp).2

theorem drainLoop_spec (le : Option LogId) (size : Nat) (l : Items) (h : size = sumLen l) :
    ∃ pre, l = pre ++ (drainLoop le size l).2 ∧
      (drainLoop le size l).1 = sumLen (drainLoop le size l).2 ∧
      KeysLe pre le ∧
      (∀ e, (drainLoop le size l).2.head? = some e → optLe (some e.1) le = false) := by
  rw [drainLoop_eq]
  obtain ⟨pre, h1, h2, h3⟩ := dropLoop_spec _ size l h
  exact ⟨pre, h1, h2, fun e he => (h3 e he).elim fun _ h => h.elim fun _ h => h, dropLoop_head _ size l⟩

theorem purgeLoop_spec (key : LogId) (le : Option LogId) (size : Nat) (l : Items)
    (h : size = sumLen l) :
    ∃ pre, l = pre ++ (purgeLoop key le size l).2 ∧
      (purgeLoop key le size l).1 = sumLen (purgeLoop key le size l).2 ∧ KeysLe pre le := by
  rw [purgeLoop_eq]
  obtain ⟨pre, h1, h2, h3⟩ := dropLoop_spec _ size l h
  exact ⟨pre, h1, h2, fun e he => (h3 e he).elim fun _ h => h.elim fun _ h => (Bool.and_eq_true _ _ ▸ h).2⟩

theorem truncLoop_spec (key : LogId) (size : Nat) (l : Items) (h : size = sumLen l) :
    ∃ pre, l = pre ++ (truncLoop key size l).2 ∧
      (truncLoop key size l).1 = sumLen (truncLoop key size l).2 ∧
      (∀ e, (truncLoop key size l).2.head? = some e → key.lt e.1 = false) := by
  rw [truncLoop_eq]
  obtain ⟨pre, h1, h2, _⟩ := dropLoop_spec _ size l h
  exact ⟨pre, h1, h2, dropLoop_head _ size l⟩

theorem Sorted.of_append_right {a b : Items} (h : Sorted (a ++ b)) : Sorted b :=
  (List.pairwise_append.mp h).2.1

theorem Sorted.of_append_left {a b : Items} (h : Sorted (a ++ b)) : Sorted a :=
  (List.pairwise_append.mp h).1

theorem Cache.OK.of_suffix {c c' : Cache} (h : c.OK) {pre : Items} (h1 : c.items = pre ++ c'.items)
    (h2 : c'.size = sumLen c'.items) : c'.OK :=
  ⟨h2, (h1 ▸ h.sorted : Sorted (pre ++ c'.items)).of_append_right⟩

theorem Cache.tryEvict_ok {c : Cache} (h : c.OK) : c.tryEvict.OK := by
  obtain ⟨pre, h1, h2, _⟩ := evictLoop_spec c.maxItems c.capacity c.lastEvictable c.size c.items h.size_eq
  exact h.of_suffix h1 h2

theorem Cache.drainEvictable_ok {c : Cache} (h : c.OK) : c.drainEvictable.OK := by
  obtain ⟨pre, h1, h2, _⟩ := drainLoop_spec c.lastEvictable c.size c.items h.size_eq
  exact h.of_suffix h1 h2

theorem Cache.purgeUpto_ok {c : Cache} (key : LogId) (h : c.OK) : (c.purgeUpto key).OK := by
  obtain ⟨pre, h1, h2, _⟩ := purgeLoop_spec key c.lastEvictable c.size c.items h.size_eq
  exact h.of_suffix h1 h2

theorem Cache.clear_ok (c : Cache) : c.clear.OK :=
  ⟨rfl, List.Pairwise.nil⟩

theorem Cache.setLastEvictable_ok {c : Cache} (o : Option LogId) (h : c.OK) :
    (c.setLastEvictable o).OK := ⟨h.size_eq, h.sorted⟩

/-- `truncateAfter` runs `truncLoop` over the reversed list, so it drops a suffix. -/
theorem Cache.truncateAfter_spec {c : Cache} (key : LogId) (h : c.OK) :
    ∃ post, c.items = (c.truncateAfter key).items ++ post ∧
      (c.truncateAfter key).size = sumLen (c.truncateAfter key).items ∧
      ∀ e, (c.truncateAfter key).items.getLast? = some e → key.lt e.1 = false := by
  obtain ⟨pre, h1, h2, h3⟩ := truncLoop_spec key c.size c.items.reverse
    (by rw [sumLen_reverse]; exact h.size_eq)
  refine ⟨pre.reverse, by simpa [Cache.truncateAfter] using congrArg List.reverse h1, ?_, fun e he => h3 e ?_⟩
  · simpa only [Cache.truncateAfter, sumLen_reverse] using h2
  · simpa only [Cache.truncateAfter, List.getLast?_reverse] using he

theorem Cache.truncateAfter_ok {c : Cache} (key : LogId) (h : c.OK) : (c.truncateAfter key).OK := by
  obtain ⟨post, h1, h2, _⟩ := Cache.truncateAfter_spec key h
  exact ⟨h2, (h1 ▸ h.sorted : Sorted (_ ++ post)).of_append_left⟩

theorem insertSorted_of_all_lt (k : LogId) (v : Bytes) (l : Items)
    (h : ∀ e ∈ l, e.1.lt k = true) : insertSorted k v l = l ++ [(k, v)] := by
  induction l with
  | nil => rfl
  | cons e rest ih =>
    obtain ⟨k', v'⟩ := e
    have hk : k'.lt k = true := h (k', v') (List.mem_cons_self)
    have h1 : k.lt k' = false := by
      rw [LogId.not_lt_iff_le]; exact LogId.le_of_lt hk
    have h2 : k ≠ k' := (LogId.lt_ne hk).symm
    simp only [insertSorted, h1, h2, Bool.false_eq_true, if_false, List.cons_append]
    rw [ih (fun e he => h e (List.mem_cons_of_mem _ he))]

/-- `insert` before its `tryEvict`. -/
theorem Cache.put_ok {c : Cache} (k : LogId) (v : Bytes) (h : c.OK)
    (hk : ∀ e ∈ c.items, e.1.lt k = true) :
    ({ c with items := insertSorted k v c.items, size := c.size + v.length } : Cache).OK := by
  refine ⟨?_, ?_⟩
  · simp only [insertSorted_of_all_lt k v c.items hk, sumLen_append, sumLen]
    have := h.size_eq
    omega
  · simp only [insertSorted_of_all_lt k v c.items hk]
    exact List.pairwise_append.mpr ⟨h.sorted, List.pairwise_singleton _ _,
      fun a ha b hb => by rw [List.mem_singleton.mp hb]; exact hk a ha⟩

theorem Cache.insert_ok {c : Cache} (k : LogId) (v : Bytes) (h : c.OK)
    (hk : ∀ e ∈ c.items, e.1.lt k = true) : (c.insert k v).OK :=
  Cache.tryEvict_ok (Cache.put_ok k v h hk)

theorem evictLoop_exit (mx cap : Nat) (le : Option LogId) (size : Nat) (l : Items) :
    ((evictLoop mx cap le size l).2.length > mx ∨ (evictLoop mx cap le size l).1 > cap) →
    ∀ e, (evictLoop mx cap le size l).2.head? = some e → optLe (some e.1) le = false := by
  rw [evictLoop_eq]
  intro hover e he
  have := dropLoop_head _ size l e he
  generalize dropLoop _ size l = r at hover he this
  obtain ⟨n, _ | ⟨x, xs⟩⟩ := r
  · cases he
  · cases he
    simp only [List.tail_cons, List.length_cons, Bool.and_eq_false_iff, Bool.or_eq_false_iff,
      decide_eq_false_iff_not] at this hover
    rcases this with ⟨h1, h2⟩ | h
    · have := of_decide_eq_false h1; omega
    · exact h

theorem keysGt_of_head (l : Items) (o : Option LogId) (hs : Sorted l)
    (hh : ∀ e, l.head? = some e → optLe (some e.1) o = false) : KeysGt l o := by
  cases l with
  | nil => intro e he; cases he
  | cons x xs =>
    intro e he
    have hx := hh x rfl
    cases he with
    | head => exact hx
    | tail _ he' =>
      have hlt : x.1.lt e.1 = true := (List.pairwise_cons.mp hs).1 e he'
      cases o with
      | none => rfl
      | some b =>
        simp only [optLe_some_some] at hx ⊢
        rw [LogId.not_le_iff_lt] at hx ⊢
        exact LogId.lt_trans hx hlt

theorem Cache.tryEvict_over_limit {c : Cache} (h : c.OK)
    (hover : c.tryEvict.items.length > c.maxItems ∨ c.tryEvict.size > c.capacity) :
    KeysGt c.tryEvict.items c.lastEvictable := by
  apply keysGt_of_head _ _ (Cache.tryEvict_ok h).sorted
  exact evictLoop_exit c.maxItems c.capacity c.lastEvictable c.size c.items hover

theorem Cache.insert_over_limit (c : Cache) (k : LogId) (v : Bytes) (h : c.OK)
    (hk : ∀ e ∈ c.items, e.1.lt k = true)
    (hover : (c.insert k v).items.length > c.maxItems ∨ (c.insert k v).size > c.capacity) :
    KeysGt (c.insert k v).items c.lastEvictable :=
  Cache.tryEvict_over_limit (Cache.put_ok k v h hk) hover

theorem Cache.drainEvictable_keysGt {c : Cache} (h : c.OK) :
    KeysGt c.drainEvictable.items c.lastEvictable := by
  apply keysGt_of_head _ _ (Cache.drainEvictable_ok h).sorted
  obtain ⟨_, _, _, _, h4⟩ := drainLoop_spec c.lastEvictable c.size c.items h.size_eq
  exact h4

end RaftLog
